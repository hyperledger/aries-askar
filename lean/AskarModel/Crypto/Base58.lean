/-
Base58 (Bitcoin alphabet) — executable SPECIFICATION: a byte string is read as a big-endian number and written
in base 58 with the alphabet below; every leading zero BYTE is written as one leading '1' (the digit zero).
Decoding inverts this: leading '1's become zero bytes, the remainder is the minimal big-endian byte string of
the number.  Validated in `selfTest` against the published vectors of the scheme (THESE ARE TESTS); the round
trip `decode (encode b) = some b` is proved for every byte string in Lemmas/Base58.lean.
-/
import AskarModel.Base.Bytes

namespace Askar.Crypto.Base58
open Askar

def alphabet : List Char := "123456789ABCDEFGHJKLMNPQRSTUVWXYZabcdefghijkmnopqrstuvwxyz".toList

/-- little-endian digits of `n` in base `b` without most-significant zeros (`[]` for 0); any `fuel ≥ n` suffices -/
def toLE (b : Nat) : Nat → Nat → List Nat
  | 0, _ => []
  | fuel + 1, n => if n = 0 then [] else n % b :: toLE b fuel (n / b)

def ofLE (b : Nat) : List Nat → Nat
  | [] => 0
  | d :: ds => d + b * ofLE b ds

/-- most-significant-first digits -/
def digits (b n : Nat) : List Nat := (toLE b n n).reverse
def ofDigits (b : Nat) (ds : List Nat) : Nat := ofLE b ds.reverse

def digitChar (d : Nat) : Char := alphabet.getD d '1'

def charVal (c : Char) : Option Nat :=
  let i := alphabet.idxOf c
  if i < 58 then some i else none

def encode (b : Bytes) : List Char :=
  List.replicate (b.takeWhile (· = 0)).length '1' ++ (digits 58 (ofDigits 256 (b.map UInt8.toNat))).map digitChar

def decodeDigits (ds : List Nat) : Bytes :=
  List.replicate (ds.takeWhile (· = 0)).length 0 ++ (digits 256 (ofDigits 58 ds)).map UInt8.ofNat

def decode (s : List Char) : Option Bytes := (s.mapM charVal).map decodeDigits

def encodeStr (b : Bytes) : String := String.ofList (encode b)
def decodeStr (s : String) : Option Bytes := decode s.toList

/-- TEST: vectors of the Bitcoin base58 test suite (base58_encode_decode.json) -/
def selfTest : Bool :=
  let x (s : String) : Bytes := (Bytes.ofHex s).getD []
  encodeStr [] == "" &&
  encodeStr (x "61") == "2g" &&
  encodeStr (x "626262") == "a3gV" &&
  encodeStr (x "636363") == "aPEr" &&
  encodeStr (x "73696d706c792061206c6f6e6720737472696e67") == "2cFupjhnEsSn59qHXstmK2ffpLv2" &&
  encodeStr (x "00eb15231dfceb60925886b67d065299925915aeb172c06647") == "1NS17iag9jJgTHD1VXjvLCEnZuQ3rJDE9L" &&
  encodeStr (x "516b6fcd0f") == "ABnLTmg" &&
  encodeStr (x "bf4f89001e670274dd") == "3SEo3LWLoPntC" &&
  encodeStr (x "572e4794") == "3EFU7m" &&
  encodeStr (x "ecac89cad93923c02321") == "EJDM8drfXA6uyA" &&
  encodeStr (x "10c8511e") == "Rt5zm" &&
  encodeStr (x "00000000000000000000") == "1111111111" &&
  decodeStr "1NS17iag9jJgTHD1VXjvLCEnZuQ3rJDE9L" == some (x "00eb15231dfceb60925886b67d065299925915aeb172c06647") &&
  decodeStr "1111111111" == some (x "00000000000000000000") &&
  decodeStr "" == some [] &&
  decodeStr "0" == none && decodeStr "O" == none && decodeStr "I" == none && decodeStr "l" == none &&
  decodeStr "2g " == none

end Askar.Crypto.Base58
