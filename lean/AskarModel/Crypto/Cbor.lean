/-
CBOR (RFC 8949) — executable SPECIFICATION of the subset the storage scheme needs, written from the RFC:
definite-length maps (major type 5) whose keys are text strings (major 3) and whose values are byte strings
(major 2) or text strings (major 3).  The encoder emits the preferred serialization of §4.2.1 (shortest
argument); the decoder is total (structural recursion on the announced pair count, every length is checked
against the remaining input before it is used), accepts every definite argument width (§3: additional
information 0–27), and rejects indefinite lengths (31), the reserved values 28–30 and every other major type.
Text payloads are kept as UTF-8 BYTES (the profile-key record only compares them with ASCII constants).

Theorems (Lemmas/Cbor.lean): `decHead_head`, `decodeMap_encodeMap` (round trip for every map whose
lengths fit 64 bits), `decodeMap_lt` (a successful decode consumed at least one byte — never reads past the end).
-/
import AskarModel.Base.Bytes

namespace Askar.Crypto.Cbor
open Askar

/-- big-endian, exactly `k` bytes (the low `8k` bits of `n`) -/
def beBytes : Nat → Nat → Bytes
  | 0, _ => []
  | k + 1, n => UInt8.ofNat (n / 256 ^ k % 256) :: beBytes k n

def beNat : Bytes → Nat
  | [] => 0
  | b :: bs => b.toNat * 256 ^ bs.length + beNat bs

/-- §3: initial byte `major·32 + ai`, followed by the argument; §4.2.1: shortest form -/
def head (major n : Nat) : Bytes :=
  if n < 24 then [UInt8.ofNat (major * 32 + n)]
  else if n < 256 then UInt8.ofNat (major * 32 + 24) :: beBytes 1 n
  else if n < 65536 then UInt8.ofNat (major * 32 + 25) :: beBytes 2 n
  else if n < 4294967296 then UInt8.ofNat (major * 32 + 26) :: beBytes 4 n
  else UInt8.ofNat (major * 32 + 27) :: beBytes 8 n

/-- leaf values -/
inductive Val where
  | bytes (b : Bytes)
  | text (utf8 : Bytes)
  deriving DecidableEq, Repr

/-- a map with text keys (UTF-8 bytes), in encounter order -/
abbrev Map := List (Bytes × Val)

def encodeVal : Val → Bytes
  | .bytes b => head 2 b.length ++ b
  | .text t => head 3 t.length ++ t

def encodePairs : Map → Bytes
  | [] => []
  | (k, v) :: rest => (head 3 k.length ++ k) ++ (encodeVal v ++ encodePairs rest)

def encodeMap (m : Map) : Bytes := head 5 m.length ++ encodePairs m

/-- width of the argument that follows the initial byte, for additional information 24–27 -/
def argLen (ai : Nat) : Option Nat :=
  if ai = 24 then some 1 else if ai = 25 then some 2 else if ai = 26 then some 4 else if ai = 27 then some 8 else none

/-- (major type, argument, remaining input) -/
def decHead : Bytes → Option (Nat × Nat × Bytes)
  | [] => none
  | b :: rest =>
    if b.toNat % 32 < 24 then some (b.toNat / 32, b.toNat % 32, rest)
    else match argLen (b.toNat % 32) with
      | none => none
      | some k => if rest.length < k then none else some (b.toNat / 32, beNat (rest.take k), rest.drop k)

def decPayload (n : Nat) (rest : Bytes) : Option (Bytes × Bytes) :=
  if rest.length < n then none else some (rest.take n, rest.drop n)

def decKey (b : Bytes) : Option (Bytes × Bytes) :=
  match decHead b with
  | some (major, n, rest) => if major = 3 then decPayload n rest else none
  | none => none

def decVal (b : Bytes) : Option (Val × Bytes) :=
  match decHead b with
  | some (major, n, rest) =>
    if major = 2 then (decPayload n rest).map fun p => (Val.bytes p.1, p.2)
    else if major = 3 then (decPayload n rest).map fun p => (Val.text p.1, p.2)
    else none
  | none => none

def decPairs : Nat → Bytes → Option (Map × Bytes)
  | 0, b => some ([], b)
  | n + 1, b =>
    match decKey b with
    | none => none
    | some (k, r1) =>
      match decVal r1 with
      | none => none
      | some (v, r2) =>
        match decPairs n r2 with
        | none => none
        | some (m, r3) => some ((k, v) :: m, r3)

/-- one map item from the front of the input -/
def decodeMap (b : Bytes) : Option (Map × Bytes) :=
  match decHead b with
  | some (major, n, rest) => if major = 5 then decPairs n rest else none
  | none => none

/-- a complete document: trailing bytes are an error (as `serde_cbor::from_slice`) -/
def decode (b : Bytes) : Option Map :=
  match decodeMap b with
  | some (m, []) => some m
  | _ => none

def lookup (m : Map) (k : Bytes) : Option Val := (m.find? fun e => e.1 = k).map (·.2)

/-- every length of the map is encodable (fits the 8-byte argument) -/
def Val.Fits : Val → Prop
  | .bytes b => b.length < 2 ^ 64
  | .text t => t.length < 2 ^ 64

def Fits (m : Map) : Prop := m.length < 2 ^ 64 ∧ ∀ e ∈ m, e.1.length < 2 ^ 64 ∧ e.2.Fits

/-- TEST: RFC 8949 Appendix A examples `{"a": "A", …}` shape, byte strings, widths -/
def selfTest : Bool :=
  let t (s : String) : Bytes := s.toUTF8.toList
  encodeMap [] == [0xa0] &&
  -- Appendix A: {"a": "A", "b": "B", "c": "C", "d": "D", "e": "E"} = a5 6161 6141 6162 6142 …
  Bytes.toHex (encodeMap [(t "a", .text (t "A")), (t "b", .text (t "B")), (t "c", .text (t "C")), (t "d", .text (t "D")), (t "e", .text (t "E"))])
    == "a56161614161626142616361436164614461656145" &&
  -- Appendix A: h'01020304' = 4401020304 ; "IETF" = 6449455446
  Bytes.toHex (encodeVal (.bytes [1, 2, 3, 4])) == "4401020304" &&
  Bytes.toHex (encodeVal (.text (t "IETF"))) == "6449455446" &&
  head 0 23 == [0x17] && head 0 24 == [0x18, 0x18] && head 0 1000 == [0x19, 0x03, 0xe8] &&
  head 0 1000000 == [0x1a, 0x00, 0x0f, 0x42, 0x40] &&
  Bytes.toHex (head 0 1000000000000) == "1b000000e8d4a51000" &&
  decode (encodeMap [(t "k", .bytes (List.replicate 300 7))]) == some [(t "k", .bytes (List.replicate 300 7))] &&
  decode [0xbf, 0xff] == none &&            -- indefinite-length map
  decode [0xa1, 0x61, 0x61] == none &&      -- truncated
  decode [0xa0, 0x00] == none &&            -- trailing byte
  decode [0xa1, 0x01, 0x02] == none         -- integer key

end Askar.Crypto.Cbor
