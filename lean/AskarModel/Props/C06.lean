/-
C06 — mutating calls are all-or-nothing under statement failure and crash; successes are durable.
ONLY property theorems and non-vacuity examples; helper lemmas in Lemmas/Fault.lean.
Model: Model/Fault.lean (`stepF`: each mutating call as its SQL statements inside one transaction,
with the failing statement as a parameter).
-/
import AskarModel.Model.Fault
import AskarModel.Lemmas.Fault

namespace Askar.Store

/-- Without a fault the statement-level model is exactly the one-shot semantics of C01. -/
theorem no_fault_complete (like : Bytes → Bytes → Bool) (page : Nat) (now : Int) (s : Sess) (db : Db) (op : Op) :
    stepF like page now none s db op = step like page now s db op :=
  Lemmas.no_fault_complete like page now s db op

/-- A call that reports an error — whichever statement failed, for any number of tags and rows —
    leaves the database exactly as it was. -/
theorem stmt_fault_atomic (like : Bytes → Bytes → Bool) (page : Nat) (now : Int) (f : Option FaultAt) (s : Sess) (db : Db) (op : Op)
    (h : (stepF like page now f s db op).2.isErr = true) : (stepF like page now f s db op).1 = db :=
  Lemmas.stmt_fault_atomic like page now f s db op h

/-- All-or-nothing: under any fault the call either has exactly its complete effect and result, or
    fails with no effect. -/
theorem all_or_nothing (like : Bytes → Bytes → Bool) (page : Nat) (now : Int) (f : Option FaultAt) (s : Sess) (db : Db) (op : Op) :
    stepF like page now f s db op = step like page now s db op ∨
    ((stepF like page now f s db op).1 = db ∧ (stepF like page now f s db op).2.isErr = true) :=
  Lemmas.all_or_nothing like page now f s db op

/-- The k-th tag insert failing makes an insert with more than k tags fail (so the campaign's
    fault points are really reached), and one with at most k tags is unaffected. -/
theorem tag_fault_reached (like : Bytes → Bytes → Bool) (page : Nat) (now : Int) (s : Sess) (db : Db) (k : Nat) (kd : Kind) (c n : String) (v : Bytes)
    (ts : List Wql.Tag) (hnd : (step like page now s db (.insert kd c n v (some ts) none)).2 = .ok) :
    (k < ts.length → (stepF like page now (some (.tag k)) s db (.insert kd c n v (some ts) none)) = (db, .err .backend)) ∧
    (ts.length ≤ k → stepF like page now (some (.tag k)) s db (.insert kd c n v (some ts) none) = step like page now s db (.insert kd c n v (some ts) none)) := by
  have hdup : db.items.any (·.sameIdent s.pid s.key kd c n) = false := by
    cases hd : db.items.any (·.sameIdent s.pid s.key kd c n) with
    | false => rfl
    | true => simp [step, doInsert, hd] at hnd
  constructor
  · intro hk
    simp [stepF, insertF, hdup, Lemmas.insertTagsF_tag_within k 0 [] ts (Nat.zero_le k) (by omega)]
  · intro hk
    simp [stepF, step, insertF, doInsert, hdup, Lemmas.insertTagsF_tag_beyond k 0 [] ts (by omega)]

/-- Crash (process kill): the store is the state after a prefix of the call sequence; every call
    acknowledged before (the first `m ≤ n` calls) is part of it — running the rest from the state
    after `m` gives the same result. -/
theorem crash_keeps_acknowledged (like : Bytes → Bytes → Bool) (page : Nat) (now : Int) (s : Sess) (db : Db) (ops : List Op) (m n : Nat) (h : m ≤ n) :
    crashAfter like page now s db ops n =
      (run like page now s (crashAfter like page now s db ops m) ((ops.take n).drop m)).1 := by
  unfold crashAfter
  rw [← run_append, ← Lemmas.take_split ops m n h]

/-- a failed (faulted) call in the middle of a sequence is as if it had not been made -/
theorem failed_call_skipped (like : Bytes → Bytes → Bool) (page : Nat) (now : Int) (f : Option FaultAt) (s : Sess) (db : Db) (op : Op) (rest : List Op)
    (h : (stepF like page now f s db op).2.isErr = true) :
    (run like page now s (stepF like page now f s db op).1 rest) = run like page now s db rest := by
  rw [Lemmas.stmt_fault_atomic like page now f s db op h]

/-! non-vacuity: a three-tag insert with the second tag insert failing leaves an empty store empty -/
example : (stepF (fun _ _ => false) 32 0 (some (.tag 1)) ⟨1, 0⟩ {}
    (.insert 2 "c" "n" [1] (some [⟨false, "a", "1"⟩, ⟨false, "b", "2"⟩, ⟨true, "c", "3"⟩]) none)) = ({}, .err .backend) := by
  simp [stepF, insertF, insertTagsF, Item.sameIdent]

end Askar.Store
