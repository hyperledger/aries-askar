/-
C12 — authenticated encryption is correct, standard-conformant and tamper-evident.
ONLY property theorems and non-vacuity examples live here; helper lemmas are in Lemmas/Aead.lean (the operations as
functions), Lemmas/KeyWrapRefine.lean (key wrap against RFC 3394), Lemmas/ResizeBuf.lean (buffer implementations against
the contract), Lemmas/ResizeBufTie.lean and Lemmas/ResizeBufTieBox.lean (programs = functions); the model in
Model/Aead.lean and Model/ResizeBuf.lean, the standards' specifications (oracles for the conformance part, which
is a differential test, not a theorem) in Crypto/*.lean.

All theorems hold for every instance of the third-party primitives satisfying the stated laws
(`BlockCipher.Lawful`, `Mac.Lawful`, `AeadPrim.Lawful`, bundled in `Prims.Lawful`), for messages,
associated data, ciphertexts and keys of EVERY length.  What is NOT proved (and cannot be): that a
changed ciphertext/nonce/aad/key makes the recomputed tag differ — that is the unforgeability of
the MAC / AEAD primitive; the theorems reduce it to `macInput_injective` + a tag comparison.
-/
import AskarModel.Model.Aead
import AskarModel.Lemmas.Aead
import AskarModel.Lemmas.KeyWrapRefine
import AskarModel.Model.ResizeBuf
import AskarModel.Lemmas.ResizeBuf
import AskarModel.Lemmas.ResizeBufTie
import AskarModel.Lemmas.ResizeBufTieBox

namespace Askar.Aead
open Askar.Crypto

/-- PKCS#7 (block size k ≤ 255): removing the padding of a padded message gives the message, every length. -/
theorem pkcs7_unpad_pad (k : Nat) (hk : 0 < k) (hk2 : k < 256) (m : Bytes) :
    Cbc.pkcs7Unpad k (Cbc.pkcs7Pad k m) = some m :=
  Lemmas.pkcs7_unpad_pad k hk hk2 m

/-- CBC (SP 800-38A) over any lawful block cipher: decryption inverts encryption, any number of blocks. -/
theorem cbc_dec_enc (C : BlockCipher) (hC : C.Lawful) (key iv data : Bytes) (hiv : iv.length = 16)
    (hd : data.length % 16 = 0) : Cbc.decrypt (C.dec key) iv (Cbc.encrypt (C.enc key) iv data) = data :=
  Lemmas.cbc_dec_enc _ _ (hC.enc_len key) (hC.dec_enc key) iv data hiv hd

/-- AES-CBC-HMAC: `decrypt_in_place (encrypt_in_place m) = m` for every message length (block boundaries
    included), every aad the code admits, for both values of `fixed` (with and without the repair D5); the buffer is
    |m| + padding + K bytes and `ctext_end` = |m| + padding. -/
theorem cbcHmac_roundtrip (fixed : Bool) (C : BlockCipher) (hC : C.Lawful) (M : Mac) (hM : M.Lawful) (K : Nat)
    (key m nonce aad : Bytes) (hn : nonce.length = 16) (ha : aadTooLong aad = false) (hk : key.length = 2 * K)
    (hK : K ≤ M.outLen) :
    ∃ buf, cbcHmacEncrypt C M K key m nonce aad = .ok (buf, m.length + cbcPaddingLength m.length) ∧
      buf.length = m.length + cbcPaddingLength m.length + K ∧
      cbcHmacDecrypt fixed C M K key buf nonce aad = .ok m :=
  Lemmas.cbcHmac_roundtrip fixed C hC M hM K key m nonce aad hn ha hk hK

/-- AES-CBC-HMAC accepts only the tag it computes itself: the first K bytes of
    MAC(key[..K], aad ‖ nonce ‖ ct ‖ be64(8·|aad|)); and what it returns is the CBC/PKCS#7 decryption of ct. -/
theorem cbcHmac_ok_iff_tag (fixed : Bool) (C : BlockCipher) (M : Mac) (hM : M.Lawful) (K : Nat)
    (key ct tag nonce aad m : Bytes) (ht : tag.length = K) (hk : key.length = 2 * K) (hK : K ≤ M.outLen)
    (h : cbcHmacDecrypt fixed C M K key (ct ++ tag) nonce aad = .ok m) :
    tag = (M.mac (key.take K) (aad ++ nonce ++ ct ++ Bytes.be64 (aad.length * 8))).take K
    ∧ cbcDecryptPadded (C.dec (key.drop K)) nonce ct = some m :=
  Lemmas.cbcHmac_ok_iff_tag fixed C M hM K key ct tag nonce aad m ht hk hK h

/-- The MAC input frames (aad, nonce, ciphertext) unambiguously once the nonce length is fixed. -/
theorem macInput_injective (a n c a' n' c' : Bytes) (ha : aadTooLong a = false) (ha' : aadTooLong a' = false)
    (hn : n.length = n'.length) (h : macInput a n c = macInput a' n' c') : a = a' ∧ n = n' ∧ c = c' :=
  Lemmas.macInput_injective a n c a' n' c' ha ha' hn h

/-- **Uniformity of errors** — the full statement (`Lemmas.CbcHmacErrorsUniform fixed`): every well-shaped
    forgery with a wrong tag is answered by `AEAD decryption error`, regardless of the CBC padding. -/
def cbcHmac_errors_uniform (fixed : Bool) : Prop := Lemmas.CbcHmacErrorsUniform fixed

/-- It is FALSE for `fixed = false` (the tag compared last, defect D5): two forgeries of the same length, both with wrong
    tags, are answered by different errors depending on the padding of the forged ciphertext
    (witness: `Lemmas.d5_witness`, toy cipher, all-zero key). -/
theorem cbcHmac_errors_uniform_pinned_false : ¬ cbcHmac_errors_uniform false :=
  Lemmas.not_cbcHmac_errors_uniform_false

/-- It is TRUE for `fixed = true` (`/verif/proposals/C12-D5.diff`). -/
theorem cbcHmac_errors_uniform_fixed : cbcHmac_errors_uniform true :=
  Lemmas.cbcHmac_errors_uniform_fixed

/-- For the generated flag `d5Fixed`: uniform iff the fix is in. -/
theorem cbcHmac_errors_uniform_current : cbcHmac_errors_uniform d5Fixed ↔ d5Fixed = true :=
  Lemmas.cbcHmac_errors_uniform_iff d5Fixed

open Lemmas in
/-- The part that holds for `fixed = false`: a forgery is never accepted (tamper evidence), and the
    error is `AES-CBC decryption error` exactly when the forged ciphertext does not unpad, otherwise
    `AEAD decryption error`. -/
theorem cbcHmac_errors_uniform_partial (C : BlockCipher) (M : Mac) (hM : M.Lawful) (K : Nat)
    (key ct tag nonce aad : Bytes) (hK : K ≤ M.outLen) (hk : key.length = 2 * K) (hn : nonce.length = 16)
    (ha : aadTooLong aad = false) (ht : tag.length = K) (hne : tag ≠ Lemmas.expectedTag M K key aad nonce ct) :
    cbcHmacDecrypt false C M K key (ct ++ tag) nonce aad =
      (if cbcDecryptPadded (C.dec (key.drop K)) nonce ct = none then .err cbcDecErr else .err aeadDecErr) := by
  have hml : (M.mac (key.take K) (macInput aad nonce ct)).length = M.outLen := hM.mac_len _ _
  rw [cbcHmacDecrypt_of_shape false C M K key ct tag nonce aad hn ha ht hk (by omega)]
  cases hd : cbcDecryptPadded (C.dec (key.drop K)) nonce ct with
  | none => simp
  | some pt => simp [hne]

/-- AES key wrap as written in the Rust (6 passes over n chunks, t = n·j + i + 1): unwrap ∘ wrap = id for
    every n, output |p| + 8 bytes. -/
theorem kw_roundtrip (C : BlockCipher) (hC : C.Lawful) (key p : Bytes) (hp : p.length % 8 = 0) :
    ∃ buf, kwEncrypt C key p [] [] = .ok (buf, p.length + 8) ∧ buf.length = p.length + 8 ∧
      kwDecrypt C key buf [] [] = .ok p :=
  Lemmas.kw_roundtrip C hC key p hp

/-- Unwrap succeeds only if the IV recovered by the six passes is A6A6A6A6A6A6A6A6 (and only without
    nonce/aad, on a whole number ≥ 1 of 8-byte blocks). -/
theorem kw_checks_iv (C : BlockCipher) (key c nonce aad p : Bytes) (h : kwDecrypt C key c nonce aad = .ok p) :
    (kwUnwrapPasses (C.dec key) (c.length / 8 - 1) 6 0 (c.take 8) (Cbc.chunks 8 (c.drop 8))).1 = kwIv
    ∧ nonce = [] ∧ aad = [] ∧ c.length % 8 = 0 ∧ 8 ≤ c.length :=
  Lemmas.kw_checks_iv C key c nonce aad p h

/-- A finding (`c12:kw-empty` of the harness), here as a theorem about the model: for n = 0 blocks — outside
    RFC 3394 (n ≥ 2) but accepted by the code — the check value A6…A6 unwraps under every key. -/
theorem kw_empty_unwraps_under_every_key (C : BlockCipher) (key : Bytes) : kwDecrypt C key kwIv [] [] = .ok [] :=
  Lemmas.kw_empty_unwraps_under_every_key C key

/-- GCM / ChaCha20-Poly1305 wrappers: what `encrypt_in_place` produces (ct ‖ tag, position |m|) decrypts
    to the message. -/
theorem streamAead_roundtrip (A : AeadPrim) (hA : A.Lawful) (nl : Nat) (sk : Kind) (key m nonce aad buf : Bytes)
    (pos : Nat) (h : streamEncrypt A nl key m nonce aad = .ok (buf, pos)) :
    pos = m.length ∧ buf.length = m.length + A.tagLen ∧ nonce.length = nl ∧
      streamDecrypt A nl sk key buf nonce aad = .ok m :=
  Lemmas.streamAead_roundtrip A hA nl sk key m nonce aad buf pos h

open Lemmas in
/-- … and a tag the primitive rejects yields `AEAD decryption error`; nothing is released as plaintext. -/
theorem streamAead_reject (A : AeadPrim) (nl : Nat) (sk : Kind) (key ct tag nonce aad : Bytes)
    (hn : nonce.length = nl) (ht : tag.length = A.tagLen) (hd : A.dec key nonce aad ct tag = none) :
    streamDecrypt A nl sk key (ct ++ tag) nonce aad = .err aeadDecErr := by
  rw [streamDecrypt_of_shape A nl sk key ct tag nonce aad hn ht, hd]

/-- Inputs of wrong length are errors and NO input of any length reaches a `panic` branch: for every key
    algorithm and secret of any length, either the key is refused (`InvalidKeyData`) or every
    aead_encrypt / aead_decrypt / wrap_key / unwrap_key call and every `Encrypted` accessor is panic free. -/
theorem wrong_lengths_error (fixed : Bool) (P : Prims) (hP : P.Lawful) (alg : Alg) (secret : Bytes) :
    (secret.length ≠ alg.keyLen → fromSecretBytes alg secret = .err ⟨.InvalidKeyData, .default⟩) ∧
    (∀ k, fromSecretBytes alg secret = .ok k →
      (∀ rnd m nonce aad, (aeadEncrypt P rnd k m nonce aad).isPanic = false) ∧
      (∀ ct tag nonce aad, (aeadDecrypt fixed P k ct tag nonce aad).isPanic = false) ∧
      (∀ payload nonce, (wrapKey P k payload nonce).isPanic = false) ∧
      (∀ alg' ct tag nonce, (unwrapKey fixed P k alg' ct tag nonce).isPanic = false) ∧
      (∀ rnd m nonce aad e, aeadEncrypt P rnd k m nonce aad = .ok e →
        e.ciphertext.isPanic = false ∧ e.tag.isPanic = false ∧ e.nonce.isPanic = false)) :=
  Lemmas.wrong_lengths_error fixed P hP alg secret

/-- A nonce of any wrong length is `InvalidNonce`, on encryption and decryption, for the six AEADs. -/
theorem wrong_nonce_length (fixed : Bool) (P : Prims) (k : Key) (buf nonce aad : Bytes)
    (ha : k.alg ≠ .A128Kw ∧ k.alg ≠ .A256Kw ∧ k.alg ≠ .Ed25519) (hn : nonce.length ≠ k.alg.params.1) :
    encryptInPlace P k buf nonce aad = .err ⟨.InvalidNonce, .default⟩ ∧
    decryptInPlace fixed P k buf nonce aad = .err ⟨.InvalidNonce, .default⟩ := by
  obtain ⟨a1, a2, a3⟩ := ha
  unfold encryptInPlace decryptInPlace
  -- the nonce length is the first check of each of the six
  cases hk : k.alg <;> simp only [hk, Alg.params] at hn a1 a2 a3 ⊢
  · exact ⟨if_pos hn, if_pos hn⟩
  · exact ⟨if_pos hn, if_pos hn⟩
  · exact ⟨if_pos hn, if_pos hn⟩
  · exact ⟨if_pos hn, if_pos hn⟩
  · exact absurd rfl a1
  · exact absurd rfl a2
  · exact ⟨if_pos hn, if_pos hn⟩
  · exact ⟨if_pos hn, if_pos hn⟩
  · exact absurd rfl a3

/-- A buffer shorter than the tag is "Invalid size for encrypted data". -/
theorem short_buffer_error (fixed : Bool) (P : Prims) (hP : P.Lawful) (k : Key) (buf nonce aad : Bytes)
    (ha : k.alg ≠ .A128Kw ∧ k.alg ≠ .A256Kw ∧ k.alg ≠ .Ed25519) (hn : nonce.length = k.alg.params.1)
    (haad : aadTooLong aad = false) (hb : buf.length < k.alg.params.2) :
    ∃ kind, decryptInPlace fixed P k buf nonce aad = .err ⟨kind, .invalidSize⟩ := by
  obtain ⟨a1, a2, a3⟩ := ha
  unfold decryptInPlace
  cases hk : k.alg <;> simp only [hk, Alg.params] at hn hb a1 a2 a3 ⊢
  · exact ⟨.Encryption, by simp [streamDecrypt, hn, hP.gcm128_tag, hb]⟩
  · exact ⟨.Encryption, by simp [streamDecrypt, hn, hP.gcm256_tag, hb]⟩
  · exact ⟨.Encryption, by simp [cbcHmacDecrypt, hn, haad, hb]⟩
  · exact ⟨.Encryption, by simp [cbcHmacDecrypt, hn, haad, hb]⟩
  · exact absurd rfl a1
  · exact absurd rfl a2
  · exact ⟨.Invalid, by simp [streamDecrypt, hn, hP.c20p_tag, hb]⟩
  · exact ⟨.Invalid, by simp [streamDecrypt, hn, hP.xc20p_tag, hb]⟩
  · exact absurd rfl a3

/-- Key wrap input whose length is not a multiple of 8 is an error in both directions. -/
theorem kw_wrong_length (C : BlockCipher) (key buf : Bytes) (h : buf.length % 8 ≠ 0) :
    kwEncrypt C key buf [] [] = .err ⟨.Unsupported, .kwLen⟩ ∧ kwDecrypt C key buf [] [] = .err ⟨.Encryption, .kwLen⟩ := by
  simp [kwEncrypt, kwDecrypt, h]

/-- `LocalKey::aead_encrypt` lays the buffer out as ciphertext ‖ tag ‖ nonce with `tag_pos`, `nonce_pos`
    delimiting the parts, the three accessors return exactly those parts, and `aead_decrypt` of them
    returns the message — for all eight algorithms (for key wrap the "tag" part is empty). -/
theorem localKey_layout (fixed : Bool) (P : Prims) (hP : P.Lawful) (k : Key) (hk : k.bytes.length = k.alg.keyLen)
    (rnd m nonce aad : Bytes) (e : Encrypted) (h : aeadEncrypt P rnd k m nonce aad = .ok e) :
    ∃ ct tag nonce', nonce' = (if nonce.isEmpty && k.alg.params.1 > 0 then rnd else nonce) ∧
      e.buffer = ct ++ tag ++ nonce' ∧ e.tagPos = ct.length ∧ e.noncePos = ct.length + tag.length ∧
      e.ciphertext = .ok ct ∧ e.tag = .ok tag ∧ e.nonce = .ok nonce' ∧
      aeadDecrypt fixed P k ct tag nonce' aad = .ok m :=
  Lemmas.localKey_layout fixed P hP k hk rnd m nonce aad e h

open Lemmas in
/-- `wrap_key` / `unwrap_key` round trip with the same layout. -/
theorem wrapKey_roundtrip (fixed : Bool) (P : Prims) (hP : P.Lawful) (k payload : Key)
    (hk : k.bytes.length = k.alg.keyLen) (hp : payload.bytes.length = payload.alg.keyLen) (nonce : Bytes)
    (e : Encrypted) (h : wrapKey P k payload nonce = .ok e) :
    ∃ ct tag, e.buffer = ct ++ tag ++ nonce ∧ e.ciphertext = .ok ct ∧ e.tag = .ok tag ∧ e.nonce = .ok nonce ∧
      unwrapKey fixed P k payload.alg ct tag nonce = .ok payload := by
  unfold wrapKey at h
  cases hr : encryptInPlace P k payload.bytes nonce [] with
  | err er => simp [hr] at h
  | panic p => simp [hr] at h
  | ok r =>
    obtain ⟨buf, pos⟩ := r
    obtain ⟨hpos, hd⟩ := encrypt_decrypt_inPlace fixed P hP k hk payload.bytes nonce [] buf pos hr
    simp only [hr, bind_ok, Res.ok.injEq] at h
    obtain ⟨l1, l2, l3, l4, l5, l6⟩ := layout_core buf nonce pos hpos
    subst h
    refine ⟨buf.take pos, buf.drop pos, l1, l4, l5, l6, ?_⟩
    simp only [unwrapKey, List.take_append_drop, hd, bind_ok, fromSecretBytes, hp, ne_eq, not_true_eq_false, if_false]

/-! ### non-vacuity: the hypotheses are satisfiable, and the success hypotheses are met by concrete inputs -/

example : toyPrims.Lawful := Lemmas.toyPrims_lawful
example : toyCipher.Lawful ∧ (toyMac 32).Lawful ∧ toyAead.Lawful :=
  ⟨Lemmas.toyCipher_lawful, Lemmas.toyMac_lawful 32, Lemmas.toyAead_lawful⟩
/-- a successful CBC-HMAC decryption exists (hypothesis `h` of `cbcHmac_ok_iff_tag`) -/
example : ∃ buf, cbcHmacDecrypt d5Fixed toyCipher (toyMac 32) 16 (zeros 32) buf (zeros 16) [1, 2] = .ok [7, 7, 7] :=
  let ⟨b, _, _, h⟩ := Lemmas.cbcHmac_roundtrip d5Fixed toyCipher Lemmas.toyCipher_lawful (toyMac 32) (Lemmas.toyMac_lawful 32) 16
    (zeros 32) [7, 7, 7] (zeros 16) [1, 2] (by decide) (by decide) (by decide) (by decide)
  ⟨b, h⟩
/-- a successful unwrap exists (hypothesis of `kw_checks_iv`) -/
example : ∃ c, kwDecrypt toyCipher [5] c [] [] = .ok (zeros 16) :=
  let ⟨b, _, _, h⟩ := Lemmas.kw_roundtrip toyCipher Lemmas.toyCipher_lawful [5] (zeros 16) (by decide)
  ⟨b, h⟩
/-- successful encryptions exist for the layout / stream theorems -/
example : (match aeadEncrypt toyPrims [] ⟨.C20P, zeros 32⟩ [1, 2, 3] (zeros 12) [9] with | .ok _ => true | _ => false) = true := by decide +kernel
example : (match aeadEncrypt toyPrims [] ⟨.A256CbcHs512, zeros 64⟩ [1, 2, 3] (zeros 16) [9] with | .ok _ => true | _ => false) = true := by decide +kernel
example : (match wrapKey toyPrims ⟨.A128Kw, zeros 16⟩ ⟨.A128Gcm, zeros 16⟩ [] with | .ok _ => true | _ => false) = true := by decide +kernel
/-- both branches of the `_partial` theorem occur -/
example :
    cbcHmacDecrypt false toyCipher (toyMac 32) 16 (zeros 32) (zeros 16 ++ List.replicate 16 1) (zeros 16) [] = .err cbcDecErr ∧
    cbcHmacDecrypt false toyCipher (toyMac 32) 16 (zeros 32) (List.replicate 16 16 ++ List.replicate 16 1) (zeros 16) [] = .err aeadDecErr :=
  Lemmas.d5_witness

/-! ### AES key wrap: the model's loops ARE RFC 3394 -/

/-- The loops, for an ABSTRACT block function.  `Crypto.KeyWrap.wrapWith` / `unwrapWith` are the executable
    transcription of the index form of RFC 3394 §2.2.1 / §2.2.2 (nested `for j`, `for i` over an array R[1..n],
    t = n·j + i); `kwWrapPasses` / `kwUnwrapPasses` are the shape of the Rust chunk loops.  For EVERY block function
    `enc` / `dec` that maps 128-bit blocks to 128-bit blocks (`ciph`, `inv` are the same functions on `ByteArray`),
    every 64-bit initial value and every input — n = 0 and n = 1 included, bytes beyond the last complete 64-bit
    block ignored on both sides — they compute the same bytes; unwrap with the integrity check included
    (the guard `c.size % 8 ≠ 0 ∨ c.size < 8` is the specification's own). -/
theorem kw_loops_refine_rfc3394 :
    (∀ (ciph : ByteArray → ByteArray) (enc : Bytes → Bytes), (∀ b, (ciph b).toList = enc b.toList) →
      (∀ b, b.length = 16 → (enc b).length = 16) → ∀ (iv plain : ByteArray), iv.size = 8 →
      (KeyWrap.wrapWith ciph iv plain).toList =
        (kwWrapPasses enc (plain.size / 8) 6 0 iv.toList (Cbc.chunks 8 plain.toList)).1 ++
        (kwWrapPasses enc (plain.size / 8) 6 0 iv.toList (Cbc.chunks 8 plain.toList)).2.flatten) ∧
    (∀ (inv : ByteArray → ByteArray) (dec : Bytes → Bytes), (∀ b, (inv b).toList = dec b.toList) →
      (∀ b, b.length = 16 → (dec b).length = 16) → ∀ (iv c : ByteArray),
      (KeyWrap.unwrapWith inv iv c).map (·.toList) =
        if c.size % 8 ≠ 0 ∨ c.size < 8 then none
        else if (kwUnwrapPasses dec (c.size / 8 - 1) 6 0 (c.toList.take 8) (Cbc.chunks 8 (c.toList.drop 8))).1 = iv.toList
          then some (kwUnwrapPasses dec (c.size / 8 - 1) 6 0 (c.toList.take 8) (Cbc.chunks 8 (c.toList.drop 8))).2.flatten
          else none) :=
  ⟨Lemmas.wrapWith_refines, Lemmas.unwrapWith_refines⟩

/-- `encrypt_in_place` / `decrypt_in_place` of the model against the specification, for every lawful block cipher,
    every key and EVERY input: wrap returns exactly the RFC 3394 wrap of the input under the default IV (for every
    accepted input, i.e. every length that is a multiple of 8, the empty input included); unwrap returns the key data
    exactly when the specification does and is an `Encryption` error otherwise (the length message for a length that
    is not a multiple of 8).  `Lemmas.liftBA f b = (f b.toList).toByteArray`. -/
theorem kw_model_refines_rfc3394 (C : BlockCipher) (hC : C.Lawful) (key : Bytes) :
    (∀ p : Bytes, p.length % 8 = 0 →
      kwEncrypt C key p [] [] =
        .ok ((KeyWrap.wrapWith (Lemmas.liftBA (C.enc key)) KeyWrap.defaultIV p.toByteArray).toList, p.length + 8)) ∧
    (∀ c : Bytes,
      kwDecrypt C key c [] [] =
        match KeyWrap.unwrapWith (Lemmas.liftBA (C.dec key)) KeyWrap.defaultIV c.toByteArray with
        | some p => .ok p.toList
        | none => .err ⟨.Encryption, if c.length % 8 ≠ 0 then .kwLen else .default⟩) :=
  ⟨fun p hp => Lemmas.kwEncrypt_is_rfc3394 C hC key p hp, fun c => Lemmas.kwDecrypt_is_rfc3394 C hC key c⟩

open Lemmas in
/-- The converse round trip: whatever unwrap accepts is the wrap of what it returns.  It needs one law that
    `BlockCipher.Lawful` does not contain — encryption inverts decryption (true of a permutation such as AES) —
    stated here as the explicit hypothesis `hed`. -/
theorem kw_wrap_unwrap (C : BlockCipher) (hC : C.Lawful) (hed : ∀ k b, b.length = 16 → C.enc k (C.dec k b) = b)
    (key c p : Bytes) (h : kwDecrypt C key c [] [] = .ok p) : kwEncrypt C key p [] [] = .ok (c, c.length) := by
  obtain ⟨hiv, _, _, h3, h5⟩ := Lemmas.kw_checks_iv C key c [] [] p h
  rw [kwDecrypt_of_shape C key c h3 h5, if_pos hiv] at h
  simp only [Res.ok.injEq] at h
  have hn := (drop_blocks 8 c).symm
  have hmod : (c.drop 8).length % 8 = 0 := by rw [List.length_drop, ← Nat.mod_eq_sub_mod h5]; exact h3
  have hb : Blocks (c.length / 8 - 1) (c.take 8, Cbc.chunks 8 (c.drop 8)) :=
    blocks_chunks _ (c.drop 8) (List.length_take.trans (Nat.min_eq_left h5)) hn.symm
  have r1 := kw_passes_inv' (C.enc key) (C.dec key) (hC.dec_len key) (hed key) _ 6 0 _ _ hb
  obtain ⟨_, hl, r3⟩ := kwUnwrapPasses_blocks (C.dec key) (hC.dec_len key) _ 6 0 _ _ hb
  generalize kwUnwrapPasses (C.dec key) (c.length / 8 - 1) 6 0 (c.take 8) (Cbc.chunks 8 (c.drop 8)) = r at h hiv r1 hl r3
  have hpl : p.length = 8 * (c.length / 8 - 1) := by rw [← h, flatten_length_of_all 8 _ r3, hl]
  have hp : p.length % 8 = 0 := by rw [hpl]; exact Nat.mul_mod_right _ _
  have hpn : p.length / 8 = c.length / 8 - 1 := by rw [hpl]; exact Nat.mul_div_cancel_left _ (by decide)
  rw [kwEncrypt_of_shape C hC key p hp, hpn, ← h, chunks_flatten 8 (by decide) _ r3, ← hiv, r1]
  simp only [flatten_chunks 8 _ hmod, List.take_append_drop, Res.ok.injEq, Prod.mk.injEq, true_and]
  rw [flatten_length_of_all 8 _ r3, hl]; omega

/-- non-vacuity: the lifted block function meets the hypotheses of `kw_loops_refine_rfc3394`; `hed` holds for the
    toy cipher together with `Lawful`; the specification side of `kw_model_refines_rfc3394` really accepts something -/
example (f : Bytes → Bytes) : ∀ b, (Lemmas.liftBA f b).toList = f b.toList := Lemmas.liftBA_toList f
example : toyCipher.Lawful ∧ ∀ k b, b.length = 16 → toyCipher.enc k (toyCipher.dec k b) = b :=
  ⟨Lemmas.toyCipher_lawful, fun k b _ => Lemmas.toyCipher_enc_dec k b⟩
example : ∃ c p, KeyWrap.unwrapWith (Lemmas.liftBA (toyCipher.dec [5])) KeyWrap.defaultIV (List.toByteArray c) = some p := by
  obtain ⟨b, _, _, h⟩ := Lemmas.kw_roundtrip toyCipher Lemmas.toyCipher_lawful [5] (zeros 16) (by decide)
  have := (kw_model_refines_rfc3394 toyCipher Lemmas.toyCipher_lawful [5]).2 b
  rw [h] at this
  cases hu : KeyWrap.unwrapWith (Lemmas.liftBA (toyCipher.dec [5])) KeyWrap.defaultIV (List.toByteArray b) with
  | some p => exact ⟨b, p, hu⟩
  | none => rw [hu] at this; cases this

/-! ## The buffer type as a dimension ("all keys, messages of every length" — over EVERY public `ResizeBuffer`)

`Model/ResizeBuf.lean`: the contract of `ResizeBuffer` as list operations with a capacity (`LBuf`, `specImpl`; `Vec<u8>` and
`SecretBytes` are the instance without capacity), `Writer<'_, [u8]>` with its index arithmetic in both variants
(`writerImpl false` = the arithmetic of finding D40, `writerImpl true` = `/verif/proposals/C12-writer-resize-buffer.diff`), and every
in-place operation as a program (`Prog`) over the trait methods.  `StepRel` / `RunRel` / `Refines` (Lemmas/ResizeBuf.lean):
an implementation's outcome against the contract's — equal visible bytes (`WRel`: `inner[..pos]` = the list, `pos ≤ |inner|`,
`|inner|` = the capacity), equal returned value, equal error; nothing is required where the contract's own precondition is
violated (`pos ≤ len`, `s ≤ e ≤ len`: `Vec` panics there as well). -/

section Buffer
open Askar.ResizeBuf Askar.ResizeBuf.Lemmas

/-- **The simulation argument.**  An implementation whose six methods refine the contract runs EVERY program over the trait
    like the contract does: same returned value, related final buffer, same error (with `weak`: or `ExceededBuffer`). -/
theorem buffer_run_refines {α β : Type} (I : BufImpl β) (R : β → LBuf → Prop) (weak : Prop) (h : Refines I R weak)
    (prog : Prog α) (b : β) (l : LBuf) (hR : R b l) : RunRel R weak (prog.run I b) (prog.run specImpl l) :=
  run_refines I R weak h prog b l hR

/-- **`writer_refines_list`** — the full statement, for a variant of `Writer<[u8]>`: each of view / as_mut writes / write /
    insert / remove / resize, from every state representing a list within capacity, with ANY arguments, has the list
    result (content and position) if it fits, is `ExceededBuffer` if it does not, and does not panic unless `Vec` would. -/
def WriterRefinesList (fixed : Bool) : Prop := Refines (writerImpl fixed) WRel False

/-- It holds for the repaired variant … -/
theorem writer_refines_list : WriterRefinesList true := writer_refines

/-- … hence for every SEQUENCE of trait calls (`extend` = the trait's default method over `resize`) … -/
theorem writer_refines_list_seq (ops : List Op) (w : Writer) (l : LBuf) (hR : WRel w l) :
    RunRel WRel False ((Prog.ofOps ops).run (writerImpl true) w) ((Prog.ofOps ops).run specImpl l) :=
  run_refines _ _ _ writer_refines _ w l hR

/-- … and, spelled out, for every program (every in-place operation) started on `Writer::from_slice_position(input ‖ rest,
    |input|)` against the list run with capacity `|input| + |rest|`, whatever `rest` — the stale bytes — was. -/
theorem writer_run_agrees {α : Type} (prog : Prog α) (input rest : Bytes) :
    match prog.run specImpl ⟨input, some (input.length + rest.length)⟩ with
    | .ok (l', a) => ∃ rest', prog.run (writerImpl true) ⟨input ++ rest, input.length⟩ = .ok (⟨l'.data ++ rest', l'.data.length⟩, a)
    | .err e => prog.run (writerImpl true) ⟨input ++ rest, input.length⟩ = .err e
    | .panic _ => True :=
  Lemmas.writer_run_agrees prog input rest

/-- A capacity only ever ADDS `ExceededBuffer`: the run over a bounded list against the run over `Vec` / `SecretBytes`
    (no capacity) from the same bytes — same result, or `ExceededBuffer`. -/
theorem capacity_only_adds_exceeded {α : Type} (prog : Prog α) (data : Bytes) (cap : Option Nat) :
    RunRel CapRel True (prog.run specImpl ⟨data, cap⟩) (prog.run specImpl ⟨data, none⟩) :=
  run_refines specImpl CapRel True capacity_refines prog _ _ ⟨rfl, rfl⟩

/-- **The buffer type does not matter** for the eight algorithms' `encrypt_in_place` / `decrypt_in_place` (all keys, nonces,
    associated data, buffer contents of every length, every instance of the primitives): over the repaired Writer they run
    like over the list with the slice length as capacity. -/
theorem inplace_buffer_independent (fixed5 : Bool) (P : Prims) (k : Key) (nonce aad : Bytes) (w : Writer) (l : LBuf) (hR : WRel w l) :
    RunRel WRel False ((encryptInPlaceP P k nonce aad).run (writerImpl true) w) ((encryptInPlaceP P k nonce aad).run specImpl l) ∧
    RunRel WRel False ((decryptInPlaceP fixed5 P k nonce aad).run (writerImpl true) w)
      ((decryptInPlaceP fixed5 P k nonce aad).run specImpl l) :=
  ⟨run_refines _ _ _ writer_refines _ w l hR, run_refines _ _ _ writer_refines _ w l hR⟩

/-- The statement is FALSE for the variant `writerImpl false` (the arithmetic before the repair D40): `buffer_insert(0, [0; 8])`
    on a 16-byte prefix of a 24-byte slice computes `0 - 8` (`range.end - diff`) — what AES-KW wrap and `crypto_box` do first. -/
theorem writer_refines_list_current_false : ¬ WriterRefinesList false := current_not_refines

/-- Independently, in the variant `writerImpl false` (the arithmetic before the repair D40) `buffer_resize(len)` ADDS `len` to
    the position: `resize(11)` at position 27 gives 38, not 11. -/
theorem writer_resize_current_false :
    Writer.resize false ⟨zeros 91, 27⟩ 11 = .ok ⟨zeros 91, 38⟩ ∧
    ¬ StepRel WRel False ((writerImpl false).resize ⟨zeros 91, 27⟩ 11) (LBuf.resize ⟨zeros 27, some 91⟩ 11) :=
  ⟨current_resize_adds, current_resize_not_refines⟩

/-- The witnesses at the level of the in-place operations (toy primitives): the 27-byte box of an 11-byte message decrypts
    through the variant `writerImpl false` (the arithmetic before the repair D40) to "Ok" with position 38 (the list run: the
    11 bytes); AES-KW wrap of 16 bytes panics. -/
theorem writer_current_inplace_witnesses :
    ((decryptInPlaceP true toyPrims ⟨.C20P, zeros 32⟩ (zeros 12) []).run specImpl ⟨List.replicate 27 7, none⟩
        = .ok (⟨List.replicate 11 7, none⟩, ())) ∧
    ((decryptInPlaceP true toyPrims ⟨.C20P, zeros 32⟩ (zeros 12) []).run (writerImpl false) ⟨List.replicate 27 7 ++ zeros 64, 27⟩
        = .ok (⟨List.replicate 27 7 ++ zeros 64, 38⟩, ())) ∧
    ((encryptInPlaceP toyPrims ⟨.A128Kw, zeros 16⟩ [] []).run (writerImpl false) ⟨zeros 16 ++ zeros 72, 16⟩
        = .panic .arithOverflow) :=
  ⟨current_decrypt_wrong_position.1, current_decrypt_wrong_position.2, current_kw_wrap_panics⟩

/-- For the generated flag `writerFixed` (extracted from `buffer/writer.rs`): the refinement holds iff the source is
    repaired. -/
theorem writer_refines_list_status :
    (writerFixed = true ∧ WriterRefinesList writerFixed) ∨ (writerFixed = false ∧ ¬ WriterRefinesList writerFixed) := by
  cases h : writerFixed with
  | true => exact Or.inl ⟨rfl, writer_refines⟩
  | false => exact Or.inr ⟨rfl, current_not_refines⟩

/-- non-vacuity: a representing state exists for every input and spare capacity; the list runs of the in-place operations
    succeed on concrete inputs (so the `ok` branch of `writer_run_agrees` is met); a bounded run does end in `ExceededBuffer` -/
example (input rest : Bytes) : WRel ⟨input ++ rest, input.length⟩ ⟨input, some (input.length + rest.length)⟩ := wrel_mk input rest _ rfl
example : (match (encryptInPlaceP toyPrims ⟨.A128CbcHs256, zeros 32⟩ (zeros 16) [9]).run specImpl ⟨[1, 2, 3], some 32⟩ with
    | .ok (l, a) => decide (l.data.length = 32 ∧ a = 16) | _ => false) = true := by decide +kernel
example : (encryptInPlaceP toyPrims ⟨.A128CbcHs256, zeros 32⟩ (zeros 16) [9]).run specImpl ⟨[1, 2, 3], some 31⟩ = .err exceeded := by decide +kernel
example : (encryptInPlaceP toyPrims ⟨.A128CbcHs256, zeros 32⟩ (zeros 16) [9]).run (writerImpl true) ⟨[1, 2, 3] ++ List.replicate 29 0xEE, 3⟩
    = (match (encryptInPlaceP toyPrims ⟨.A128CbcHs256, zeros 32⟩ (zeros 16) [9]).run specImpl ⟨[1, 2, 3], some 32⟩ with
       | .ok (l, a) => .ok (⟨l.data, 32⟩, a) | .err e => .err e | .panic p => .panic p) := by decide +kernel
example : (encryptInPlaceP toyPrims ⟨.A128Kw, zeros 16⟩ [] []).run (writerImpl true) ⟨zeros 16 ++ List.replicate 8 0xEE, 16⟩
    = (match (encryptInPlaceP toyPrims ⟨.A128Kw, zeros 16⟩ [] []).run specImpl ⟨zeros 16, some 24⟩ with
       | .ok (l, a) => .ok (⟨l.data, 24⟩, a) | .err e => .err e | .panic p => .panic p) := by decide +kernel

end Buffer

end Askar.Aead

/-! ## The two models of the in-place operations are ONE (the tie between `Model/Aead.lean` and `Model/ResizeBuf.lean`)

`Model/Aead.lean` gives every AEAD / key-wrap operation as a pure FUNCTION on byte lists (all theorems above the section
"The buffer type as a dimension" are about these); `Model/ResizeBuf.lean` gives the same operations as PROGRAMS over the
`ResizeBuffer` trait.  Below (`Lemmas/ResizeBufTie.lean`, `Lemmas/ResizeBufTieBox.lean`): the program, run over the list
implementation without capacity (`specImpl`, `Vec<u8>` / `SecretBytes`), computes the function — result types corresponding
one to one (`Tie.encOut` / `Tie.decOut`: `ok (buf, n)` ↦ `ok (⟨buf, cap⟩, n)`, `ok buf` ↦ `ok (⟨buf, cap⟩, ())`, the same error,
the same panic) — for all keys, nonces, associated data and inputs of every length, and every instance of the primitives
that works IN PLACE (the output is as long as the input: the programs write through `as_mut()`, a slice cannot change its
length; `Tie.BlockInPlace` follows from `BlockCipher.Lawful`, `Tie.AeadInPlace` is `AeadPrim.Lawful`'s `enc_len` plus the
same for decryption).  For a primitive that is not length preserving the two models DIFFER (`tie_needs_inPlace`). -/

namespace Askar.Aead
open Askar.Crypto Askar.ResizeBuf

section Tie
open Askar.ResizeBuf.Tie

/-- **The programs compute the functions.**  For each of the eight operations (six concrete ones and the two dispatchers of
    `AnyKey`): `(opP args).run specImpl ⟨input, none⟩` is the result of the function of `Model/Aead.lean` on `input`. -/
theorem inplace_programs_compute_the_model :
    (∀ (A : AeadPrim), (∀ k n a m c t, A.enc k n a m = some (c, t) → c.length = m.length) →
      ∀ (nl : Nat) (key nonce aad input : Bytes),
        (streamEncryptP A nl key nonce aad).run specImpl ⟨input, none⟩
          = encOut none (streamEncrypt A nl key input nonce aad)) ∧
    (∀ (A : AeadPrim), (∀ k n a c t m, A.dec k n a c t = some m → m.length = c.length) →
      ∀ (nl : Nat) (sk : Kind) (key nonce aad input : Bytes),
        (streamDecryptP A nl sk key nonce aad).run specImpl ⟨input, none⟩
          = decOut none (streamDecrypt A nl sk key input nonce aad)) ∧
    (∀ (C : BlockCipher), (∀ k b, b.length = 16 → (C.enc k b).length = 16) →
      ∀ (M : Mac) (K : Nat) (key nonce aad input : Bytes),
        (cbcHmacEncryptP C M K key nonce aad).run specImpl ⟨input, none⟩
          = encOut none (cbcHmacEncrypt C M K key input nonce aad)) ∧
    (∀ (fixed5 : Bool) (C : BlockCipher), (∀ k b, b.length = 16 → (C.dec k b).length = 16) →
      ∀ (M : Mac) (K : Nat) (key nonce aad input : Bytes),
        (cbcHmacDecryptP fixed5 C M K key nonce aad).run specImpl ⟨input, none⟩
          = decOut none (cbcHmacDecrypt fixed5 C M K key input nonce aad)) ∧
    (∀ (C : BlockCipher), (∀ k b, b.length = 16 → (C.enc k b).length = 16) →
      ∀ (key nonce aad input : Bytes),
        (kwEncryptP C key nonce aad).run specImpl ⟨input, none⟩ = encOut none (kwEncrypt C key input nonce aad)) ∧
    (∀ (C : BlockCipher), (∀ k b, b.length = 16 → (C.dec k b).length = 16) →
      ∀ (key nonce aad input : Bytes),
        (kwDecryptP C key nonce aad).run specImpl ⟨input, none⟩ = decOut none (kwDecrypt C key input nonce aad)) ∧
    (∀ (P : Prims), PrimsInPlace P → ∀ (k : Key) (nonce aad input : Bytes),
        (encryptInPlaceP P k nonce aad).run specImpl ⟨input, none⟩ = encOut none (encryptInPlace P k input nonce aad)) ∧
    (∀ (fixed5 : Bool) (P : Prims), PrimsInPlace P → ∀ (k : Key) (nonce aad input : Bytes),
        (decryptInPlaceP fixed5 P k nonce aad).run specImpl ⟨input, none⟩
          = decOut none (decryptInPlace fixed5 P k input nonce aad)) :=
  -- without a capacity every growth fits
  ⟨fun A hA nl key nonce aad input => streamEncryptP_run_cap A hA nl key nonce aad input none fun _ _ _ => rfl,
   fun A hA nl sk key nonce aad input => streamDecryptP_run_cap A hA nl sk key nonce aad input none rfl,
   fun C hC M K key nonce aad input => cbcHmacEncryptP_run_cap C hC M K key nonce aad input none rfl,
   fun fixed5 C hC M K key nonce aad input => cbcHmacDecryptP_run_cap fixed5 C hC M K key nonce aad input none rfl,
   fun C hC key nonce aad input => kwEncryptP_run_cap C hC key nonce aad input none rfl,
   fun C hC key nonce aad input => kwDecryptP_run_cap C hC key nonce aad input none,
   fun P hP k nonce aad input => encryptInPlaceP_run_cap P hP k nonce aad input none rfl,
   fun fixed5 P hP k nonce aad input => decryptInPlaceP_run_cap fixed5 P hP k nonce aad input none rfl⟩

/-- The same with a CAPACITY that admits the one growth the operation performs (`Tie.encGrowth`: the tag; padding + tag; the
    8-byte block of key wrap; nothing on decryption): the bounded list run is the function's result as well — every
    error and every panic included, none replaced by `ExceededBuffer`. -/
theorem inplace_programs_compute_the_model_cap (fixed5 : Bool) (P : Prims) (hP : PrimsInPlace P) (k : Key)
    (nonce aad input : Bytes) (cap : Option Nat) :
    (fits cap (input.length + encGrowth P k input.length) = true →
      (encryptInPlaceP P k nonce aad).run specImpl ⟨input, cap⟩ = encOut cap (encryptInPlace P k input nonce aad)) ∧
    (fits cap input.length = true →
      (decryptInPlaceP fixed5 P k nonce aad).run specImpl ⟨input, cap⟩
        = decOut cap (decryptInPlace fixed5 P k input nonce aad)) :=
  ⟨encryptInPlaceP_run_cap P hP k nonce aad input cap, decryptInPlaceP_run_cap fixed5 P hP k nonce aad input cap⟩

/-- `crypto_box` / `crypto_box_open` (after their key / nonce checks; the list functions are `Ecdh.cryptoBox` /
    `Ecdh.cryptoBoxOpen` of `Model/Ecdh.lean`, whose errors carry the kind only — `e` is the `Encryption` error):
    the programs compute them too (`Tie.boxOut e`: `ok b` ↦ `ok (⟨b, none⟩, ())`, `err _` ↦ `err e`). -/
theorem cryptoBox_programs_compute_the_model (B : Askar.Ecdh.BoxOps) (own peer : Askar.Ecdh.Key) (sk : Bytes)
    (hs : own.secret = some sk) (nonce input : Bytes) (hn : nonce.length = 24) (e : Err) :
    ((∀ k n m, (B.sealBox k n m).1.length = m.length) →
      (cryptoBoxP (B.sealBox (B.beforenm sk peer.pub) nonce)).run specImpl ⟨input, none⟩
        = boxOut e (Askar.Ecdh.cryptoBox B peer own input nonce)) ∧
    ((∀ k n c t m, B.openBox k n c t = some m → m.length = c.length) →
      (cryptoBoxOpenP 16 e e (B.openBox (B.beforenm sk peer.pub) nonce)).run specImpl ⟨input, none⟩
        = boxOut e (Askar.Ecdh.cryptoBoxOpen B own peer input nonce)) :=
  ⟨fun h => cryptoBoxP_run_ecdh B h peer own sk hs nonce input hn e,
   fun h => cryptoBoxOpenP_run_ecdh B h own peer sk hs nonce input hn e⟩

/-- The in-place hypothesis cannot be dropped — the two models differ for a primitive that is not length preserving
    (`Tie.growingAead`: ciphertext = message ‖ 0; `Tie.growingCipher`: block ‖ 0): the function returns the longer list, the
    program panics on the write through `as_mut()`.  No third-party primitive askar uses behaves like this (they take
    `&mut [u8]`), so this separates the two MODELS, not the code from either of them. -/
theorem tie_needs_inPlace :
    (streamEncrypt growingAead 0 [] [7] [] [] = .ok ([7, 0, 0], 1) ∧
      (streamEncryptP growingAead 0 [] [] []).run specImpl ⟨[7], none⟩ = .panic .copyLen) ∧
    (streamDecrypt growingAead 0 .Invalid [] [7, 0] [] [] = .ok [7, 0] ∧
      (streamDecryptP growingAead 0 .Invalid [] [] []).run specImpl ⟨[7, 0], none⟩ = .panic .copyLen) ∧
    ((match kwEncrypt growingCipher [] (zeros 8) [] [] with
        | .ok (buf, n) => decide (buf.length = 22 ∧ n = 22) | _ => false) = true ∧
      (kwEncryptP growingCipher [] [] []).run specImpl ⟨zeros 8, none⟩ = .panic .copyLen) :=
  ⟨streamEncrypt_needs_inPlace, streamDecrypt_needs_inPlace, kwEncrypt_needs_inPlace⟩

/-- **Over a fixed buffer.**  `encrypt_in_place` / `decrypt_in_place` of any key over ANY `Writer<[u8]>` (repaired variant;
    position inside the slice) whose slice has room for the growth — `w.pos + encGrowth … ≤ |w.inner|`, nothing needed for
    decryption — yields exactly what the function of `Model/Aead.lean` yields on the bytes before the position: the same
    bytes before the new position, position = their number, the same returned value, the slice as long as before; the same
    error (never `ExceededBuffer` instead); no panic unless the function panics.  (`Lemmas.writer_run_out` + `Tie.encryptInPlaceP_run_cap` /
    `Tie.decryptInPlaceP_run_cap`.) -/
theorem writer_inplace_equals_model (fixed5 : Bool) (P : Prims) (hP : PrimsInPlace P) (k : Key) (nonce aad : Bytes)
    (w : Writer) (hw : w.pos ≤ w.inner.length) :
    (w.pos + encGrowth P k w.pos ≤ w.inner.length →
      match encryptInPlace P k (w.inner.take w.pos) nonce aad with
      | .ok (buf, n) => ∃ w', (encryptInPlaceP P k nonce aad).run (writerImpl true) w = .ok (w', n) ∧
          w'.inner.take w'.pos = buf ∧ w'.pos = buf.length ∧ w'.inner.length = w.inner.length
      | .err e => (encryptInPlaceP P k nonce aad).run (writerImpl true) w = .err e
      | .panic _ => True) ∧
    (match decryptInPlace fixed5 P k (w.inner.take w.pos) nonce aad with
      | .ok buf => ∃ w', (decryptInPlaceP fixed5 P k nonce aad).run (writerImpl true) w = .ok (w', ()) ∧
          w'.inner.take w'.pos = buf ∧ w'.pos = buf.length ∧ w'.inner.length = w.inner.length
      | .err e => (decryptInPlaceP fixed5 P k nonce aad).run (writerImpl true) w = .err e
      | .panic _ => True) := by
  -- `w = ⟨input ++ rest, |input|⟩`; then the statements for a Writer given by its parts
  obtain ⟨input, rest, rfl, hin, hlen⟩ := ResizeBuf.Lemmas.writer_split w hw
  simp only at hin hlen ⊢
  rw [← hin]
  constructor
  · intro hcap
    have h := writerEnc_of_cap _ input rest _ (encryptInPlaceP_run_cap P hP k nonce aad input _ (fits_some _ _ (by omega)))
    revert h
    cases encryptInPlace P k input nonce aad with
    | ok p =>
      obtain ⟨buf, n⟩ := p
      rintro ⟨rest', hl, hx⟩
      exact ⟨_, hx, List.take_left' rfl, rfl, by simp only [List.length_append]; omega⟩
    | err e => exact id
    | panic p => intro _; trivial
  · have h := writerDec_of_cap _ input rest _ (decryptInPlaceP_run_cap fixed5 P hP k nonce aad input _ (fits_some _ _ (by omega)))
    revert h
    cases decryptInPlace fixed5 P k input nonce aad with
    | ok buf =>
      rintro ⟨rest', hl, hx⟩
      exact ⟨_, hx, List.take_left' rfl, rfl, by simp only [List.length_append]; omega⟩
    | err e => exact id
    | panic p => intro _; trivial

/-- With the tag sizes of the Rust instantiation (`Prims.Lawful`) the room needed is what a caller computes from the public
    API: `aead_padding(msg_len) + aead_params().tag_length`. -/
theorem writer_room_is_padding_plus_tag (P : Prims) (hP : P.Lawful) (k : Key) (n : Nat) :
    encGrowth P k n = aeadPadding k n + k.alg.params.2 :=
  encGrowth_eq P hP k n

/-- For a key of the right length and lawful in-place primitives the function never panics (`wrong_lengths_error`), so the
    `True` branch above is never taken: over a Writer with room, `encrypt_in_place` is `Ok` or an error — the function's. -/
theorem writer_inplace_total (fixed5 : Bool) (P : Prims) (hL : P.Lawful) (k : Key) (hk : k.bytes.length = k.alg.keyLen)
    (buf nonce aad : Bytes) :
    (encryptInPlace P k buf nonce aad).isPanic = false ∧ (decryptInPlace fixed5 P k buf nonce aad).isPanic = false :=
  ⟨Lemmas.encryptInPlace_noPanic P hL k hk buf nonce aad, Lemmas.decryptInPlace_noPanic fixed5 P hL k hk buf nonce aad⟩

/-- **`cbcHmac_roundtrip` over a Writer.**  AES-CBC-HMAC over `Writer::from_slice_position(m ‖ rest, |m|)` with
    `|rest| ≥ padding + K`: encryption succeeds, leaves exactly the function's `buf` (|m| + padding + K bytes) before the
    position and returns `ctext_end`; decryption over the Writer encryption left returns the message, position |m|, in a
    slice as long as the original one — every message length, the D5 switch either way. -/
theorem cbcHmac_roundtrip_over_writer (fixed : Bool) (C : BlockCipher) (hC : C.Lawful) (M : Mac) (hM : M.Lawful) (K : Nat)
    (key m nonce aad rest : Bytes) (hn : nonce.length = 16) (ha : aadTooLong aad = false) (hk : key.length = 2 * K)
    (hK : K ≤ M.outLen) (hcap : cbcPaddingLength m.length + K ≤ rest.length) :
    ∃ buf rest' rest'',
      cbcHmacEncrypt C M K key m nonce aad = .ok (buf, m.length + cbcPaddingLength m.length) ∧
      (cbcHmacEncryptP C M K key nonce aad).run (writerImpl true) ⟨m ++ rest, m.length⟩
        = .ok (⟨buf ++ rest', buf.length⟩, m.length + cbcPaddingLength m.length) ∧
      buf.length = m.length + cbcPaddingLength m.length + K ∧
      buf.length + rest'.length = m.length + rest.length ∧
      (cbcHmacDecryptP fixed C M K key nonce aad).run (writerImpl true) ⟨buf ++ rest', buf.length⟩
        = .ok (⟨m ++ rest'', m.length⟩, ()) ∧
      m.length + rest''.length = m.length + rest.length :=
  Tie.cbcHmac_roundtrip_over_writer fixed C hC M hM K key m nonce aad rest hn ha hk hK hcap

/-- **`kw_model_refines_rfc3394` over a Writer.**  AES key wrap over `Writer::from_slice_position(p ‖ rest, |p|)` with 8 spare
    bytes leaves exactly the RFC 3394 wrap of `p` before the position `|p| + 8`; unwrap over ANY Writer holding `c` before
    its position leaves the key data of the specification exactly when the specification accepts `c`, and is the
    `Encryption` error otherwise (the length message for a length that is not a multiple of 8). -/
theorem kw_model_refines_rfc3394_over_writer (C : BlockCipher) (hC : C.Lawful) (key : Bytes) :
    (∀ p rest : Bytes, p.length % 8 = 0 → 8 ≤ rest.length →
      ∃ rest', (kwEncryptP C key [] []).run (writerImpl true) ⟨p ++ rest, p.length⟩ =
          .ok (⟨(KeyWrap.wrapWith (Lemmas.liftBA (C.enc key)) KeyWrap.defaultIV p.toByteArray).toList ++ rest',
                p.length + 8⟩, p.length + 8)
        ∧ rest'.length + 8 = rest.length) ∧
    (∀ c rest : Bytes,
      match KeyWrap.unwrapWith (Lemmas.liftBA (C.dec key)) KeyWrap.defaultIV c.toByteArray with
      | some p => ∃ rest', (kwDecryptP C key [] []).run (writerImpl true) ⟨c ++ rest, c.length⟩ =
            .ok (⟨p.toList ++ rest', p.toList.length⟩, ())
          ∧ p.toList.length + rest'.length = c.length + rest.length
      | none => (kwDecryptP C key [] []).run (writerImpl true) ⟨c ++ rest, c.length⟩ =
            .err ⟨.Encryption, if c.length % 8 ≠ 0 then .kwLen else .default⟩) :=
  Tie.kw_model_refines_rfc3394_over_writer C hC key

/-! ### non-vacuity (toy primitives) -/

/-- the correspondence of the result types, spelled out -/
example (cap : Option Nat) (buf : Bytes) (n : Nat) : encOut cap (.ok (buf, n)) = .ok (⟨buf, cap⟩, n) := rfl
example (cap : Option Nat) (e : Err) : encOut cap (.err e) = .err e ∧ decOut cap (.err e) = .err e := ⟨rfl, rfl⟩
example (cap : Option Nat) (p : Panic) : encOut cap (.panic p) = .panic p ∧ decOut cap (.panic p) = .panic p := ⟨rfl, rfl⟩
example (cap : Option Nat) (buf : Bytes) : decOut cap (.ok buf) = .ok (⟨buf, cap⟩, ()) := rfl
/-- the hypotheses are satisfiable: the toy primitives work in place (and are lawful) -/
example : PrimsInPlace toyPrims ∧ toyPrims.Lawful := ⟨toyPrims_inPlace, Lemmas.toyPrims_lawful⟩
example : AeadInPlace toyAead ∧ BlockInPlace toyCipher := ⟨toyAead_inPlace, BlockInPlace.of_lawful Lemmas.toyCipher_lawful⟩
/-- every branch of the correspondence occurs on concrete inputs: `ok`, an error, a panic (a key that is too short reaches
    `&key[K..]` in both models) -/
example : (match (encryptInPlaceP toyPrims ⟨.A128CbcHs256, zeros 32⟩ (zeros 16) [9]).run specImpl ⟨[1, 2, 3], none⟩,
      encryptInPlace toyPrims ⟨.A128CbcHs256, zeros 32⟩ [1, 2, 3] (zeros 16) [9] with
    | .ok (l, a), .ok (buf, n) => decide (l.data = buf ∧ a = n ∧ n = 16 ∧ buf.length = 32) | _, _ => false) = true := by decide +kernel
example : (encryptInPlaceP toyPrims ⟨.C20P, zeros 32⟩ (zeros 11) []).run specImpl ⟨[1, 2, 3], none⟩ = .err ⟨.InvalidNonce, .default⟩ ∧
    encryptInPlace toyPrims ⟨.C20P, zeros 32⟩ [1, 2, 3] (zeros 11) [] = .err ⟨.InvalidNonce, .default⟩ := by
  constructor <;> decide +kernel
example : (encryptInPlaceP toyPrims ⟨.A128CbcHs256, zeros 3⟩ (zeros 16) []).run specImpl ⟨[1, 2, 3], none⟩ = .panic .sliceOob ∧
    encryptInPlace toyPrims ⟨.A128CbcHs256, zeros 3⟩ [1, 2, 3] (zeros 16) [] = .panic .sliceOob := by
  constructor <;> decide +kernel
example : (match (decryptInPlaceP true toyPrims ⟨.A128Kw, zeros 16⟩ [] []).run specImpl ⟨kwIv, none⟩,
      decryptInPlace true toyPrims ⟨.A128Kw, zeros 16⟩ kwIv [] [] with
    | .ok (l, _), .ok buf => decide (l.data = buf ∧ buf = []) | _, _ => false) = true := by decide +kernel
/-- a Writer with room: 3 message bytes, 29 stale bytes; the run is the function's result, position 32 -/
example : (match (encryptInPlaceP toyPrims ⟨.A128CbcHs256, zeros 32⟩ (zeros 16) [9]).run (writerImpl true)
        ⟨[1, 2, 3] ++ List.replicate 29 0xEE, 3⟩,
      encryptInPlace toyPrims ⟨.A128CbcHs256, zeros 32⟩ [1, 2, 3] (zeros 16) [9] with
    | .ok (w', a), .ok (buf, n) => decide (w'.inner.take w'.pos = buf ∧ w'.pos = 32 ∧ a = n) | _, _ => false) = true := by decide +kernel
/-- the room hypothesis of `writer_inplace_equals_model` is met / is `aead_padding + tag_length` -/
example : encGrowth toyPrims ⟨.A128CbcHs256, zeros 32⟩ 3 = 29 ∧ aeadPadding ⟨.A128CbcHs256, zeros 32⟩ 3 + 16 = 29 := by decide +kernel

end Tie

end Askar.Aead
