/-
C09 — the on-disk format matches docs/storage.md and stays readable across versions.
ONLY property theorems and non-vacuity examples live here; helper lemmas are in Lemmas/StorageScheme.lean (which also
defines `KeyRefWF`, the hypothesis of `keyref_uri_roundtrip`), the independent implementation of the document in
Model/StorageScheme.lean, the codecs in Crypto/{Cbor,Base58}.lean with their lemmas in Lemmas/{Cbor,Base58}.lean.

The theorems are ABOUT THE SPECIFICATION: they make it a sound oracle (what it writes it reads back, byte layouts are
the documented ones, the codecs are inverse to each other, the value-key input frames category and name without
ambiguity).  That the LIBRARY agrees with this specification is not a theorem but translation-validation style evidence
collected by every run of the check (harness/src/c09.rs): the spec decrypts every row of stores the library writes and
reproduces every deterministic field bit for bit, the library opens and searches stores the spec writes, and the
golden stores of the pinned release open with the current code and with the spec.

Theorems hold for EVERY lawful instance of the two primitives (`Prims.Lawful`: the AEAD opens what it sealed, its
output is 16 bytes longer than its input, HMAC-SHA-256 yields 32 bytes) and for contents of every length.
-/
import AskarModel.Model.StorageScheme
import AskarModel.Lemmas.StorageScheme
import AskarModel.Generated.Storage

namespace Askar.StorageScheme
open Askar.Crypto

/-- Searchable encryption: decrypting `nonce ‖ ct ‖ tag` gives the plaintext back, every plaintext length. -/
theorem searchable_roundtrip (P : Prims) (hP : P.Lawful) (encKey hmacKey m : Bytes) :
    decryptField P encKey (encryptSearchable P encKey hmacKey m) = some m :=
  Lemmas.StorageScheme.searchable_roundtrip hP encKey hmacKey m

/-- Searchable encryption is a FUNCTION of (keys, plaintext) with the documented layout: the first 12 bytes are
    `HMAC-SHA-256(hmac key, plaintext)[..12]`, the total length is 12 + |m| + 16 — so equal plaintexts give equal
    column values (what makes them searchable) — and different plaintexts give different column values. -/
theorem searchable_deterministic (P : Prims) (hP : P.Lawful) (encKey hmacKey m₁ m₂ : Bytes) :
    (encryptSearchable P encKey hmacKey m₁ = encryptSearchable P encKey hmacKey m₂ ↔ m₁ = m₂) ∧
    (encryptSearchable P encKey hmacKey m₁).take nonceLen = (P.hmac hmacKey m₁).take nonceLen ∧
    (encryptSearchable P encKey hmacKey m₁).length = nonceLen + m₁.length + tagLen := by
  refine ⟨⟨fun h => ?_, fun h => by rw [h]⟩,
    Lemmas.StorageScheme.nonce_enc_layout hP encKey _ m₁ (Lemmas.StorageScheme.searchableNonce_length hP hmacKey m₁)⟩
  -- decryption is a left inverse
  have h1 := Lemmas.StorageScheme.searchable_roundtrip hP encKey hmacKey m₁
  rw [h, Lemmas.StorageScheme.searchable_roundtrip hP] at h1
  exact (Option.some.inj h1).symm

/-- Item value: `random nonce ‖ ct ‖ tag` under the key derived from (category, name) decrypts to the value, and the
    stored bytes start with the nonce and are 28 bytes longer than the value. -/
theorem value_roundtrip (P : Prims) (hP : P.Lawful) (itemHmacKey category name nonce value : Bytes)
    (hn : nonce.length = nonceLen) :
    decryptValue P itemHmacKey category name (encryptValue P itemHmacKey category name nonce value) = some value ∧
    (encryptValue P itemHmacKey category name nonce value).take nonceLen = nonce ∧
    (encryptValue P itemHmacKey category name nonce value).length = nonceLen + value.length + tagLen :=
  ⟨Lemmas.StorageScheme.value_roundtrip hP itemHmacKey category name nonce value hn,
   Lemmas.StorageScheme.nonce_enc_layout hP _ nonce value hn⟩

/-- A whole record (category, name, value, any number of tags of both kinds, kind, expiry) written by the spec is read
    back by the spec unchanged. -/
theorem record_roundtrip (P : Prims) (hP : P.Lawful) (k : ProfileKey) (id pid : Int) (nonce : Bytes) (r : Rec)
    (hn : nonce.length = nonceLen) :
    decryptRec P k (encryptRec P k id pid nonce r).1 (encryptRec P k id pid nonce r).2 = some r := by
  simp only [decryptRec, encryptRec, Lemmas.StorageScheme.searchable_roundtrip hP,
    Lemmas.StorageScheme.value_roundtrip hP _ _ _ _ _ hn, Lemmas.StorageScheme.tags_roundtrip hP]

/-- A plaintext tag's value is stored as is; its name — like every tag name — is searchable-encrypted. -/
theorem plaintext_tag_stored_as_is (P : Prims) (k : ProfileKey) (id : Int) (name value : Bytes) :
    (encryptTag P k id ⟨true, name, value⟩).value = value ∧
    (encryptTag P k id ⟨true, name, value⟩).name = encryptSearchable P k.tnk k.thk name := ⟨rfl, rfl⟩

/-- The CBOR form of a profile key decodes to the same six keys. -/
theorem profileKey_cbor_roundtrip (k : ProfileKey) (h : k.WF) : ProfileKey.ofCbor k.toCbor = some k :=
  Lemmas.StorageScheme.profileKey_cbor_roundtrip k h

/-- The profile key survives wrapping under the store key — and under "no key" (method `none`). -/
theorem profileKey_wrap_roundtrip (P : Prims) (hP : P.Lawful) (storeKey : Option Bytes) (nonce : Bytes) (k : ProfileKey)
    (hn : nonce.length = nonceLen) (hk : k.WF) :
    unwrapProfileKey P storeKey (wrapProfileKey P storeKey nonce k) = some k := by
  cases storeKey with
  | none => exact Lemmas.StorageScheme.profileKey_cbor_roundtrip k hk
  | some key =>
    simp only [unwrapProfileKey, wrapProfileKey, Lemmas.StorageScheme.decryptField_nonce_enc hP key nonce _ hn,
      Lemmas.StorageScheme.profileKey_cbor_roundtrip k hk]

/-- CBOR subset: decoding inverts encoding for every map whose lengths fit the 8-byte argument, whatever follows. -/
theorem cbor_roundtrip (m : Cbor.Map) (rest : Bytes) (h : Cbor.Fits m) :
    Cbor.decodeMap (Cbor.encodeMap m ++ rest) = some (m, rest) :=
  Cbor.decodeMap_encodeMap m rest h

/-- The CBOR decoder is total and never reads past its input: on EVERY byte string it either rejects or returns a map
    together with a remainder that is strictly shorter than the input (it is defined by structural recursion — no fuel,
    no `partial` — and every announced length is checked against the remaining input before it is used). -/
theorem cbor_decode_total (b : Bytes) :
    Cbor.decodeMap b = none ∨ ∃ m rest, Cbor.decodeMap b = some (m, rest) ∧ rest.length < b.length := by
  cases h : Cbor.decodeMap b with
  | none => exact Or.inl rfl
  | some p => exact Or.inr ⟨p.1, p.2, rfl, Cbor.decodeMap_lt h⟩

/-- The value-key input `be32|c| ‖ c ‖ be32|n| ‖ n` determines (category, name) — categories below 2³² bytes. -/
theorem valueKeyInput_injective (c₁ n₁ c₂ n₂ : Bytes) (h1 : c₁.length < 2 ^ 32) (h2 : c₂.length < 2 ^ 32)
    (h : valueKeyInput c₁ n₁ = valueKeyInput c₂ n₂) : c₁ = c₂ ∧ n₁ = n₂ :=
  Lemmas.StorageScheme.valueKeyInput_injective h1 h2 h

/-- The bound is necessary: the 32-bit length prefix wraps at 2³² bytes (so does the `as u32` cast of the code). -/
theorem valueKeyInput_bound_necessary :
    ∃ c₁ n₁ c₂ n₂ : Bytes, (c₁, n₁) ≠ (c₂, n₂) ∧ valueKeyInput c₁ n₁ = valueKeyInput c₂ n₂ := by
  -- 2³² zero bytes as category and nothing as name, or the other way round; `N` is kept opaque so that nothing
  -- tries to build the list
  obtain ⟨N, hN⟩ : ∃ N : Nat, N = 2 ^ 32 := ⟨_, rfl⟩
  have hw : Bytes.be32 N = List.replicate 4 0 := by subst hN; decide +kernel
  have h0 : Bytes.be32 0 = List.replicate 4 0 := by decide +kernel
  refine ⟨List.replicate N 0, [], [], List.replicate N 0, fun h => ?_, ?_⟩
  · have := congrArg (fun p => p.2.length) h
    simp only [List.length_nil, List.length_replicate] at this
    omega
  · simp only [valueKeyInput, List.length_replicate, List.length_nil, hw, h0, List.append_nil,
      List.replicate_append_replicate]
    rw [Nat.add_comm]

/-- Store key reference: `parse (toUri r) = r` for `raw`, `none` and `kdf:argon2i:13:<int|mod>?salt=<32 hex>`. -/
theorem keyref_uri_roundtrip (r : KeyRef) (h : Lemmas.StorageScheme.KeyRefWF r) : KeyRef.parse r.toUri = some r :=
  Lemmas.StorageScheme.keyref_uri_roundtrip r h

/-- Base58 (raw pass keys): decoding inverts encoding for every byte string, leading zero bytes included. -/
theorem base58_roundtrip (b : Bytes) : Base58.decode (Base58.encode b) = some b :=
  Base58.decode_encode b

/-- The constants extracted from the CURRENT source (`Generated/Storage.lean`, rewritten by every run) are the ones of
    the specification: Argon2i parameter sets (libsodium interactive / moderate, version 0x13), salt length, level and
    prefix strings, CBOR member names in order with `ver = "1"`, the three config rows, version "1", the columns of the
    four tables. -/
theorem generated_constants_match_doc :
    Generated.Storage.paramsInteractive
        = (Level.interactive.params.variant, "V0x13", Level.interactive.params.memKiB, Level.interactive.params.passes) ∧
    Generated.Storage.paramsModerate
        = (Level.moderate.params.variant, "V0x13", Level.moderate.params.memKiB, Level.moderate.params.passes) ∧
    Level.interactive.params.version = 0x13 ∧ Level.moderate.params.version = 0x13 ∧
    Generated.Storage.saltLen = saltLen ∧
    (Generated.Storage.prefixKdf ++ ":" ++ Generated.Storage.methodArgon2i ++ ":").toList ++ "13:".toList = kdfPrefix ∧
    Generated.Storage.levelInteractive.toList = "13:".toList ++ Level.interactive.str ∧
    Generated.Storage.levelModerate.toList = "13:".toList ++ Level.moderate.str ∧
    Generated.Storage.prefixRaw.toList = rawChars ∧ Generated.Storage.prefixNone.toList = noneChars ∧
    (∀ k : ProfileKey, k.toMap.map (·.1) = (Generated.Storage.cborTag :: Generated.Storage.cborFields).map ascii) ∧
    (∀ k : ProfileKey, k.toMap.head? = some (ascii Generated.Storage.cborTag, .text (ascii Generated.Storage.cborTagValue))) ∧
    (∀ d r, (configRows d r).map (·.1) = Generated.Storage.configRows) ∧
    Generated.Storage.configVersion = schemaVersion ∧
    Generated.Storage.schema = schema := by
  refine ⟨by decide +kernel, by decide +kernel, by decide +kernel, by decide +kernel, by decide +kernel, by decide +kernel,
    by decide +kernel, by decide +kernel, by decide +kernel, by decide +kernel,
    fun _ => by simp only [ProfileKey.toMap, List.map_cons, List.map_nil]; decide +kernel,
    fun _ => by simp only [ProfileKey.toMap, List.head?_cons]; decide +kernel,
    fun _ _ => by simp only [configRows, List.map_cons, List.map_nil]; decide +kernel, by decide +kernel, by decide +kernel⟩

/-! ### Non-vacuity: the hypotheses are satisfiable -/

example : Prims.toy.Lawful where
  dec_enc := by
    intro k n m
    simp only [Prims.toy, List.length_append, List.length_replicate]
    have h : ¬ (m.length + tagLen < tagLen) := by omega
    simp only [h, if_false, Nat.add_sub_cancel]
    rw [List.take_left' rfl]
  enc_len := by intro k n m; simp [Prims.toy]
  hmac_len := by
    intro k m
    simp only [Prims.toy, List.length_append, List.length_replicate, List.length_take]
    omega

example : (⟨List.replicate 32 1, List.replicate 32 2, List.replicate 32 3, List.replicate 32 4, List.replicate 32 5,
            List.replicate 32 6⟩ : ProfileKey).WF := ⟨rfl, rfl, rfl, rfl, rfl, rfl⟩
example : (List.replicate 12 (7 : UInt8)).length = nonceLen := by decide
example : Lemmas.StorageScheme.KeyRefWF (.argon2i .moderate (List.replicate 16 0xa5)) := by
  simp [Lemmas.StorageScheme.KeyRefWF, saltLen]
example : KeyRef.toUri (.argon2i .moderate [0xa5, 0x53, 0xcf, 0xb9, 0xc5, 0x58, 0xb5, 0xc1, 0x1c, 0x78, 0xef, 0xcf, 0xa0, 0x6f, 0x3e, 0x29])
    = "kdf:argon2i:13:mod?salt=a553cfb9c558b5c11c78efcfa06f3e29" := by   -- the document's own example
  -- the literal is `String.ofList` of its characters: compare the lists
  refine congrArg String.ofList ?_
  decide +kernel
example : Cbor.Fits [([0x61], .bytes [1, 2, 3])] := by
  refine ⟨by decide, ?_⟩
  intro e he
  simp only [List.mem_cons, List.mem_nil_iff, or_false] at he
  subst he
  exact ⟨by decide, by simp [Cbor.Val.Fits]⟩

end Askar.StorageScheme
