/-
C16 — scans return every match exactly once and honour order, offset and limit.
ONLY property theorems and non-vacuity examples; helper lemmas are in Lemmas/Store.lean.
All statements are for every list of rows (no bound) and every page size p; those about the size and number of pages need p > 0.
-/
import AskarModel.Model.Store
import AskarModel.Lemmas.Store

namespace Askar.Store

/-- Driving `Scan::fetch_next` to exhaustion over the batches `perform_scan` yields returns every
    row exactly once and in order: the concatenation of the pages is the row list. -/
theorem scan_collects_all {α} (p : Nat) (rows : List α) :
    (drainScan p (batches p rows)).flatten = rows := by
  rw [drain_batches]; exact batches_flatten p rows

/-- every page is non-empty and at most `p` long -/
theorem scan_page_sizes {α} (p : Nat) (hp : 0 < p) (rows : List α) :
    ∀ b ∈ drainScan p (batches p rows), 0 < b.length ∧ b.length ≤ p := by
  rw [drain_batches]; exact batches_sizes p hp rows

/-- the number of pages is ⌈n / p⌉; in particular exactly `k` pages for `k * p` rows (the scan does
    not end early on a full page and yields no empty trailing page) -/
theorem scan_page_count {α} (p : Nat) (hp : 0 < p) (rows : List α) :
    (drainScan p (batches p rows)).length = (rows.length + p - 1) / p := by
  rw [drain_batches]; exact batches_length p hp rows

theorem scan_exact_multiple {α} (p k : Nat) (hp : 0 < p) (rows : List α) (h : rows.length = k * p) :
    (drainScan p (batches p rows)).length = k := by
  rw [scan_page_count p hp, h, Nat.add_sub_assoc hp, Nat.add_comm, Nat.add_mul_div_right _ _ hp,
    Nat.div_eq_of_lt (Nat.sub_lt hp Nat.one_pos), Nat.zero_add]

/-- The stream is dropped after a short page, and that loses nothing: what `fetch_next` returns
    is exactly what the backend stream yields. -/
theorem scan_drain_eq_batches {α} (p : Nat) (rows : List α) :
    drainScan p (batches p rows) = batches p rows := drain_batches p rows

/-- `LIMIT off, lim`: drop `max off 0`, then take `lim` unless it is negative -/
theorem window_spec {α} (off lim : Int) (rows : List α) :
    window (some off) (some lim) rows =
      if lim < 0 then rows.drop off.toNat else (rows.drop off.toNat).take lim.toNat := by
  simp [window]

theorem window_none {α} (rows : List α) : window none none rows = rows := rfl

/-- consecutive windows (any widths, any number) followed by the unbounded rest partition the result -/
theorem windows_partition {α} (rows : List α) (ws : List Nat) :
    (consecutive rows 0 ws).flatten = rows := by
  simpa using consecutive_flatten rows ws 0

/-- Row ids increase in creation order in every reachable store, although SQLite reuses the id of
    a deleted newest row: `ORDER BY id` is creation order. -/
theorem id_order_is_creation_order (like : Bytes → Bytes → Bool) (page : Nat) (now : Int) (s : Sess) (ops : List Op) :
    Sorted (run like page now s {} ops).1 :=
  run_sorted like page now s ops {} (by simp [Sorted])

/-- hence an ordered select returns the matching live rows in the order they were created -/
theorem ordered_select_is_creation_order (like : Bytes → Bytes → Bool) (page : Nat) (now : Int) (s : Sess) (ops : List Op)
    (kind : Option Kind) (cat : Option String) (f : Option (Wql.Query String)) :
    let db := (run like page now s {} ops).1
    selectRows like db now s.pid s.key kind cat f none none false =
      db.items.filter fun it => it.inScope s.pid s.key kind cat && live now it && matchFilter like f it := by
  intro db
  simp only [selectRows, window]
  exact sortById_filter (id_order_is_creation_order like page now s ops) _

/-! non-vacuity / sanity: 5 rows at page size 2 give pages of 2, 2, 1; 4 rows give exactly two pages -/
example : drainScan 2 (batches 2 [1, 2, 3, 4, 5]) = [[1, 2], [3, 4], [5]] := by
  decide +kernel
example : drainScan 2 (batches 2 [1, 2, 3, 4]) = [[1, 2], [3, 4]] := by
  decide +kernel
example : consecutive [1, 2, 3, 4, 5] 0 [2, 2] = [[1, 2], [3, 4], [5]] := by decide +kernel

end Askar.Store
