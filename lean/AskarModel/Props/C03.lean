/-
C03 — tampered or foreign ciphertext is rejected, never misread, never fatal.
ONLY property theorems, refutations with witnesses, and non-vacuity examples; helpers in Lemmas/Decrypt.lean, Lemmas/Tamper.lean.

Two layers.  Byte level (`Model/Decrypt.lean`, namespace `Askar.Decrypt`): the decrypt paths with every Rust slice as an explicit
panic branch, over an abstract AEAD.  Logical level (`Model/Tamper.lean`, namespace `Askar.Tamper`): what fetch / fetch_all / scan /
count / open return when one stored ciphertext has been replaced; the correspondence run executes this level against the real code.

Defect D2: `StoreKey::unwrap_data` is panic-free exactly when it compares the length with the nonce size before it slices
`[..12]` (`unwrap_never_panics_iff`).  Which variant the source has is the flag `Decrypt.unwrapChecksLength`, which
tools/extract.py reads from the source on every run (`Generated/Flags.lean`).  The variant without the length check is refuted
with the witness `ct = []` (`unwrap_never_panics_refuted_unchecked`; at the logical level
`profile_key_truncation_panics_witness`): these two are stated for `unwrapDataWith false` / `readWith false`.  What holds of either
variant is `unwrap_never_panics_partial`; every other theorem here is stated for both values of the flag, or for the value read
from the source (`unwrapData`, `read`).

Scope limits, stated as witnesses below (not defects of this check's making):
* tag ciphertexts are deterministic and not bound to their item: a tag cell replaced by a tag ciphertext of the SAME profile and
  column decrypts (`tag_reassociation_witness`) — the re-association of tag rows the property excludes;
* the value key covers (category, name) but not the kind: the values of an Item and a Kms record with the same category and name
  are interchangeable (`kind_twin_misread_witness`) — this one IS inside the property's text and is reported by the oracle.
-/
import AskarModel.Lemmas.Decrypt
import AskarModel.Lemmas.Tamper

namespace Askar.C03
open Askar Askar.Decrypt Askar.Tamper

/-! ## byte level -/

/-- `ProfileKey::decrypt` never panics: every ciphertext length, including 0..11 -/
theorem decrypt_never_panics (A : Aead) (ct key : Bytes) : pkDecrypt A ct key ≠ .panic :=
  Decrypt.Lemmas.decrypt_never_panics A ct key

/-- the entry-level wrappers (`decrypt_entry_category/name/value`, `decrypt_entry_tags`) never panic -/
theorem entry_decrypt_never_panics (A : Aead) (H : Bytes → Bytes → Bytes) (U : Bytes → Bool) (pk : ProfileKey) (c n ct : Bytes) :
    decryptEntryCategory A U pk ct ≠ .panic ∧ decryptEntryName A U pk ct ≠ .panic ∧ decryptEntryValue A H pk c n ct ≠ .panic :=
  ⟨Decrypt.Lemmas.bind_ne_panic _ _ (decrypt_never_panics A _ _) (Decrypt.Lemmas.decodeUtf8_ne_panic U),
   Decrypt.Lemmas.bind_ne_panic _ _ (decrypt_never_panics A _ _) (Decrypt.Lemmas.decodeUtf8_ne_panic U),
   decrypt_never_panics A _ _⟩

theorem entry_tags_decrypt_never_panics (A : Aead) (U : Bytes → Bool) (pk : ProfileKey) (ts : List EncTag) :
    decryptEntryTags A U pk ts ≠ .panic := by
  induction ts with
  | nil => simp [decryptEntryTags]
  | cons t ts ih =>
    unfold decryptEntryTags
    exact Decrypt.Lemmas.bind_ne_panic _ _ (Decrypt.Lemmas.decryptEntryTag_never_panics A U pk t) fun _ =>
      Decrypt.Lemmas.bind_ne_panic _ _ ih fun _ => by simp

/-- Full strength: what the property demands of `StoreKey::unwrap_data`, said of the variant the source has
    (`unwrapData` is `unwrapDataWith unwrapChecksLength`). -/
def UnwrapNeverPanics : Prop :=
  ∀ (A : Aead) (storeKey : Option Bytes) (ct : Bytes), unwrapData A storeKey ct ≠ .panic

/-- `unwrap_data` is panic-free exactly when it checks the length — proved without looking at the value of the flag -/
theorem unwrap_never_panics_iff : UnwrapNeverPanics ↔ unwrapChecksLength = true := by
  constructor
  · intro h
    exact (Decrypt.Lemmas.unwrap_ne_panic_iff unwrapChecksLength toyAead).mp (fun sk ct => h toyAead sk ct)
  · intro h A
    exact (Decrypt.Lemmas.unwrap_ne_panic_iff unwrapChecksLength A).mpr h

/-- REFUTED for the variant without the length check, `unwrapDataWith false` (D2).  Witness: an empty
    `profiles.profile_key` (`ct = []`) under any store key. -/
theorem unwrap_never_panics_refuted_unchecked :
    ¬ (∀ (A : Aead) (storeKey : Option Bytes) (ct : Bytes), unwrapDataWith false A storeKey ct ≠ .panic) :=
  fun h => absurd (Decrypt.Lemmas.unwrap_unchecked_panics toyAead [] [] (by decide)) (h toyAead (some []) [])

/-- what holds whether or not the length is checked: from 12 bytes on (and for the unprotected store) `unwrap_data` never panics -/
theorem unwrap_never_panics_partial (A : Aead) (key ct : Bytes) (h : 12 ≤ ct.length) :
    unwrapData A (some key) ct ≠ .panic ∧ unwrapData A none ct = .ok ct :=
  ⟨Decrypt.Lemmas.unwrap_ne_panic_of_le unwrapChecksLength A key ct h, rfl⟩

/-- with the length check (`unwrapDataWith true`), `unwrap_data` never panics and short input is an `Encryption` error -/
theorem unwrap_checked_never_panics (A : Aead) (storeKey : Option Bytes) (ct : Bytes) :
    unwrapDataWith true A storeKey ct ≠ .panic ∧
      (∀ key, storeKey = some key → ct.length < 12 → unwrapDataWith true A storeKey ct = .err .Encryption) :=
  ⟨(Decrypt.Lemmas.unwrap_ne_panic_iff true A).mpr rfl storeKey ct,
   fun key hk hl => by subst hk; exact Decrypt.Lemmas.unwrap_checked_short A key ct hl⟩

/-- `KeyCache::load_key` re-raises exactly the panics of `unwrap_data`; its errors are `Encryption` or `Unsupported` -/
theorem load_key_never_panics_iff (chk : Bool) (A : Aead) (parse : Bytes → Option ProfileKey) :
    (∀ (storeKey : Option Bytes) (ct : Bytes), loadKeyWith chk A parse storeKey ct ≠ .panic) ↔ chk = true := by
  constructor
  · intro h
    cases chk with
    | true => rfl
    | false =>
      have := h (some []) []
      simp [loadKeyWith, Decrypt.Lemmas.unwrap_unchecked_panics A [] [] (by decide)] at this
  · intro h storeKey ct
    have hu := (Decrypt.Lemmas.unwrap_ne_panic_iff chk A).mpr h storeKey ct
    unfold loadKeyWith
    cases hr : unwrapDataWith chk A storeKey ct with
    | ok d => simp only; split <;> simp
    | err e => simp
    | panic => exact absurd hr hu

theorem load_key_error_kinds (chk : Bool) (A : Aead) (parse : Bytes → Option ProfileKey) (storeKey : Option Bytes) (ct : Bytes) (e : EK)
    (h : loadKeyWith chk A parse storeKey ct = .err e) : e = .Encryption ∨ e = .Unsupported := by
  unfold loadKeyWith at h
  cases hr : unwrapDataWith chk A storeKey ct with
  | ok d =>
    simp only [hr] at h
    cases hp : parse d with
    | none => simp [hp] at h; exact Or.inr h.symm
    | some pk => simp [hp] at h
  | err e' => simp [hr] at h; exact Or.inl h.symm
  | panic => simp [hr] at h

/-- whatever `ProfileKey::decrypt` accepts is nonce ‖ enc(key, nonce, plaintext) -/
theorem decrypt_authentic (A : Aead) (hA : IdealAead A) (ct key m : Bytes) (h : pkDecrypt A ct key = .ok m) :
    ∃ nonce, nonce.length = 12 ∧ ct = pkEncrypt A key nonce m :=
  Decrypt.Lemmas.decrypt_authentic A hA ct key m h

theorem decrypt_roundtrip (A : Aead) (hA : IdealAead A) (key nonce m : Bytes) (hn : nonce.length = 12) :
    pkDecrypt A (pkEncrypt A key nonce m) key = .ok m :=
  Decrypt.Lemmas.decrypt_enc A hA key nonce m hn

/-- bytes that are not an encryption under the key are rejected; the error kind depends on the length only
    (this is `Tamper.garbageKind`, the bridge to the logical level) -/
theorem decrypt_rejects_garbage (A : Aead) (hA : IdealAead A) (ct key : Bytes)
    (hg : ∀ nonce m, nonce.length = 12 → ct ≠ pkEncrypt A key nonce m) :
    pkDecrypt A ct key = .err (garbageKind ct.length) :=
  Decrypt.Lemmas.decrypt_garbage A hA ct key hg

/-- a ciphertext made under another key in play is rejected (bridge for `Tamper.dec` on a `valid` of another key) -/
theorem decrypt_rejects_foreign_key (A : Aead) (hA : IdealAead A) (S : Bytes → Prop) (hS : KeySeparatedOn A S)
    (k k' nonce m : Bytes) (hk : S k) (hk' : S k') (hne : k ≠ k') (hn : nonce.length = 12) :
    pkDecrypt A (pkEncrypt A k nonce m) k' = .err .Encryption :=
  Decrypt.Lemmas.decrypt_foreign A hA S hS k k' nonce m hk hk' hne hn

/-- the HMAC input of `derive_value_key` determines (category, name), for lengths below 2^32 -/
theorem valueKeyInput_injective (c n c' n' : Bytes) (hc : c.length < 2 ^ 32) (hc' : c'.length < 2 ^ 32)
    (h : valueKeyInput c n = valueKeyInput c' n') : c = c' ∧ n = n' :=
  Decrypt.Lemmas.valueKeyInput_injective c n c' n' hc hc' h

theorem value_bound_to_identity (A : Aead) (hA : IdealAead A) (H : Bytes → Bytes → Bytes) (pk : ProfileKey) (c n ct v : Bytes)
    (h : decryptEntryValue A H pk c n ct = .ok v) :
    ∃ nonce, nonce.length = 12 ∧ ct = encryptEntryValue A H pk c n nonce v :=
  Decrypt.Lemmas.value_bound_to_identity A hA H pk c n ct v h

/-- a value written for (c, n) is rejected when read as the value of another (c', n') of the same profile -/
theorem value_not_transferable (A : Aead) (hA : IdealAead A) (S : Bytes → Prop) (hS : KeySeparatedOn A S)
    (H : Bytes → Bytes → Bytes) (pk : ProfileKey) (c n c' n' nonce v : Bytes) (hn : nonce.length = 12)
    (hk : S (deriveValueKey H pk c n)) (hk' : S (deriveValueKey H pk c' n'))
    (hcoll : valueKeyInput c n ≠ valueKeyInput c' n' → H pk.ihk (valueKeyInput c n) ≠ H pk.ihk (valueKeyInput c' n'))
    (hc : c.length < 2 ^ 32) (hc' : c'.length < 2 ^ 32) (hne : ¬ (c = c' ∧ n = n')) :
    decryptEntryValue A H pk c' n' (encryptEntryValue A H pk c n nonce v) = .err .Encryption :=
  Decrypt.Lemmas.decrypt_foreign A hA S hS _ _ nonce v hk hk' (hcoll fun h => hne (valueKeyInput_injective c n c' n' hc hc' h)) hn

/-- `decode_tags` never panics (no index or slice out of range), for ANY byte string -/
theorem decodeTags_total (tags : Bytes) : decodeTags tags ≠ .panic :=
  Decrypt.Lemmas.decodeTags_total tags

/-- `decode_tags` parses exactly what SQLite's `GROUP_CONCAT(plaintext || ':' || HEX(name) || ':' || HEX(value))` hands it:
    for EVERY list of stored tag rows — any length including none (NULL / no bytes), any byte strings as names and values
    including EMPTY names and EMPTY values, both plaintext flags — the result is that list, in order.  (The `name_end == 0`
    "no colon seen" sentinel is sound because `name_start ≥ 2`: the colon after an empty name sits at index ≥ 2.) -/
theorem decodeTags_groupConcat (ts : List EncTag) : decodeTags (groupConcat ts) = .ok ts :=
  Decrypt.Lemmas.decodeTags_groupConcat ts

/-- consequence: the text determines the tag rows (no two tag lists share a `GROUP_CONCAT` text) -/
theorem groupConcat_injective (ts ts' : List EncTag) (h : groupConcat ts = groupConcat ts') : ts = ts' := by
  have h1 := decodeTags_groupConcat ts
  rw [h, decodeTags_groupConcat ts'] at h1
  injection h1 with h1
  exact h1.symm

/-! ## logical level -/

/-- Every read through a fresh handle of a store in which ONE ciphertext cell was replaced — an item cell by any admissible
    value (non-authentic bytes of any length, or any ciphertext of any row / column / profile, see `Tamper.Admissible`), or a
    `profile_key` by anything — fails with an error, or returns only records that were written into that profile (a fetched
    record, every record of a fetch_all / scan), i.e. omits the row; it never returns altered content.  It panics only when
    `unwrap_data` does not check the length and a `profile_key` shorter than the nonce is met (D2). -/
theorem read_of_tampered_row (chk : Bool) (sk : Nat) (ps : List ProfSpec) (db : Db) (ht : Tampered sk ps db)
    (profile : String) (r : Read) :
    match readWith chk db sk profile r with
    | .ok a => AnswerSafe ps profile a
    | .err _ => True
    | .panic => chk = false ∧ ∃ i len, len < 12 ∧ db = tamperProfile (store sk ps) i (.garbage len) :=
  Tamper.Lemmas.read_of_tampered_row chk sk ps db ht profile r

/-- with the length check, no read of a tampered store panics -/
theorem read_never_panics_when_checked (sk : Nat) (ps : List ProfSpec) (db : Db) (ht : Tampered sk ps db)
    (profile : String) (r : Read) : readWith true db sk profile r ≠ .panic := by
  intro h
  have := read_of_tampered_row true sk ps db ht profile r
  rw [h] at this
  exact absurd this.1 (by decide)

/-- the same statement for `read` = `readWith unwrapChecksLength`, the setting read from the source (`read` is the model the
    correspondence run executes) -/
theorem read_of_tampered_row_current (sk : Nat) (ps : List ProfSpec) (db : Db) (ht : Tampered sk ps db)
    (profile : String) (r : Read) :
    match read db sk profile r with
    | .ok a => AnswerSafe ps profile a
    | .err _ => True
    | .panic => unwrapChecksLength = false ∧ ∃ i len, len < 12 ∧ db = tamperProfile (store sk ps) i (.garbage len) :=
  Tamper.Lemmas.read_of_tampered_row unwrapChecksLength sk ps db ht profile r

/-- opening the written store with anything but its own well-formed key fails with an error: no handle, no panic -/
theorem wrong_key_open_fails (chk : Bool) (sk : Nat) (ps : List ProfSpec) (method : Option Method) (pass : Pass) (profile : String)
    (h : pass ≠ .key sk) : ∃ e, openWith chk (store sk ps) method pass profile = .err e :=
  Tamper.Lemmas.wrong_key_open_fails chk sk ps method pass profile h

theorem wrong_method_open_fails (chk : Bool) (db : Db) (method : Method) (pass : Pass) (profile : String) (h : method ≠ .raw) :
    openWith chk db (some method) pass profile = .err .Input := by
  unfold openWith
  have : (some method ≠ none ∧ some method ≠ some Method.raw) := ⟨by simp, by simpa using h⟩
  simp [this]

/-! ## witnesses -/

def wStore : List ProfSpec :=
  [⟨"p", [⟨2, [99], [110], [1], [⟨false, [116], [120]⟩]⟩, ⟨1, [99], [110], [2], []⟩, ⟨2, [100], [110], [3], [⟨false, [116], [121]⟩]⟩]⟩,
   ⟨"q", [⟨2, [99], [110], [4], []⟩]⟩]

/-- D2 at the logical level, for the variant without the length check (`readWith false`, `openWith false`): a `profile_key`
    truncated below the nonce length makes every read (and the open) panic.  The campaign replays the truncation on the real
    code; a panic there has the signature `profile_key:trunc_lt_nonce:*:panic`. -/
theorem profile_key_truncation_panics_witness :
    readWith false (tamperProfile (store 1 wStore) 0 (.garbage 11)) 1 "p" (.count none none) = .panic ∧
    openWith false (tamperProfile (store 1 wStore) 0 (.garbage 0)) (some .raw) (.key 1) "p" = .panic := by
  decide +kernel

/-- value key not bound to the kind: the value of the Kms twin, put into the Item row, is returned as the Item's value
    (inadmissible replacement; the `fetch` answers a record that was never written).  Replayed: `value:subst_kind:fetch:altered`. -/
theorem kind_twin_misread_witness :
    readWith true (tamperItem (store 1 wStore) 0 .value (.valid 1 .value [99] [110] [2])) 1 "p" (.fetch 2 [99] [110])
      = .ok (.entry (some ⟨2, [99], [110], [2], [⟨false, [116], [120]⟩]⟩)) ∧
    ¬ Admissible 1 ⟨2, [99], [110], [1], [⟨false, [116], [120]⟩]⟩ .value (.valid 1 .value [99] [110] [2]) := by
  constructor
  · decide +kernel
  · intro h; exact absurd (h [2] rfl) (by decide)

/-- scope limit (outside the property): a tag value replaced by the tag value of another row of the same profile decrypts -/
theorem tag_reassociation_witness :
    readWith true (tamperItem (store 1 wStore) 0 (.tagValue 0) (.valid 1 .tagValue [] [] [121])) 1 "p" (.fetch 2 [99] [110])
      = .ok (.entry (some ⟨2, [99], [110], [1], [⟨false, [116], [121]⟩]⟩)) := by
  decide +kernel

/-! ## non-vacuity of the hypotheses, and tests of the executable definitions -/

example : IdealAead toyAead := Decrypt.Lemmas.toy_ideal
example : KeySeparatedOn toyAead (fun k => k.length = 1) := Decrypt.Lemmas.toy_separated
example : ∃ ct : Bytes, ct.length < 12 := ⟨[], by decide⟩
/-- admissible replacements exist for every column: garbage of any length, a cross-profile ciphertext, a same-profile
    category / name / value of another row -/
example : Tampered 1 wStore (tamperItem (store 1 wStore) 0 .value (.garbage 5)) :=
  .item 0 .value (.garbage 5) 0 _ rfl (by intro v h; cases h)
example : Tampered 1 wStore (tamperItem (store 1 wStore) 0 .category (.valid 1 .category [] [] [100])) :=
  .item 0 .category _ 0 _ rfl trivial
example : Tampered 1 wStore (tamperItem (store 1 wStore) 0 .value (.valid 1 .value [100] [110] [3])) :=
  .item 0 .value _ 0 _ rfl (by intro v h; injection h with _ _ h _ _; exact absurd h (by decide))
example : Tampered 1 wStore (tamperItem (store 1 wStore) 0 (.tagName 0) (.valid 2 .tagName [] [] [116])) :=
  .item 0 (.tagName 0) _ 0 _ rfl (by intro v h; injection h with h; exact absurd h (by decide))
/-- same-profile category substitution: the row is omitted under its old identity and fails under the new one -/
example : readWith true (tamperItem (store 1 wStore) 0 .category (.valid 1 .category [] [] [100])) 1 "p" (.fetch 2 [99] [110])
    = .ok (.entry none) := by decide +kernel
example : readWith true (tamperItem (store 1 wStore) 0 .category (.valid 1 .category [] [] [100])) 1 "p" (.scan none (some [100]))
    = .err .Encryption := by decide +kernel
example : readWith true (tamperItem (store 1 wStore) 2 .name (.garbage 13)) 1 "p" (.scan none none) = .err .Input := by
  decide +kernel
/-- test: `decode_tags` on what `GROUP_CONCAT` produces, including empty names and values and no tags at all -/
example : decodeTags (groupConcat [⟨[0xAB, 0x01], [], false⟩, ⟨[], [0x7F], true⟩, ⟨[], [], false⟩])
    = .ok [⟨[0xAB, 0x01], [], false⟩, ⟨[], [0x7F], true⟩, ⟨[], [], false⟩] := by decide +kernel
example : decodeTags (groupConcat []) = .ok [] := by decide +kernel
example : decodeTags [0x30] = .err .Unexpected := by decide +kernel
example : decodeTags [0x30, 0x3A, 0x41] = .err .Unexpected := by decide +kernel
example : decodeTags [0x30, 0x3A, 0x3A, 0x3A] = .err .Unexpected := by decide +kernel
/-- non-vacuity of `decodeTags_groupConcat`: a concrete two-tag list with an empty value (and an empty name), by the theorem
    and not by evaluation; the text it is about is the expected `0:AB01:,1::7F` -/
example : decodeTags (groupConcat [⟨[0xAB, 0x01], [], false⟩, ⟨[], [0x7F], true⟩])
    = .ok [⟨[0xAB, 0x01], [], false⟩, ⟨[], [0x7F], true⟩] := decodeTags_groupConcat _
example : groupConcat [⟨[0xAB, 0x01], [], false⟩, ⟨[], [0x7F], true⟩]
    = [0x30, 0x3A, 0x41, 0x42, 0x30, 0x31, 0x3A, 0x2C, 0x31, 0x3A, 0x3A, 0x37, 0x46] := by decide +kernel

end Askar.C03
