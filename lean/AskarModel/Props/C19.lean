/-
C19 — the C API is equivalent to the Rust API and robust to bad arguments.
Property theorems and non-vacuity examples; the lemmas are in Lemmas/Ffi.lean and Lemmas/FfiEntry.lean,
the model in Model/Ffi.lean and Model/FfiEntry.lean (the entry-point table: second half of this file).
-/
import AskarModel.Model.Ffi
import AskarModel.Lemmas.Ffi
import AskarModel.Model.FfiEntry
import AskarModel.Lemmas.FfiEntry
import AskarModel.Generated.Tables

namespace Askar.Ffi
open Askar.Store (Err)
open Askar.Wql (Tag)

/-- Handles are never reused and 0 is never issued: along every call sequence on a registry
    (insert / borrow / remove / remove_all, any length, from any state), as long as the counter does
    not wrap (fewer than 2^64 handles issued in the life of the process), the handles issued are
    strictly increasing and all above the counter value at the start — hence different from each
    other, from 0, and from every handle that was ever in the map before (those are ≤ the counter). -/
theorem handles_never_reused {V : Type} (m : ResMap V) (ops : List (RegOp V))
    (hnowrap : m.counter + ops.length < usizeMod) :
    (runReg m ops).2.Pairwise (· < ·) ∧ (∀ h ∈ (runReg m ops).2, m.counter < h ∧ h ≠ 0) := by
  obtain ⟨k, hi, -, -⟩ := Lemmas.runReg_issued ops m hnowrap
  rw [hi]
  refine ⟨List.pairwise_lt_range', fun h hh => ?_⟩
  have := List.mem_range'_1.mp hh
  omega

/-- A handle that is not in the map (never issued, or closed) is reported as an `Input` error by
    every lookup, and the registry is left unchanged. -/
theorem closed_or_unknown_handle_errors {V : Type} (m : ResMap V) (h : Nat) (hn : h ∉ m.keys) :
    m.borrow h = .error .input ∧ m.remove h = (none, m) :=
  ⟨Lemmas.borrow_unknown m h hn, Lemmas.remove_unknown m h hn⟩

/-- Once closed, a handle stays invalid whatever is done afterwards (no later `insert` can bring
    the same number back): for every continuation that does not wrap the counter. -/
theorem closed_handle_stays_closed {V : Type} (m : ResMap V) (h : Nat) (ops : List (RegOp V))
    (hh : h ≤ m.counter)
    (hnowrap : m.counter + ops.length < usizeMod) :
    h ∉ (m.remove h).2.keys ∧
    (runReg (m.remove h).2 ops).1.borrow h = .error .input := by
  have hrm : h ∉ (m.remove h).2.keys := fun hx => (Lemmas.remove_keys m h h hx).2 rfl
  refine ⟨hrm, ?_⟩
  apply Lemmas.borrow_unknown
  intro hx
  obtain ⟨k, hi, -, h3⟩ := Lemmas.runReg_issued ops (m.remove h).2 (by rw [Lemmas.remove_counter]; exact hnowrap)
  rcases h3 h hx with hk | hk
  · exact hrm hk
  · rw [hi, Lemmas.remove_counter] at hk
    have := List.mem_range'_1.mp hk
    omega

/-- `remove_all` (the loop of the source, for any map in key order, any size): it terminates within
    `len` iterations and removes exactly the entries owned by that store — every other session or
    scan keeps its handle, none of the closed store's survives. -/
theorem remove_all_exact {V : Type} (m : ResMap V) (s : Nat) (hs : m.map.keys.Pairwise (· < ·)) :
    m.removeAll s = some { m with map := m.map.filter (fun e => e.2.1 != s) } := by
  unfold ResMap.removeAll
  rw [Lemmas.removeAllLoop_eq_filter s m.map.length 0 m.map hs (fun _ _ _ => Nat.zero_le _) (List.length_filter_le _ _)]
  rfl

/-- `get_row` is total on `i32` and never reads out of bounds: it succeeds exactly for
    `0 ≤ idx < rows` (`Single`: exactly `idx = 0`) and then returns that row; every other index —
    negative, `i32::MIN`, beyond the end — is an `Input` error. -/
theorem get_row_total {α : Type} (l : ResultList α) (idx : Int32) :
    (∀ e, l.getRow idx = .ok e ↔ (0 ≤ idx.toInt ∧ l.toList[idx.toInt.toNat]? = some e))
    ∧ (∀ x, l.getRow idx = .error x → x = .input)
    ∧ ((∃ e, l.getRow idx = .ok e) ↔ (0 ≤ idx.toInt ∧ idx.toInt.toNat < l.toList.length)) := by
  refine ⟨Lemmas.getRow_ok_iff l idx, Lemmas.getRow_err l idx, ?_⟩
  constructor
  · rintro ⟨e, he⟩
    obtain ⟨h0, h1⟩ := (Lemmas.getRow_ok_iff l idx e).mp he
    exact ⟨h0, (List.getElem?_eq_some_iff.mp h1).1⟩
  · rintro ⟨h0, h1⟩
    exact ⟨l.toList[idx.toInt.toNat], (Lemmas.getRow_ok_iff l idx _).mpr ⟨h0, List.getElem?_eq_getElem h1⟩⟩

/-- Tag sets round-trip through the JSON member form: for every tag list (any length, any Unicode,
    repeated names, both kinds) in which no *encrypted* name is empty or starts with `~`,
    serialising never hits the `values[0]` panic and parsing the serialised members (keys that can
    be borrowed, i.e. spelled without escapes) yields the same multiset of tags. -/
theorem tagset_roundtrip (tags : List Tag) (b : Bool)
    (hdom : ∀ t ∈ tags, t.plain = false → match t.name.toList with | [] => False | c :: _ => c ≠ '~') :
    ∃ obj, serializeSet tags = some obj ∧
      ∃ out, visitMap b (obj.map fun m => (⟨m.1, false⟩, m.2)) = .ok out ∧ out.Perm tags := by
  obtain ⟨obj, hs, hv, -⟩ := Lemmas.member_roundtrip b tags hdom
  exact ⟨obj, hs, _, hv, (Lemmas.groupTags_inv tags).perm⟩

/-- The two exclusions are limits of the JSON form itself: an encrypted tag whose name starts with
    `~` comes back as a plaintext tag, and an empty encrypted name is rejected. -/
example : (serializeSet [⟨false, "~a", "v"⟩]).bind (fun o => (visitMap false (o.map fun m => (⟨m.1, false⟩, m.2))).toOption)
    = some [⟨true, "a", "v"⟩] := by decide +kernel
example : (serializeSet [⟨false, "", "v"⟩]).bind (fun o => (visitMap false (o.map fun m => (⟨m.1, false⟩, m.2))).toOption)
    = none := by decide +kernel

/-- Full-strength statement at the level of the JSON *text* the C caller passes and receives:
    what `askar_entry_list_get_tags` writes is accepted by `askar_session_update` and denotes the
    same tags. -/
def tagset_text_roundtrip (borrowedKeys : Bool) : Prop :=
  ∀ tags : List Tag, tags ≠ [] →
    (∀ t ∈ tags, t.plain = false → match t.name.toList with | [] => False | c :: _ => c ≠ '~') →
    ∃ text, encodeTags tags = some (some text) ∧ ∃ out, decodeTags borrowedKeys text = .ok out ∧ out.Perm tags

/-- … which is false when the deserialiser insists on borrowed keys (`borrowedKeys = true`, defect D10; whether the
    current source does is read from the source: `keysBorrowedOnly`): a tag name containing a quote is written
    with an escape by the serialiser, and the deserialiser, which insists on borrowed `&str` keys,
    rejects every key spelled with an escape. -/
theorem tagset_text_roundtrip_refuted_for_borrowed_keys : ¬ tagset_text_roundtrip true := by
  intro h
  have hl : ("a\"b" : String).toList = ['a', '"', 'b'] := by decide +kernel
  obtain ⟨text, h1, out, h2, _⟩ := h [⟨false, "a\"b", "v"⟩] (by simp)
    (by intro t ht _; simp only [List.mem_singleton] at ht; subst ht; simp [hl])
  have e1 : encodeTags [⟨false, "a\"b", "v"⟩] = some (some "{\"a\\\"b\":\"v\"}") := by decide +kernel
  rw [e1] at h1
  injection h1 with h1; injection h1 with h1
  subst h1
  have e2 : (decodeTags true "{\"a\\\"b\":\"v\"}").toOption = none := by rw [Lemmas.decodeTags_ofList]; decide +kernel
  rw [h2] at e2
  simp [Except.toOption] at e2

/-- the same text is accepted once keys may be owned -/
example : (decodeTags false "{\"a\\\"b\":\"v\"}").toOption = some [⟨false, "a\"b", "v"⟩] := by
  rw [Lemmas.decodeTags_ofList]; decide +kernel

/-- The JSON reader inverts the JSON writer on every serialised tag object (any number of members,
    scalar and array values of any length, any Unicode in keys and values: quotes, backslashes,
    control characters written as `\n \r \t \b \f \u00XX`, astral characters): every member comes
    back, in order, each key flagged with whether its spelling needed an escape. -/
theorem tagset_reader_inverts_writer (o : TagObj) :
    readTagObj (renderObj o) = some (o.map fun m => (⟨m.1, m.1.toList.any needsEscape⟩, m.2)) :=
  Lemmas.read_render o

/-- … and it holds with owned keys (the repaired deserialiser): for EVERY non-empty tag list of the
    domain — any Unicode in names and values (quotes, backslashes, control and astral characters),
    repeated names, both kinds — the text written by `askar_entry_list_get_tags` is accepted by
    `askar_session_update` and denotes the same multiset of tags. -/
theorem tagset_text_roundtrip_owned : tagset_text_roundtrip false := by
  intro tags hne hdom
  exact Lemmas.text_roundtrip false tags hne hdom (fun h => by cases h)

/-- the current source: once its deserialiser reads owned keys (flag read from the source), the
    full-strength text round-trip holds for it -/
theorem tagset_text_roundtrip_current (h : keysBorrowedOnly = false) : tagset_text_roundtrip keysBorrowedOnly := by
  rw [h]; exact tagset_text_roundtrip_owned

/-- Either way the verdict on the current tree is decided by the flag read from the source. -/
theorem tagset_text_roundtrip_status :
    (keysBorrowedOnly = false ∧ tagset_text_roundtrip keysBorrowedOnly) ∨
    (keysBorrowedOnly = true ∧ ¬ tagset_text_roundtrip keysBorrowedOnly) :=
  Lemmas.status_of_flag keysBorrowedOnly false tagset_text_roundtrip tagset_text_roundtrip_owned
    tagset_text_roundtrip_refuted_for_borrowed_keys

/-- With borrowed keys (D10) the round-trip still holds on the part of the domain
    where no tag *name* needs an escape (no quote, backslash or control character in a name;
    values are unrestricted). -/
theorem tagset_text_roundtrip_borrowed_partial (tags : List Tag) (hne : tags ≠ [])
    (hdom : ∀ t ∈ tags, t.plain = false → match t.name.toList with | [] => False | c :: _ => c ≠ '~')
    (hplain : ∀ t ∈ tags, t.name.toList.all (fun c => !needsEscape c) = true) :
    ∃ text, encodeTags tags = some (some text) ∧ ∃ out, decodeTags true text = .ok out ∧ out.Perm tags :=
  Lemmas.text_roundtrip true tags hne hdom (fun _ => hplain)

/-- for either deserialiser, stated on the flag of the current source (one statement covering both) -/
theorem tagset_text_roundtrip_partial (tags : List Tag) (hne : tags ≠ [])
    (hdom : ∀ t ∈ tags, t.plain = false → match t.name.toList with | [] => False | c :: _ => c ≠ '~')
    (hplain : keysBorrowedOnly = true → ∀ t ∈ tags, t.name.toList.all (fun c => !needsEscape c) = true) :
    ∃ text, encodeTags tags = some (some text) ∧ ∃ out, decodeTags keysBorrowedOnly text = .ok out ∧ out.Perm tags :=
  Lemmas.text_roundtrip keysBorrowedOnly tags hne hdom hplain

/-- non-vacuity: a name with a quote, a backslash, a control and an astral character; a repeated name -/
example : encodeTags [⟨true, "q\"\\\x01😀", "v\n"⟩, ⟨true, "q\"\\\x01😀", "w"⟩]
    = some (some "{\"~q\\\"\\\\\\u0001😀\":[\"v\\n\",\"w\"]}") := by decide +kernel
example : (decodeTags false "{\"~q\\\"\\\\\\u0001😀\":[\"v\\n\",\"w\"]}").toOption
    = some [⟨true, "q\"\\\x01😀", "v\n"⟩, ⟨true, "q\"\\\x01😀", "w"⟩] := by
  rw [Lemmas.decodeTags_ofList]; decide +kernel

/-- Exactly-once callbacks: for every entry point shape (mandatory or optional callback, early
    `order_by` rejection, any decoding outcome) and every fate of the spawned task (completed with
    any result, never spawned because the runtime is gone, cancelled at shutdown, panicked):
    if the entry returns `Success` and a callback was supplied it fires exactly once (never twice:
    `resolve` marks the guard before its drop), without a callback it fires zero times, and if the
    entry returns an error code it fires zero times. -/
theorem callback_exactly_once {ρ : Type} (mode : CbMode) (cbGiven : Bool) (early : Option Code)
    (decode : Except Err Unit) (fate : TaskFate ρ) (hearly : early ≠ some .success) :
    ((runEntry mode cbGiven early decode fate).1 = .success →
        (runEntry mode cbGiven early decode fate).2.length = if cbGiven then 1 else 0)
    ∧ ((runEntry mode cbGiven early decode fate).1 ≠ .success → (runEntry mode cbGiven early decode fate).2 = []) :=
  Lemmas.callback_exactly_once mode cbGiven early decode fate hearly

/-- a mandatory callback that is absent is an error code (and, by the theorem above, no call) -/
theorem missing_callback_is_error {ρ : Type} (early : Option Code) (decode : Except Err Unit) (fate : TaskFate ρ)
    (hearly : early = none) : (runEntry .required false early decode fate).1 = .input := by
  subst hearly; simp [runEntry]

/-- malformed arguments of `askar_session_update` are `Input` errors: an operation code outside
    0..2 (whatever the other arguments), an absent category -/
theorem update_bad_operation_is_error (b : Bool) (operation : Int) (c n t : CStr) (e : Int)
    (h0 : operation ≠ 0) (h1 : operation ≠ 1) (h2 : operation ≠ 2) :
    (decodeUpdate b operation c n t e).toOption = none ∧
    ∀ x, decodeUpdate b operation c n t e = .error x → x = .input := by
  simp [decodeUpdate, decodeOperation, h0, h1, h2, bind, Except.bind, Except.toOption]

theorem update_missing_category_is_error (b : Bool) (operation : Int) (n t : CStr) (e : Int) :
    ∀ x, decodeUpdate b operation .null n t e = .error x → x = .input := by
  intro x h
  unfold decodeUpdate at h
  -- either the operation code is refused, and only with `Input`, or the absent category is
  cases ho : decodeOperation operation with
  | error y => rw [ho] at h; cases (show Except.error y = Except.error x from h); exact Lemmas.decodeOperation_err ho
  | ok op => rw [ho, Lemmas.required_null] at h; exact (Except.error.inj h).symm

/-- the hypotheses are satisfiable and the model is not trivial -/
example : (runReg ({} : ResMap Unit) [.insert 0 (), .remove 1, .insert 0 (), .removeAll 0, .insert 0 ()]).2 = [1, 2, 3] := by decide +kernel
example : ((ResultList.rows [10, 20, 30]).getRow 2).toOption = some 30 := by decide +kernel
example : ((ResultList.rows [10, 20, 30]).getRow (-1)).toOption = none := by decide +kernel
example : ((ResultList.rows [10, 20, 30]).getRow 3).toOption = none := by decide +kernel
example : ((ResultList.single 7).getRow 0).toOption = some 7 ∧ (ResultList.single 7).len = 0 := by decide +kernel
example : (runEntry (ρ := Unit) .required true none (.ok ()) .cancelled).2.length = 1 := by decide +kernel
example : serializeSet [⟨false, "a", "aval"⟩, ⟨true, "b", "bval"⟩, ⟨true, "b", "bval-2"⟩]
    = some [("a", .single "aval"), ("~b", .multiple ["bval", "bval-2"])] := by decide +kernel

/-! ## Three sites with a repaired and an unrepaired variant (D32, D33, D34)

For each: the property-level statement, parameterised by the variant; it holds for the repaired
variant (all inputs), hence on the current tree whenever the flag read from the source says the
repair is there; it is refuted for the unrepaired variant by a concrete witness. -/

/-! ### D32 — a re-key through the C API gives the result of the same re-key through the Rust API -/

def RekeyFfiEqualsRustBy (keepsNone : Bool) : Prop :=
  ∀ (validRaw : String → Bool) (m : MethodClass) (pass : CStr),
    rekeyFfiG keepsNone validRaw m pass = rekeyRust validRaw m pass.asOptStr

/-- … and for the CURRENT tree (`rekeyFfi` follows `Generated.Flags.passKeyAsRefKeepsNone`). -/
def RekeyFfiEqualsRust : Prop :=
  ∀ (validRaw : String → Bool) (m : MethodClass) (pass : CStr),
    rekeyFfi validRaw m pass = rekeyRust validRaw m pass.asOptStr

/-- With an `as_ref` that keeps an absent pass key absent the two routes agree, for every method,
    every pass key (absent, blank, malformed, valid) and every notion of raw-key validity. -/
theorem rekey_ffi_equals_rust_of_repair : RekeyFfiEqualsRustBy true := by
  intro validRaw m pass; rfl

/-- Hence on the current tree whenever the source has the repair. -/
theorem rekey_ffi_equals_rust_current (hg : passKeyAsRefKeepsNone = true) : RekeyFfiEqualsRust := by
  intro validRaw m pass
  unfold rekeyFfi; rw [hg]; rfl

/-- Without it the statement is FALSE (defect D32): a NULL
    pass key becomes `Some("")`, so `askar_store_rekey(h, "kdf:…", NULL)` derives the new store key
    from the empty password and succeeds, where `Store::rekey(.., PassKey::empty())` is refused. -/
theorem rekey_null_pass_accepted_without_repair : ¬ RekeyFfiEqualsRustBy false := by
  intro h
  have := h (fun _ => false) .kdf .null
  simp [rekeyFfiG, rekeyRust, resolveNewKey, passKeyAsRefG, CStr.asOptStr] at this

/-- In particular the repaired C API refuses a NULL password for a derived key and a NULL raw key. -/
theorem rekey_null_pass_refused_of_repair (validRaw : String → Bool) :
    rekeyFfiG true validRaw .kdf .null = .error .input ∧ rekeyFfiG true validRaw .raw .null = .error .input := by
  constructor <;> rfl

/-- What holds for BOTH variants: a pass key that is present reaches the store unchanged, a NULL or
    blank raw key is refused, and no pass key is needed to remove the protection. -/
theorem rekey_without_repair_partial (keepsNone : Bool) (validRaw : String → Bool) (m : MethodClass) (pass : CStr) :
    (pass.asOptStr ≠ none → rekeyFfiG keepsNone validRaw m pass = rekeyRust validRaw m pass.asOptStr)
    ∧ rekeyFfiG keepsNone validRaw .raw .null = .error .input
    ∧ rekeyFfiG keepsNone validRaw .raw (.utf8 "") = .error .input
    ∧ rekeyFfiG keepsNone validRaw .unprotected pass = .ok () := by
  refine ⟨?_, ?_, ?_, ?_⟩
  · intro hp
    cases hs : pass.asOptStr with
    | none => exact absurd hs hp
    | some v => cases keepsNone <;> simp [rekeyFfiG, rekeyRust, passKeyAsRefG, hs]
  · cases keepsNone <;> simp [rekeyFfiG, resolveNewKey, passKeyAsRefG, CStr.asOptStr]
  · cases keepsNone <;> simp [rekeyFfiG, resolveNewKey, passKeyAsRefG, CStr.asOptStr]
  · cases keepsNone <;> simp [rekeyFfiG, resolveNewKey]

/-- Either way the verdict on the current tree is decided by the flag read from the source. -/
theorem rekey_ffi_status :
    (passKeyAsRefKeepsNone = true ∧ RekeyFfiEqualsRust) ∨ (passKeyAsRefKeepsNone = false ∧ ¬ RekeyFfiEqualsRust) :=
  Lemmas.status_of_flag passKeyAsRefKeepsNone true RekeyFfiEqualsRustBy rekey_ffi_equals_rust_of_repair
    rekey_null_pass_accepted_without_repair

/-! ### D33 — the error code an entry point returned is the one `askar_get_current_error` reports -/

/-- every error that goes through `set_last_error` is what the next `askar_get_current_error`
    reports, whatever the slot held before; reading empties the slot -/
theorem reported_error_is_retrievable (c : Code) (s : ErrSlot) :
    (takeCurrentError (setLastError c s).2).1 = c.num ∧ (takeCurrentError (takeCurrentError (setLastError c s).2).2).1 = 0 := by
  constructor <;> rfl

def OrderByErrorRetrievableBy (recorded : Bool) : Prop :=
  ∀ s : ErrSlot, (orderByRejectG recorded s).1 = .unsupported
    ∧ (takeCurrentError (orderByRejectG recorded s).2).1 = Code.unsupported.num

/-- … and for the CURRENT tree (`orderByReject` follows `Generated.Flags.ffiOrderByErrorRecorded`). -/
def OrderByErrorRetrievable : Prop :=
  ∀ s : ErrSlot, (orderByReject s).1 = .unsupported ∧ (takeCurrentError (orderByReject s).2).1 = Code.unsupported.num

/-- When the rejection returns through `set_last_error` the caller can retrieve it, whatever the
    slot held before. -/
theorem order_by_error_retrievable_of_repair : OrderByErrorRetrievableBy true := by
  intro s; constructor <;> rfl

theorem order_by_error_retrievable_current (hg : orderByErrorRecorded = true) : OrderByErrorRetrievable := by
  intro s
  unfold orderByReject; rw [hg]
  exact order_by_error_retrievable_of_repair s

/-- Without it the statement is FALSE (defect D33): the direct
    `return ErrorCode::Unsupported` leaves the slot alone, so after an earlier `Input` error (code 5)
    the caller who asks for the details of the `Unsupported` failure is told `Input`. -/
theorem order_by_error_lost_without_repair : ¬ OrderByErrorRetrievableBy false := by
  intro h
  have := (h 5).2
  simp [orderByRejectG, takeCurrentError, Code.num] at this

/-- What holds for both variants: the return code itself, and the slot is never corrupted — it
    holds either the new code or exactly what it held before. -/
theorem order_by_without_repair_partial (recorded : Bool) (s : ErrSlot) :
    (orderByRejectG recorded s).1 = .unsupported
    ∧ ((orderByRejectG recorded s).2 = Code.unsupported.num ∨ (orderByRejectG recorded s).2 = s) := by
  cases recorded
  · exact ⟨rfl, Or.inr rfl⟩
  · exact ⟨rfl, Or.inl rfl⟩

theorem order_by_error_status :
    (orderByErrorRecorded = true ∧ OrderByErrorRetrievable) ∨ (orderByErrorRecorded = false ∧ ¬ OrderByErrorRetrievable) :=
  Lemmas.status_of_flag orderByErrorRecorded true OrderByErrorRetrievableBy order_by_error_retrievable_of_repair
    order_by_error_lost_without_repair

/-! ### D34 — `askar_get_current_error` with a NULL out-pointer is an error code, not a crash -/

def CurrentErrorNullOutIsErrorBy (checksOut : Bool) : Prop :=
  ∀ s : ErrSlot, getCurrentErrorG checksOut true s = (.inputError, none, s)

/-- … and for the CURRENT tree (`getCurrentError` follows `Generated.Flags.ffiCurrentErrorChecksOut`). -/
def CurrentErrorNullOutIsError : Prop :=
  ∀ s : ErrSlot, getCurrentError true s = (.inputError, none, s)

/-- With the check: an error code, nothing written, and the pending error is still there for a
    second, correct call. -/
theorem current_error_null_out_is_error_of_repair : CurrentErrorNullOutIsErrorBy true := by
  intro s; rfl

theorem current_error_null_out_is_error_current (hg : currentErrorChecksOut = true) : CurrentErrorNullOutIsError := by
  intro s
  unfold getCurrentError; rw [hg]; rfl

/-- Without it the statement is FALSE (defect D34): the
    function writes through the NULL pointer. -/
theorem current_error_null_out_crashes_without_repair : ¬ CurrentErrorNullOutIsErrorBy false := by
  intro h
  have := h 0
  simp [getCurrentErrorG] at this

/-- For both variants a valid out-pointer receives the pending code and the slot is emptied. -/
theorem current_error_valid_out (checksOut : Bool) (s : ErrSlot) :
    getCurrentErrorG checksOut false s = (.ok, some s, 0) := by
  cases checksOut <;> rfl

theorem current_error_null_out_status :
    (currentErrorChecksOut = true ∧ CurrentErrorNullOutIsError) ∨ (currentErrorChecksOut = false ∧ ¬ CurrentErrorNullOutIsError) :=
  Lemmas.status_of_flag currentErrorChecksOut true CurrentErrorNullOutIsErrorBy current_error_null_out_is_error_of_repair
    current_error_null_out_crashes_without_repair

/-- non-vacuity: both variants compute, and differ exactly at the three sites -/
example : rekeyFfiG false (fun _ => false) .kdf .null = .ok () := rfl
example : rekeyFfiG true (fun _ => false) .kdf .null = .error .input := rfl
example : (rekeyFfiG true (fun k => k == "K") .raw (.utf8 "K")).toOption = some () := by decide +kernel
example : (rekeyFfiG true (fun k => k == "K") .raw (.utf8 "L")).toOption = none := by decide +kernel
example : (takeCurrentError (orderByRejectG false 5).2).1 = 5 ∧ (takeCurrentError (orderByRejectG true 5).2).1 = 8 := by decide +kernel
example : (getCurrentErrorG false true 3).1 = .segfault ∧ (getCurrentErrorG true true 3).1 = .inputError := by decide +kernel

/-! ## The entry-point table (Model/FfiEntry.lean): key operations, store removal / copy / migration,
    handles closed while in use, loggers -/

/-! ### Synchronous key entry points: malformed arguments are error codes, nothing is written -/

/-- A NULL out-pointer is an `Input` error for every one of the 17 key entry points, whatever the other
    arguments are (valid or not) and whatever the Rust API would answer; nothing is written, and the
    error is the one `askar_get_current_error` reports. -/
theorem key_entry_null_out_is_input {ρ : Type} (e : KeyEntry) (a : SyncArgs) (body : Except Err ρ) (s : ErrSlot)
    (h : a.outNull = true) : e.run a body s = (.input, none, Code.input.num) := by
  obtain ⟨cs, hcs⟩ := Lemmas.checks_head e
  unfold KeyEntry.run
  rw [Lemmas.runSync_of_checks_err _ a body s .input (by rw [hcs]; exact Lemmas.runChecks_null_out a cs h)]
  rfl

/-- A NULL key handle in ANY handle position of ANY entry point is an error code (never `Success`), and
    nothing is written through `out`; the code is `Input` unless an argument tested earlier is malformed
    too (then it is that argument's code: `Unsupported` / `Unexpected` for the algorithm string). -/
theorem key_entry_null_handle_is_error {ρ : Type} (e : KeyEntry) (a : SyncArgs) (body : Except Err ρ) (s : ErrSlot)
    (i : Nat) (hi : i < e.handles) (hn : a.handlesNull.getD i true = true) :
    (e.run a body s).1 ≠ .success ∧ (e.run a body s).2.1 = none ∧
    ((e.run a body s).1 = .input ∨ (e.run a body s).1 = .unsupported ∨ (e.run a body s).1 = .unexpected) := by
  obtain ⟨y, hy⟩ := Lemmas.runChecks_fails a e.checks (.handle i) ((Lemmas.handle_mem_iff e i).mpr hi) ⟨.input, by simp only [Check.run, hn]; rfl⟩
  unfold KeyEntry.run
  rw [Lemmas.runSync_of_checks_err _ a body s y hy]
  refine ⟨Lemmas.ofErr_ne_success y, rfl, ?_⟩
  rcases Lemmas.runChecks_err_kind a _ y hy with rfl | rfl | rfl <;> simp [Code.ofErr]

/-- Equivalence with the Rust API: when every argument passes the checks (out-pointer and handles not
    NULL, a known algorithm name, lengths not negative), the C entry point reports exactly what the Rust
    call reports on the same arguments — `Success` with its value written through `out`, or the code of
    its `ErrorKind` with nothing written and the error recorded for `askar_get_current_error`. -/
theorem key_entry_equals_rust {ρ : Type} (e : KeyEntry) (a : SyncArgs) (body : Except Err ρ) (s : ErrSlot)
    (hw : a.WellFormed e.handles) :
    e.run a body s = match body with
      | .ok v => (.success, some v, s)
      | .error x => (Code.ofErr x, none, (Code.ofErr x).num) :=
  Lemmas.runSync_of_checks_ok e.checks a body s (Lemmas.wellFormed_checks e a hw) hw.2.2.2.1

/-- `out` is written exactly when the call returns `Success` (any list of checks, any arguments). -/
theorem sync_out_written_iff_success {ρ : Type} (cs : List Check) (a : SyncArgs) (body : Except Err ρ) (s : ErrSlot) :
    (runSync cs a body s).2.1.isSome = true ↔ (runSync cs a body s).1 = .success := by
  rcases Lemmas.runSync_shape cs a body s with ⟨v, h⟩ | ⟨c, hc, h⟩ <;> rw [h]
  · simp
  · simp [hc]

/-- Every error return is retrievable: the slot holds the returned code; a `Success` leaves the slot alone. -/
theorem sync_error_recorded {ρ : Type} (cs : List Check) (a : SyncArgs) (body : Except Err ρ) (s : ErrSlot) :
    ((runSync cs a body s).1 ≠ .success → (takeCurrentError (runSync cs a body s).2.2).1 = (runSync cs a body s).1.num) ∧
    ((runSync cs a body s).1 = .success → (runSync cs a body s).2.2 = s) := by
  rcases Lemmas.runSync_shape cs a body s with ⟨v, h⟩ | ⟨c, hc, h⟩ <;> rw [h]
  · simp
  · simp [hc, takeCurrentError]

/-- A negative `ByteBuffer` length (which the header forbids) is answered with an error code: the panic
    of `as_slice` is caught by `catch_err!` and reported as `Unexpected`; nothing is written. -/
theorem key_entry_negative_length_is_unexpected {ρ : Type} (e : KeyEntry) (a : SyncArgs) (body : Except Err ρ) (s : ErrSlot)
    (hc : runChecks a e.checks = .ok ()) (hb : a.bufNeg = true) :
    e.run a body s = (.unexpected, none, Code.unexpected.num) :=
  Lemmas.runSync_of_bufNeg e.checks a body s hc hb

/-- the table has all 17 entry points, each tests the out-pointer first -/
example : KeyEntry.all.length = 17 ∧ KeyEntry.all.all (fun e => e.checks.head? == some .outPtr) = true := by decide +kernel
/-- order of validation as in the source: `unwrap_key` loads the handle before it parses the algorithm,
    `convert` parses first -/
example : (KeyEntry.unwrapKey.run (ρ := Unit) { alg := .unknown, handlesNull := [true] } (.ok ()) 0).1 = .input := by decide +kernel
example : (KeyEntry.convert.run (ρ := Unit) { alg := .unknown, handlesNull := [true] } (.ok ()) 0).1 = .unsupported := by decide +kernel
example : (KeyEntry.aeadGetPadding.run (ρ := Nat) { msgLenNeg := true, handlesNull := [false] } (.ok 0) 3) = (.input, none, 5) := by decide +kernel
/-- the hypotheses of `key_entry_equals_rust` are satisfiable and the result depends on the body -/
example : (KeyEntry.deriveEcdh1pu.run (ρ := Nat) { handlesNull := [false, false, false] } (.ok 7) 3) = (.success, some 7, 3) := by decide +kernel
example : (KeyEntry.aeadDecrypt.run (ρ := Nat) { handlesNull := [false] } (.error .encryption) 3) = (.encryption, none, 4) := by decide +kernel
example : algArg (.utf8 "a256gcm") = .known ∧ algArg .null = .unknown ∧ algArg (.invalid "") = .unknown := by decide +kernel
example : encryptedLayout "a256cbchs512" 17 0 = (32, 64, 80) ∧ wrappedLayout "a128kw" "a256gcm" 0 = (40, 40, 40) := by decide +kernel

/-! ### Asynchronous entry points (`askar_store_remove`, `askar_store_copy`, `askar_migrate_indy_sdk`,
    `askar_store_provision`, `askar_store_open`) -/

/-- A NULL among the mandatory strings (the URI; for the migration any of spec_uri / wallet_name /
    wallet_key / kdf_level) is an `Input` return code and the callback is never invoked. -/
theorem async_missing_string_is_input_no_callback {ρ : Type} (e : AsyncEntry) (cbGiven : Bool) (parse : String → Except Err Unit)
    (strs : List CStr) (method : CStr) (fate : TaskFate ρ) (h : CStr.null ∈ strs.take e.required) :
    e.run cbGiven parse strs method fate = (.input, []) := by
  cases cbGiven <;> simp [AsyncEntry.run, AsyncEntry.decode, runEntry, Lemmas.decodeRequired_null _ h, Code.ofErr]

/-- Without a callback: `Input`, and nothing is started. -/
theorem async_missing_callback_is_input {ρ : Type} (e : AsyncEntry) (parse : String → Except Err Unit)
    (strs : List CStr) (method : CStr) (fate : TaskFate ρ) : e.run false parse strs method fate = (.input, []) := by
  simp [AsyncEntry.run, runEntry]

/-- A key method string that does not parse is that error's code, and no callback. -/
theorem async_bad_method_is_error_no_callback {ρ : Type} (e : AsyncEntry) (parse : String → Except Err Unit)
    (strs : List CStr) (m : String) (x : Err) (fate : TaskFate ρ) (hm : e.hasMethod = true)
    (hs : decodeRequired (strs.take e.required) = .ok ()) (hp : parse m = .error x) :
    e.run true parse strs (.utf8 m) fate = (Code.ofErr x, []) := by
  simp [AsyncEntry.run, AsyncEntry.decode, runEntry, hs, hm, decodeMethod, CStr.asOptStr, hp]

/-- Exactly-once for the entry points of the table: `Success` ⇒ the callback fires exactly once, whatever becomes
    of the task (completed with any result — the error arms Backend / Busy / Input / Unsupported /
    Encryption / NotFound included —, never spawned, cancelled, panicked); any other code ⇒ never. -/
theorem async_callback_exactly_once {ρ : Type} (e : AsyncEntry) (cbGiven : Bool) (parse : String → Except Err Unit)
    (strs : List CStr) (method : CStr) (fate : TaskFate ρ) :
    ((e.run cbGiven parse strs method fate).1 = .success → (e.run cbGiven parse strs method fate).2.length = 1) ∧
    ((e.run cbGiven parse strs method fate).1 ≠ .success → (e.run cbGiven parse strs method fate).2 = []) := by
  unfold AsyncEntry.run
  have h := Lemmas.callback_exactly_once .required cbGiven none (e.decode parse strs method) fate (by simp)
  refine ⟨fun hs => ?_, h.2⟩
  cases cbGiven
  · simp [runEntry] at hs
  · simpa using h.1 hs

/-- the order of the migration's tests: callback, spec_uri, wallet_name, wallet_key, kdf_level -/
example : (AsyncEntry.migrateIndySdk.run (ρ := Unit) true (fun _ => .ok ()) [.utf8 "p", .utf8 "n", .utf8 "k", .null] .null (.completed (.ok ()))) = (.input, []) := rfl
example : (AsyncEntry.migrateIndySdk.run (ρ := Unit) true (fun _ => .ok ()) [.utf8 "p", .utf8 "n", .utf8 "k", .utf8 "RAW"] .null (.completed (.error .backend))).2.length = 1 := by decide +kernel
example : (AsyncEntry.storeCopy.run (ρ := Unit) true (fun _ => .error .unsupported) [.utf8 "u"] (.utf8 "bogus") .cancelled) = (.unsupported, []) := rfl

/-! ### "Busy": a session or scan handle closed while a call on it is in flight -/

/-- `remove` answers `Busy` exactly when the entry is in the map and some in-flight call holds it; it
    hands the value over exactly when the entry is in the map and nobody holds it; and it reports
    "not found" exactly when the handle is not (or no longer) in the map. -/
theorem remove_busy_iff_in_use (e : CEntry) :
    ((cstep e .remove).2 = .busy ↔ (e.inMap = true ∧ 0 < e.holders)) ∧
    ((cstep e .remove).2 = .taken ↔ (e.inMap = true ∧ e.holders = 0)) ∧
    ((cstep e .remove).2 = .notFound ↔ e.inMap = false) := by
  rw [Lemmas.cstep_remove]
  cases e.inMap <;> by_cases hh : e.holders = 0 <;> simp [hh] <;> omega

/-- Whatever `remove` answers — value, `Busy`, not found — the handle is out of the map afterwards … -/
theorem remove_invalidates (e : CEntry) : (cstep e .remove).1.inMap = false := by
  rw [Lemmas.cstep_remove]

/-- … and stays out, along every later sequence of events (calls started, calls ending, further closes,
    the store closing): every call that reaches `borrow` is told `Input`, every close "not found";
    no later event can get hold of the resource. -/
theorem removed_handle_stays_invalid (e : CEntry) (evs : List CEv) :
    (crun (cstep e .remove).1 evs).1.inMap = false ∧
    ∀ r ∈ (crun (cstep e .remove).1 evs).2, r ≠ .borrowed ∧ r ≠ .taken ∧ r ≠ .busy :=
  Lemmas.crun_dead evs _ (remove_invalidates e)

/-- every event is answered exactly once (one result per call, one per close) -/
theorem one_answer_per_event (e : CEntry) (evs : List CEv) : (crun e evs).2.length = evs.length :=
  Lemmas.crun_length evs e

/-- `askar_session_close`: the callback receives `Busy`, `Success`, or — when a commit was asked for and
    the session could be taken — the commit's own result, exactly once; `Busy` exactly when the session
    is in use.  After a `Busy` the resource lives on in the in-flight call and is freed by its end. -/
theorem session_close_busy_or_own_result (e : CEntry) (commit : Bool) (cr : Except Err Unit) :
    ((sessionCloseTask e commit cr).2 = .error .busy ∨ (sessionCloseTask e commit cr).2 = .ok () ∨
        (commit = true ∧ (sessionCloseTask e commit cr).2 = cr)) ∧
    (e.inMap = true ∧ 0 < e.holders → (sessionCloseTask e commit cr).2 = .error .busy) ∧
    (sessionCloseTask e commit cr).1.inMap = false ∧
    (taskFires (ρ := Unit) {} (.completed (sessionCloseTask e commit cr).2)).length = 1 := by
  rw [Lemmas.sessionCloseTask_eq]
  refine ⟨?_, ?_, rfl, Lemmas.taskFires_length _⟩
  · cases e.inMap <;> by_cases hh : e.holders = 0 <;> cases commit <;> simp [hh]
  · rintro ⟨hm, hh⟩
    simp [hm, Nat.ne_of_gt hh]

/-- after a `Busy` close the last holder's release frees the resource (no leak); until then it is alive -/
theorem busy_resource_freed_by_last_release (e : CEntry) (hm : e.inMap = false) :
    (e.holders = 1 → (cstep e .release).1.alive = false) ∧ (1 < e.holders → (cstep e .release).1.alive = true) := by
  constructor <;> intro h <;> simp [cstep, CEntry.alive, hm] <;> omega

/-- The race between one in-flight call and the close has exactly three outcomes: the close ran first
    (the call is told "invalid handle", the close succeeds), in between (`Busy`; the call runs to its own
    result), or last (both succeed).  This is the set the correspondence run checks observations against. -/
theorem close_race_outcomes (commit : Bool) :
    closeRaceOutcomes commit (.ok ()) = [(false, .ok ()), (true, .error .busy), (true, .ok ())] := by
  cases commit <;> rfl

/-! ### Loggers: one per process, levels validated, nothing once disabled -/

/-- Once a logger is installed (custom or default) every further installation — custom at any level,
    or default — is refused with `Input` and changes nothing. -/
theorem one_logger_per_process (st : LoggerState) (level : Int) (h : st ≠ .none) :
    (setCustomLogger st level) = (.input, st) ∧ setDefaultLogger st = (.input, st) := by
  cases st <;> simp_all [setCustomLogger, setDefaultLogger]
  all_goals (cases levelValid level <;> simp)

/-- A level outside -1..5 is refused by both level-taking entry points, before anything is installed. -/
theorem invalid_log_level_refused (st : LoggerState) (level : Int) (h : levelValid level = false) :
    setCustomLogger st level = (.input, st) ∧ setMaxLogLevel level = .input := by
  simp [setCustomLogger, setMaxLogLevel, h]

/-- No record reaches the C callback above the maximum level, none when the `enabled` callback says no,
    and none at all once `disabled` is set, which is what `askar_clear_custom_logger` does. -/
theorem log_record_delivery (maxLevel : Nat) (disabled : Bool) (cb : Option (Nat → Bool)) (lvl : Nat) :
    (recordDelivered maxLevel disabled cb lvl = true → lvl ≤ maxLevel ∧ disabled = false ∧ ∀ f, cb = some f → f lvl = true) ∧
    recordDelivered maxLevel true cb lvl = false := by
  constructor
  · intro h
    simp only [recordDelivered, Bool.and_eq_true, decide_eq_true_eq, Bool.not_eq_true'] at h
    refine ⟨h.1.1, h.1.2, ?_⟩
    intro f hf; subst hf; exact h.2
  · simp [recordDelivered]

example : setCustomLogger .none 5 = (.success, .custom) ∧ setCustomLogger .none 6 = (.input, .none) ∧ setDefaultLogger .none = (.success, .default) := by decide +kernel
example : recordDelivered 5 false (some fun l => decide (l ≤ 4)) 5 = false ∧ recordDelivered 5 false none 5 = true := by decide +kernel


/-! ### the error-code tables are the source's (regenerated from src/ffi/error.rs on every run) -/

/-- every `ErrorCode` of the model has the name and the discriminant the CURRENT source declares, in declaration order -/
theorem ffi_error_codes_match_source :
    [Code.success, .backend, .busy, .duplicate, .encryption, .input, .notFound, .unexpected, .unsupported, .custom].map
      (fun c => (c.name, c.num)) = Askar.Generated.Tables.ffiErrorCodes := by decide +kernel

/-- `Code.ofErr` is the source's `impl From<ErrorKind> for ErrorCode`, arm for arm -/
theorem ffi_code_of_kind_matches_source :
    [Err.backend, .busy, .custom, .duplicate, .encryption, .input, .notFound, .unexpected, .unsupported].map
      (fun e => (e.name, (Code.ofErr e).name)) = Askar.Generated.Tables.ffiCodeOfKind := by decide +kernel

/-! ### A backend that fails inside an accepted call; tasks that never complete; closes without a callback -/

/-- An accepted call (callback supplied, arguments decoded) whose task runs to the end delivers exactly
    its result — whatever it is: a value or ANY error kind (Backend from a failing statement, Busy, …) —
    through the callback, once, and the entry point itself has returned `Success`.  For every entry point
    of the table. -/
theorem accepted_call_result_delivered_once {ρ : Type} (e : AsyncEntry) (parse : String → Except Err Unit)
    (strs : List CStr) (method : CStr) (r : Except Err ρ) (hd : e.decode parse strs method = .ok ()) :
    e.run true parse strs method (.completed r) = (.success, [⟨r⟩]) := by
  rw [Lemmas.AsyncEntry.run_accepted e parse strs method _ hd, Lemmas.taskFires_completed]

/-- The drop guard: when the task of an accepted call never completes — the runtime was shut down before
    the spawn (`askar_terminate` earlier), the task is cancelled at shutdown, or it unwinds — the callback
    still fires, exactly once, with `Unexpected`. -/
theorem dropped_task_fires_unexpected_once {ρ : Type} (e : AsyncEntry) (parse : String → Except Err Unit)
    (strs : List CStr) (method : CStr) (hd : e.decode parse strs method = .ok ()) :
    e.run (ρ := ρ) true parse strs method .notSpawned = (.success, [⟨.error .unexpected⟩]) ∧
    e.run (ρ := ρ) true parse strs method .cancelled = (.success, [⟨.error .unexpected⟩]) ∧
    e.run (ρ := ρ) true parse strs method .panicked = (.success, [⟨.error .unexpected⟩]) := by
  simp only [Lemmas.AsyncEntry.run_accepted e parse strs method _ hd]
  exact ⟨rfl, rfl, rfl⟩

/-- What a callback delivered as an error is what `askar_get_current_error` reports next (the error arm of
    every callback closure goes through `set_last_error`); a delivered value leaves the slot alone. -/
theorem delivered_error_is_retrievable {ρ : Type} (x : Err) (v : ρ) (s : ErrSlot) :
    (takeCurrentError (deliver [(⟨.error x⟩ : Fire ρ)] s)).1 = (Code.ofErr x).num ∧ deliver [(⟨.ok v⟩ : Fire ρ)] s = s := by
  constructor <;> rfl

/-- A store call whose first statement is hit by a fault on the file (an ABORT trigger on the table it
    writes, a table that is not there) fails with Backend; a call no fault hits keeps its own result —
    e.g. a row-level trigger does not fire for a DELETE that matches no row. -/
theorem faulted_call_is_backend {ρ : Type} (faults : List Fault) (call : StoreCall) (own : Except Err ρ) :
    (faults.any (·.hits call) = true → faultedResult faults call own = .error .backend) ∧
    (faults.any (·.hits call) = false → faultedResult faults call own = own) := by
  constructor <;> intro h <;> simp [faultedResult, h]

/-- Together: through the C API such a failure arrives as `Success` from the entry point, ONE callback
    carrying Backend, and Backend (code 1) in the error slot. -/
theorem faulted_call_backend_through_callback_once {ρ : Type} (e : AsyncEntry) (parse : String → Except Err Unit)
    (strs : List CStr) (method : CStr) (faults : List Fault) (call : StoreCall) (own : Except Err ρ) (s : ErrSlot)
    (hd : e.decode parse strs method = .ok ()) (hf : faults.any (·.hits call) = true) :
    e.run true parse strs method (.completed (faultedResult faults call own)) = (.success, [⟨.error .backend⟩]) ∧
    (takeCurrentError (deliver (e.run true parse strs method (.completed (faultedResult faults call own))).2 s)).1 = Code.backend.num := by
  rw [accepted_call_result_delivered_once e parse strs method _ hd, (faulted_call_is_backend faults call own).1 hf]
  exact ⟨rfl, rfl⟩

/-- `askar_store_close` / `askar_session_close` take an optional callback.  Without one nothing is ever
    invoked, whatever the arguments and whatever becomes of the task (its failure — invalid handle, Busy —
    is only logged); with one it fires exactly once for every fate. -/
theorem close_without_callback_never_fires {ρ : Type} (early : Option Code) (decode : Except Err Unit) (fate : TaskFate ρ) :
    (runEntry .optional false early decode fate).2 = [] := by
  cases early <;> cases decode <;> simp [runEntry]

theorem close_with_callback_fires_once {ρ : Type} (fate : TaskFate ρ) :
    (runEntry .optional true none (.ok ()) fate).1 = .success ∧ (runEntry .optional true none (.ok ()) fate).2.length = 1 := by
  exact ⟨rfl, Lemmas.taskFires_length fate⟩

/-- the NULL-argument arms: profile name of remove_profile / set_default_profile, key
    name of update_key / remove_key, each string of the migration -/
example : (AsyncEntry.removeProfile.run (ρ := Unit) true (fun _ => .ok ()) [.null] .null (.completed (.ok ()))) = (.input, []) := rfl
example : (AsyncEntry.updateKey.run (ρ := Unit) true (fun _ => .ok ()) [.null] .null (.completed (.ok ()))) = (.input, []) := rfl
example : (AsyncEntry.removeKey.run (ρ := Unit) true (fun _ => .ok ()) [.null] .null .cancelled) = (.input, []) := rfl
example : (AsyncEntry.listProfiles.run (ρ := Unit) false (fun _ => .ok ()) [] .null (.completed (.ok ()))) = (.input, []) := rfl
example : (AsyncEntry.migrateIndySdk.run (ρ := Unit) true (fun _ => .ok ()) [.null, .utf8 "n", .utf8 "k", .utf8 "RAW"] .null .notSpawned) = (.input, []) := rfl
/-- the fault table is not trivial: hits and misses -/
example : Fault.profilesDelete.hits (.removeProfile true) = true ∧ Fault.profilesDelete.hits (.removeProfile false) = false ∧
    Fault.itemsDelete.hits (.removeAll 0) = false ∧ Fault.itemsDelete.hits (.removeAll 3) = true ∧ Fault.itemsInsert.hits .rekey = false ∧
    Fault.profilesHidden.hits .listProfiles = true := by decide +kernel
example : (AsyncEntry.setDefaultProfile.run (ρ := Unit) true (fun _ => .ok ()) [.utf8 "p2"] .null
    (.completed (faultedResult [.configWrite] .setDefaultProfile (.ok ())))).2.length = 1 := by decide +kernel

end Askar.Ffi
