/-
C11 — stored keys come back intact and are found by algorithm, thumbprint and tags.
Lemmas in Lemmas/KeyStore.lean, the model (src/store.rs key API + src/kms/entry.rs) in Model/KeyStore.lean.

Parameters (never axioms): the CBOR codec `C : Cbor` with the round-trip law `C.Lawful`; the key material
`O : KeyOps K` with `O.Lawful sym` (export/import round trip wherever `from_jwk_any` has a branch — C14's subject);
the LIKE relation; C04's idealisation `NoPrefixCollision` wherever a tag filter reaches the SQL encoder.

Two statements of the property depend on a flag that tools/extract.py reads from the source on every run
(`Generated/Flags.lean`).  Each is kept as a `def … : Bool → Prop` over the flag, refuted from a concrete witness for one
value, proved for the other, with the part that holds for both under `…_partial` and an `iff` that says for which value
it holds:
* `FetchAllKeysExact fixed ↔ fixed = true` — D6: with the `user:` prefix put before a leading `~` (`fixed = false`)
  plaintext user-tag filters never match; the source's value is `prefixAfterTilde`;
* `LoadAfterInsert sym ↔ sym = true` — D15: without an `oct` branch in `from_jwk_any` (`sym = false`) symmetric keys do
  not load back; the source's value is `symmetricJwkImport`.
-/
import AskarModel.Model.KeyStore
import AskarModel.Lemmas.KeyStore
import AskarModel.Model.Seed
import AskarModel.Lemmas.Seed

namespace Askar.KeyStore
open Askar.Wql Askar.Store

/-- After a successful `insert_key`, `fetch_key` of that name returns the entry with the key's algorithm, its
    (sorted) thumbprints, the metadata and reference given, the caller's tags (sorted, names and kinds untouched —
    whatever they are, including names beginning `user:`, `alg`, `thumb`, `~`) and the exported key as data. -/
theorem fetch_key_after_insert {K : Type} (C : Cbor) (hC : C.Lawful) (O : KeyOps K) (db db' : Db) (now : Int) (s : Sess)
    (name : String) (k : K) («meta» : Option String) (ref : Option KeyRef) (tags : Option (List Tag))
    (h : insertKey C O db now s name k «meta» ref tags none = .ok db') :
    ∃ data ths, O.encode k = .ok data ∧ O.thumbs k = .ok ths ∧
      fetchKey C db' now s name =
        .ok (some ⟨name, ⟨«meta», ref, some data⟩, Lemmas.algOpt (O.alg k), sortStrs ths, sortTags (tags.getD [])⟩) :=
  Lemmas.fetch_key_after_insert C hC O db db' now s name k «meta» ref tags h

/-- … and `load_local_key` of that entry is the inserted key, for the eight asymmetric algorithms, which
    `from_jwk_any` dispatches whether or not it has an `oct` branch. -/
theorem load_local_key_after_insert_partial {K : Type} (O : KeyOps K) (hO : O.Lawful symmetricJwkImport) (k : K) (data : Bytes)
    (hdata : O.encode k = .ok data) (hasym : isSymmetric (O.alg k) = false)
    (name : String) («meta» : Option String) (ref : Option KeyRef) (href : ref ≠ some .mobileSecureElement)
    (alg : Option String) (ths : List String) (tags : List Tag) :
    loadLocalKey O ⟨name, ⟨«meta», ref, some data⟩, alg, ths, tags⟩ = .ok k :=
  Lemmas.load_after_insert symmetricJwkImport O hO k data hdata (by simp [jwkImportable, hasym]) name «meta» ref href alg ths tags

/-- D15 stated outright: without an `oct` branch, no stored entry ever loads as a symmetric key. -/
theorem symmetric_key_never_loads {K : Type} (O : KeyOps K) (hO : O.Lawful false) (k : K) (hsym : isSymmetric (O.alg k) = true)
    (e : KeyEntry) (href : e.params.ref ≠ some .mobileSecureElement) : loadLocalKey O e ≠ .ok k := by
  intro h
  unfold loadLocalKey at h
  split at h
  · cases h
  · split at h
    · rename_i hr; exact href hr
    · have := hO.no_oct rfl _ _ h
      rw [hsym] at this; cases this

/-- The full statement ("for every supported key algorithm … loads back into a usable key"), for an import
    capability `sym`. -/
def LoadAfterInsert (sym : Bool) : Prop :=
  ∀ (K : Type) (O : KeyOps K), O.Lawful sym → ∀ (k : K) (data : Bytes), O.encode k = .ok data →
    ∀ (name : String) («meta» : Option String) (alg : Option String) (ths : List String) (tags : List Tag),
      loadLocalKey O ⟨name, ⟨«meta», none, some data⟩, alg, ths, tags⟩ = .ok k

/-- False when `from_jwk_any` has no `oct` branch (`sym = false`, D15).  Witness: the toy key `true`, whose algorithm is symmetric. -/
theorem load_after_insert_false_without_oct_import : ¬ LoadAfterInsert false := fun h =>
  symmetric_key_never_loads Lemmas.Toy.keyOps Lemmas.Toy.keyOps_lawful true (by decide +kernel) _ (by simp)
    (h Bool Lemmas.Toy.keyOps Lemmas.Toy.keyOps_lawful true [1] rfl "k" none none [] [])

/-- it holds exactly when symmetric JWKs can be imported -/
theorem load_after_insert_iff_import (sym : Bool) : LoadAfterInsert sym ↔ sym = true := by
  cases sym with
  | true =>
    refine ⟨fun _ => rfl, fun _ K O hO k data hd name m alg ths tags => ?_⟩
    exact Lemmas.load_after_insert true O hO k data hd (by simp [jwkImportable]) name m none (by simp) alg ths tags
  | false => exact ⟨fun h => absurd h load_after_insert_false_without_oct_import, fun h => by cases h⟩

/-- for the source's import capability (tools/extract.py reads the flag from askar-crypto/src/alg/any.rs on every run) -/
theorem load_after_insert_current : LoadAfterInsert symmetricJwkImport ↔ symmetricJwkImport = true :=
  load_after_insert_iff_import symmetricJwkImport

/-! ### user tags and system tags cannot be mistaken for each other -/

/-- The prefix argument on strings: the prefix is stripped back to the same name, a prefixed name is never a
    system name, a system name never carries the prefix, and prefixing is injective. -/
theorem user_prefix_facts (n m : String) :
    stripUser (addUser n) = some n ∧ addUser n ≠ "alg" ∧ addUser n ≠ "thumb" ∧
    stripUser "alg" = none ∧ stripUser "thumb" = none ∧ (addUser n = addUser m → n = m) :=
  ⟨Lemmas.stripUser_addUser n, Lemmas.addUser_ne_alg n, Lemmas.addUser_ne_thumb n, Lemmas.stripUser_alg, Lemmas.stripUser_thumb,
   Lemmas.addUser_inj⟩

/-- Consequently `from_entry` splits what `insert_key` wrote back into exactly its three parts, for EVERY user
    tag list — also one whose own names are `alg`, `thumb`, `user:…` or begin with `~`. -/
theorem user_system_tags_disjoint (alg : String) (thumbs : List String) (user : List Tag) :
    liftTags (keyTags alg thumbs user) = (Lemmas.algOpt alg, thumbs, user) :=
  Lemmas.liftTags_keyTags alg thumbs user

/-- After a successful `update_key`, the key is fetched with the SAME name, algorithm, thumbprints, key data and
    reference as before; metadata and user tags are the new ones.  (`UniqueIdent` is the unique index, `Inv.unique` of C01.) -/
theorem update_key_preserves (C : Cbor) (hC : C.Lawful) (db db' : Db) (now : Int) (s : Sess) (name : String)
    («meta» : Option String) (tags : Option (List Tag)) (e : KeyEntry)
    (hU : Lemmas.UniqueIdent db)
    (h0 : fetchKey C db now s name = .ok (some e))
    (h : updateKey C db now s name «meta» tags none = .ok db') :
    fetchKey C db' now s name =
      .ok (some { e with params := { e.params with «meta» := «meta» }, tags := sortTags (tags.getD []) }) :=
  Lemmas.update_key_preserves C hC db db' now s name «meta» tags e hU h0 h

/-- what `insert_key` / `update_key` store decodes to what was encoded, for every codec with the round-trip law -/
theorem keyParams_cbor_roundtrip (C : Cbor) (hC : C.Lawful) (name : String) (p : KeyParams) (alg : String)
    (thumbs : List String) (user : List Tag) :
    fromEntry C ⟨kmsKind, cryptoKey, name, C.enc p, keyTags alg thumbs user⟩
      = .ok ⟨name, p, Lemmas.algOpt alg, sortStrs thumbs, sortTags user⟩ :=
  Lemmas.fromEntry_written C hC name p alg thumbs user

/-! ### fetch_all_keys returns exactly the matching keys -/

/-- The full statement, for a given treatment of filter names (`fixed` = the `user:` prefix is inserted after a
    leading `~`): on every store that satisfies the invariant of the key API (`keys_invariant` below), for every
    user-tag filter of C04's domain (non-root form) and under C04's idealisation, for every combination of
    algorithm / thumbprint / tag filter / limit, `fetch_all_keys` returns the first `lim` of exactly those live keys
    whose algorithm equals, whose thumbprints contain, and whose USER tags — encrypted or plaintext — satisfy the
    filter by the reference semantics `Wql.holds`. -/
def FetchAllKeysExact (fixed : Bool) : Prop :=
  ∀ (like : Bytes → Bytes → Bool) (C : Cbor) (db : Db) (now : Int) (s : Sess)
    (alg thumb : Option String) (f : Option (Query String)) (lim : Option Int),
    Sorted db → KeysWF C s db →
    (∀ q, f = some q → (tagQuery q).solid = true) →
    (∀ Q, keyFilter fixed alg thumb f = some Q → ∀ it ∈ db.items,
        TagCrypto.toy.NoPrefixCollision ((tagQuery Q).values ++ it.tags.map (·.value))) →
    fetchAllKeys C like fixed db now s alg thumb f lim
      = .ok (window none lim ((keyEntries C db now s).filter (refMatch like alg thumb f)))

/-- False for the mapping that puts `user:` before the `~` (`fixed = false`, D6).  Witness (Lemmas.wDb): one key with the
    plaintext user tag `t = v`; the filter `{"~t": "v"}` is turned into the ENCRYPTED name `user:~t` and selects nothing,
    the reference selects the key. -/
theorem fetch_all_keys_exact_false_prefix_before_tilde : ¬ FetchAllKeysExact false := fun h => by
  have := h (fun _ _ => false) Lemmas.wC Lemmas.wDb 0 Lemmas.wS none none (some Lemmas.wF) none
    Lemmas.w_sorted Lemmas.w_wf Lemmas.w_solid Lemmas.w_noCollision
  rw [Lemmas.w_lhs] at this
  exact Lemmas.w_rhs (Except.ok.inj this).symm

/-- with the prefix inserted after the `~` (`fixed = true`) the full statement holds -/
theorem fetch_all_keys_exact_prefix_after_tilde : FetchAllKeysExact true :=
  fun like C db now s alg thumb f lim hS hW hf hP =>
    Lemmas.fetchAllKeys_exact_of_goodNames true like C db now s alg thumb f lim hS hW
      (fun q hq => ⟨hf q hq, Lemmas.allNames_true _ (fun _ => rfl) q⟩) hP

/-- for the source's mapping (tools/extract.py reads the flag from src/store.rs on every run) -/
theorem fetch_all_keys_exact_current (h : prefixAfterTilde = true) : FetchAllKeysExact prefixAfterTilde :=
  h ▸ fetch_all_keys_exact_prefix_after_tilde

/-- Holds for either mapping when the filter names carry no leading `~` (`encName`: filters over encrypted names only). -/
theorem fetch_all_keys_exact_partial (like : Bytes → Bytes → Bool) (C : Cbor) (db : Db) (now : Int) (s : Sess)
    (alg thumb : Option String) (f : Option (Query String)) (lim : Option Int)
    (hS : Sorted db) (hW : KeysWF C s db)
    (hf : ∀ q, f = some q → (tagQuery q).solid = true ∧ allNames encName q = true)
    (hP : ∀ Q, keyFilter prefixAfterTilde alg thumb f = some Q → ∀ it ∈ db.items,
        TagCrypto.toy.NoPrefixCollision ((tagQuery Q).values ++ it.tags.map (·.value))) :
    fetchAllKeys C like prefixAfterTilde db now s alg thumb f lim
      = .ok (window none lim ((keyEntries C db now s).filter (refMatch like alg thumb f))) :=
  Lemmas.fetchAllKeys_exact_of_goodNames prefixAfterTilde like C db now s alg thumb f lim hS hW
    (fun q hq => ⟨(hf q hq).1,
      Lemmas.allNames_mono encName (Lemmas.goodName prefixAfterTilde) (fun n hn => by simp [Lemmas.goodName, hn]) q (hf q hq).2⟩) hP

/-- The full statement holds exactly for the mapping with the prefix after the `~` (proposals/C11-D6.diff). -/
theorem fetch_all_keys_exact_iff_fix (fixed : Bool) : FetchAllKeysExact fixed ↔ fixed = true := by
  cases fixed with
  | true => exact ⟨fun _ => rfl, fun _ => fetch_all_keys_exact_prefix_after_tilde⟩
  | false => exact ⟨fun h => absurd h fetch_all_keys_exact_false_prefix_before_tilde, fun h => by cases h⟩

/-! ### sequences of insert / update / remove / fetch -/

/-- Induction over call sequences of the key API (any keys, tags, expiries, filters): every store reached keeps
    row ids increasing, identities unique, and every key row in the written form — the hypotheses of the theorems
    above. -/
theorem keys_invariant {K : Type} (C : Cbor) (hC : C.Lawful) (O : KeyOps K) (like : Bytes → Bytes → Bool) (fixed : Bool)
    (now : Int) (s : Sess) (ops : List (KeyOp K)) (db : Db) (hI : Lemmas.KeyInv C s db) :
    Lemmas.KeyInv C s (runKeys C O like fixed now s db ops).1 := by
  rw [Lemmas.runKeys_eq]
  exact Run.run_inv _ (fun db op => Lemmas.keyInv_stepKey C hC O like fixed now s db op) hI ops

/-- … starting from the empty store. -/
theorem keys_invariant_fresh {K : Type} (C : Cbor) (hC : C.Lawful) (O : KeyOps K) (like : Bytes → Bytes → Bool) (fixed : Bool)
    (now : Int) (s : Sess) (profiles : List Profile) (ops : List (KeyOp K)) :
    Lemmas.KeyInv C s (runKeys C O like fixed now s { items := [], profiles := profiles } ops).1 :=
  keys_invariant C hC O like fixed now s ops _ (Lemmas.keyInv_empty C s profiles)

/-! ### Non-vacuity: the hypotheses are satisfiable, and the statements are not trivially true -/

example : Lemmas.Toy.cbor.Lawful := Lemmas.Toy.cbor_lawful
example : Lemmas.Toy.keyOps.Lawful symmetricJwkImport := Lemmas.Toy.keyOps_lawful
example : Lemmas.KeyInv Lemmas.Toy.cbor ⟨1, 0⟩ {} := Lemmas.keyInv_empty _ _ []
/-- the witness store of D6 satisfies every hypothesis of `FetchAllKeysExact` -/
example : KeysWF Lemmas.wC Lemmas.wS Lemmas.wDb ∧ Sorted Lemmas.wDb := ⟨Lemmas.w_wf, Lemmas.w_sorted⟩
/-- an insert through the toy instances succeeds (so `fetch_key_after_insert` has instances) -/
example : ∃ db', insertKey Lemmas.Toy.cbor Lemmas.Toy.keyOps {} 0 ⟨1, 0⟩ "k" false (some "m") none none none = .ok db' :=
  ⟨_, rfl⟩
/-- both symmetric and asymmetric algorithm names occur -/
example : isSymmetric "a128gcm" = true ∧ isSymmetric "ed25519" = false := by decide +kernel

end Askar.KeyStore


/-! ## seeded keys (`LocalKey::from_seed`)

Model `Model/Seed.lean`, lemmas `Lemmas/Seed.lean`.  Every statement holds for EVERY `P : Seed.Prims` (ChaCha20 keystream, SHA-256,
HKDF, the curves' scalar range check are parameters), every algorithm, every seed of every length and every method string.
The driver instantiates `P` with the executable specifications and predicts the secret bytes of every seeded key of the 16
algorithms bit for bit (kinds `c13:seed`, `c11:seed`).

OBSERVATION (outside the property statements — neither C11 nor C13 states that distinct seeds give distinct keys; determinism,
which they do state, holds): `SeedsDistinguished` ("two different accepted seeds never reach the generator as the same input") does
not hold of the model of the current tree.  `RandomDet::new` keeps the first 32 bytes and zero-pads: bytes beyond 32 are ignored, and
a short seed is its own zero-extension.  These are facts about the model, recorded as theorems: the statement holds for the variant
`strict = true` (a `RandomDet` seed must be 32 bytes — a SUGGESTION, `proposals/C11-seed-length.diff`, not a defect against C11 / C13),
is refuted with a witness for the current one, and `seeds_status` says which of the two the constant `seedStrictCurrent` (= `false`,
today's source; no extracted flag) selects.  The harness reports the collisions as diagnostics (`obs:from_seed:seed-collision:*`),
not as oracle failures. -/

namespace Askar.C11.Seeded
open Askar.Sign Askar.Seed

/-- a method string other than absent / empty / `bls_keygen` is refused with `Unsupported`, before the seed or the algorithm is looked at -/
theorem from_seed_unknown_method (P : Prims) (strict : Bool) (alg : KeyAlg) (seed : Bytes) {method : Option String}
    (h1 : method ≠ none) (h2 : method ≠ some "") (h3 : method ≠ some "bls_keygen") :
    fromSeed P strict alg seed method = .err .unsupported := fromSeed_unknown P strict alg seed h1 h2 h3

/-- `bls_keygen` with a seed shorter than 32 bytes: `Input` (crypto `Usage`), for every algorithm … -/
theorem from_seed_bls_short_seed (P : Prims) (strict : Bool) (alg : KeyAlg) {seed : Bytes} (h : seed.length < 32) :
    fromSeed P strict alg seed (some "bls_keygen") = .err .input := fromSeed_bls_short P strict alg h

/-- … and from 32 bytes on the WHOLE seed is the generator's input key material (nothing is cut, nothing is padded) -/
theorem from_seed_bls_whole_seed (P : Prims) (strict : Bool) (alg : KeyAlg) {seed : Bytes} (h : 32 ≤ seed.length) :
    fromSeed P strict alg seed (some "bls_keygen") = (generate P alg (.bls seed none)).mapErr CErr.toKind := fromSeed_bls P strict alg h

/-- the empty method string is the default method -/
theorem from_seed_empty_method (P : Prims) (strict : Bool) (alg : KeyAlg) (seed : Bytes) :
    fromSeed P strict alg seed (some "") = fromSeed P strict alg seed none := fromSeed_empty P strict alg seed

/-- the only errors of `from_seed`, and exactly when: `Unsupported` for an unknown method; `Input` for a short `bls_keygen` seed
    (and, in the suggested `strict` variant, for a default-method seed that is not 32 bytes).  Key generation itself never fails. -/
theorem from_seed_errors {P : Prims} {strict : Bool} {alg : KeyAlg} {seed : Bytes} {method : Option String} {e : ErrKind}
    (h : fromSeed P strict alg seed method = .err e) :
    (e = .unsupported ∧ method ≠ none ∧ method ≠ some "" ∧ method ≠ some "bls_keygen") ∨
    (e = .input ∧ method = some "bls_keygen" ∧ seed.length < 32) ∨
    (e = .input ∧ (method = none ∨ method = some "") ∧ strict = true ∧ seed.length ≠ 32) := by
  have hr := fromSeed_err_elim h
  rcases method_cases method with (hb | hn | he) | ⟨h1, h2, h3⟩
  · subst hb
    rw [rngOf_bls] at hr
    split at hr
    · cases hr; exact .inr (.inl ⟨rfl, rfl, by assumption⟩)
    · cases hr
  · subst hn
    rw [rngOf_none] at hr
    split at hr
    · rename_i hc; cases hr; exact .inr (.inr ⟨rfl, .inl rfl, hc.1, hc.2⟩)
    · cases hr
  · subst he
    rw [rngOf_empty, rngOf_none] at hr
    split at hr
    · rename_i hc; cases hr; exact .inr (.inr ⟨rfl, .inr rfl, hc.1, hc.2⟩)
    · cases hr
  · rw [rngOf_unknown strict seed h1 h2 h3] at hr
    cases hr
    exact .inl ⟨rfl, h1, h2, h3⟩

/-- a seeded key has the width of its algorithm (16 / 32 / 48 / 64 bytes), whatever the length of the seed; for the three curves
    with a rejection loop it is a scalar their crate accepts -/
theorem from_seed_key_width {P : Prims} {strict : Bool} {alg : KeyAlg} {seed : Bytes} {method : Option String} {sk : Bytes}
    (h : fromSeed P strict alg seed method = .ok sk) :
    sk.length = keyLen alg ∧ (isEcLoop alg = true → P.validScalar alg sk = true) := by
  obtain ⟨rng, _, hg⟩ := fromSeed_ok_elim h
  refine ⟨generate_ok_length hg, fun hec => ?_⟩
  unfold generate at hg
  rw [if_pos hec] at hg
  exact (ecLoop_ok hg).1

/-- default method on the current tree, the 13 algorithms without a rejection loop: EVERY seed (0, 1, 31, 32, 33, 64, … bytes) gives
    a key, and for the ten that draw their key directly it is the first `keyLen` bytes of the keystream under the padded seed -/
theorem from_seed_default_total (P : Prims) {alg : KeyAlg} (h : isEcLoop alg = false) (seed : Bytes) :
    (∃ sk, fromSeed P false alg seed none = .ok sk ∧ sk.length = keyLen alg) ∧
    (isBls alg = false → fromSeed P false alg seed none = .ok (P.stream (detSeed seed) 0 (keyLen alg))) := by
  rw [fromSeed_none_current]
  constructor
  · obtain ⟨sk, hsk, hl⟩ := generate_total (P := P) h (.det (detSeed seed) 0)
    exact ⟨sk, by rw [hsk]; rfl, hl⟩
  · intro hb
    unfold generate
    simp [h, hb, Prims.read, Res.mapErr]

/-- the three curves: the first 32 / 48 keystream bytes are the key whenever they are a valid scalar (all but ≈ 2⁻³² of the seeds
    for P-256, fewer for the others); otherwise the next 32 / 48 bytes are tried, and so on -/
theorem from_seed_default_ec (P : Prims) {alg : KeyAlg} (h : isEcLoop alg = true) (seed : Bytes)
    (hv : P.validScalar alg (P.stream (detSeed seed) 0 (keyLen alg)) = true) :
    fromSeed P false alg seed none = .ok (P.stream (detSeed seed) 0 (keyLen alg)) := by
  rw [fromSeed_none_current]
  unfold generate
  rw [if_pos h]
  have := ecLoop_first (P := P) (alg := alg) (rng := .det (detSeed seed) 0) (ecFuel - 1) (by simpa [Prims.read] using hv)
  have hf : ecFuel - 1 + 1 = ecFuel := by decide
  rw [hf] at this
  rw [this]
  simp [Prims.read, Res.mapErr]

/-- determinism: the key is a function of (algorithm, seed, method) — and, with the default method on the current tree, of the
    seed's first 32 bytes zero-padded ONLY -/
theorem from_seed_depends_on_padded_prefix (P : Prims) (alg : KeyAlg) {s s' : Bytes} (h : detSeed s = detSeed s') :
    fromSeed P false alg s none = fromSeed P false alg s' none := by
  rw [fromSeed_none_current, fromSeed_none_current, h]

/-- observation (outside the property statements), for every algorithm on the current tree: bytes beyond the 32nd are ignored; a seed shorter than 32 bytes and the
    same seed followed by a zero byte give the same key -/
theorem from_seed_collisions_current (P : Prims) (alg : KeyAlg) (s : Bytes) :
    (32 ≤ s.length → ∀ t, fromSeed P false alg (s ++ t) none = fromSeed P false alg s none) ∧
    (s.length < 32 → fromSeed P false alg (s ++ [0]) none = fromSeed P false alg s none) :=
  ⟨fun h t => from_seed_depends_on_padded_prefix P alg (detSeed_append_of_ge h t),
   fun h => from_seed_depends_on_padded_prefix P alg (detSeed_zero_ext h)⟩

/-- NOT part of C11 / C13 (an observation about the model): "different seeds are different inputs to key generation" — two seeds that `from_seed` accepts under the same
    method and hands to the generator as the SAME state are the same seed.  (That different generator inputs give different keys is
    the external KDF's business — and for 16-byte keys false by counting; this is askar's own part.) -/
def SeedsDistinguished (strict : Bool) : Prop :=
  ∀ (method : Option String) (s s' : Bytes) (r : Rng), rngOf strict s method = .ok r → rngOf strict s' method = .ok r → s = s'

/-- holds for the `strict` variant (the suggestion: a default-method seed must be exactly 32 bytes) … -/
theorem seeds_distinguished_repaired : SeedsDistinguished true := by
  intro method s s' r h h'
  have det : ∀ {s s' : Bytes} {r : Rng}, rngOf true s none = .ok r → rngOf true s' none = .ok r → s = s' := by
    intro s s' r h h'
    obtain ⟨hr, hl⟩ := rngOf_none_ok h
    obtain ⟨hr', hl'⟩ := rngOf_none_ok h'
    rw [hr, detSeed_of_length (hl rfl), detSeed_of_length (hl' rfl)] at hr'
    cases hr'; rfl
  rcases method_cases method with (hb | hn | he) | ⟨h1, h2, h3⟩
  · subst hb
    have e := (rngOf_bls_ok h).1
    rw [(rngOf_bls_ok h').1] at e
    cases e; rfl
  · subst hn; exact det h h'
  · subst he
    rw [rngOf_empty] at h h'
    exact det h h'
  · rw [rngOf_unknown true s h1 h2 h3] at h
    cases h

/-- … does not hold for the current one (observation, not a property violation).  Witness: the empty seed and the one-byte seed `00` (equally: any 32-byte seed and the same seed
    with one more byte) -/
theorem seeds_identified_current : ¬ SeedsDistinguished false := by
  intro h
  have := h none [] [0] (.det (List.replicate 32 0) 0) (by decide +kernel) (by decide +kernel)
  cases this

/-- `bls_keygen` distinguishes seeds in both variants -/
theorem bls_seeds_distinguished (strict : Bool) {s s' : Bytes} {r : Rng}
    (h : rngOf strict s (some "bls_keygen") = .ok r) (h' : rngOf strict s' (some "bls_keygen") = .ok r) : s = s' := by
  have e := (rngOf_bls_ok h).1
  rw [(rngOf_bls_ok h').1] at e
  cases e; rfl

/-- which of the two holds of the model of the current tree is decided by the constant `seedStrictCurrent` (= `false`, today's source) -/
theorem seeds_status :
    (seedStrictCurrent = true ∧ SeedsDistinguished seedStrictCurrent) ∨ (seedStrictCurrent = false ∧ ¬ SeedsDistinguished seedStrictCurrent) := by
  cases hg : seedStrictCurrent with
  | true => exact .inl ⟨rfl, seeds_distinguished_repaired⟩
  | false => exact .inr ⟨rfl, seeds_identified_current⟩

/-! non-vacuity: the executable primitives are an instance; concrete outcomes of each kind -/
example : ∃ sk, fromSeed Std.prims false .a128Gcm [] none = .ok sk ∧ sk.length = 16 :=
  let ⟨sk, h, hl⟩ := (from_seed_default_total Std.prims (alg := .a128Gcm) rfl []).1; ⟨sk, h, hl⟩
example : fromSeed Std.prims false .ed25519 [1, 2, 3] (some "bls_keygen") = .err .input := from_seed_bls_short_seed _ _ _ (by decide)
example : fromSeed Std.prims false .blsG1 [] (some "BLS_KEYGEN") = .err .unsupported :=
  from_seed_unknown_method _ _ _ _ (by decide) (by decide) (by decide)
example : rngOf true (List.replicate 32 7) none = .ok (.det (List.replicate 32 7) 0) := by decide +kernel
example : rngOf true (List.replicate 33 7) none = .err .input := by decide +kernel
example : rngOf false (List.replicate 33 7) none = .ok (.det (List.replicate 32 7) 0) := by decide +kernel

end Askar.C11.Seeded
