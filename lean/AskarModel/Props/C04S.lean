/-
C04S — the TEXT the WQL encoder really sends to SQLite.
Property theorems and non-vacuity examples; the lemmas are in Lemmas/WqlText.lean.

`Props/C04.lean` proves the meaning of the clause *tree* and the numbering of its placeholders on *tokens*
(`placeholders_numbered`).  The theorems below carry that over to the characters: the total character-level model
`replaceArgs` of `db_utils.rs::replace_arg_placeholders` (compared byte for byte with the real function by the
correspondence run, through the cfg-guarded hook) computes on the rendered text exactly what the token-level
account says.
-/
import AskarModel.Model.WqlText
import AskarModel.Lemmas.WqlText

namespace Askar.Wql

/-- On the text of a token list whose text tokens contain no `$` and where the text following a `$N`
    placeholder does not begin with a digit, and as long as no `i64` overflows, the character-level
    `replace_arg_placeholders` equals the token-level `finalString ∘ replaceToks`, and does not panic. -/
theorem replaceArgs_tokens (ts : List Tok) (start : Nat) (hs : 1 ≤ start) (hwf : wfToks ts = true)
    (hno : NoOverflow start ts) :
    replaceArgsStr (toksString ts) start = some (finalString (replaceToks start 0 ts)) :=
  Lemmas.replaceArgs_tokens ts start hs hwf hno

/-- Every clause renders to well-formed token text (for all clause trees, encoded or not). -/
theorem render_wellformed (c : Clause) : wfToks (render c) = true :=
  Lemmas.render_wellformed c

/-- The rendered text of an encoded filter stays inside `i64` as long as `start + #arguments` does. -/
theorem render_noOverflow (E : TagCrypto) (q : Query TagName) (c : Clause) (start : Nat) (hs : 1 ≤ start)
    (h : (encodeQuery E q).1 = some c) (hlen : (start : Int) + (encodeQuery E q).2.length ≤ i64Max) :
    NoOverflow start (render c) :=
  Lemmas.render_noOverflow E q c start h hlen

/-- End to end: for every filter, every tag crypto and every start index, the text that
    `encode_tag_filter` hands to SQLite is the token-level final string — no panic, nothing else changed. -/
theorem encode_text_exact (E : TagCrypto) (q : Query TagName) (c : Clause) (start : Nat) (hs : 1 ≤ start)
    (h : (encodeQuery E q).1 = some c) (hlen : (start : Int) + (encodeQuery E q).2.length ≤ i64Max) :
    replaceArgsStr (toksString (render c)) start = some (finalString (replaceToks start 0 (render c))) :=
  Lemmas.encode_text_exact E q c start hs h hlen

/-- `placeholders_numbered` (Props/C04.lean) transferred to the real text: the final text is `finalString xs`
    for pieces `xs` whose SQLite parameter numbers (`Lemmas.phs xs`: the `.inr` pieces) are, in textual order, `start, start+1, …` — one per pushed
    argument (the k-th placeholder is bound to the k-th filter argument appended after the fixed parameters). -/
theorem encode_text_numbered (E : TagCrypto) (q : Query TagName) (c : Clause) (start : Nat) (hs : 1 ≤ start)
    (h : (encodeQuery E q).1 = some c) (hlen : (start : Int) + (encodeQuery E q).2.length ≤ i64Max) :
    ∃ xs, replaceArgsStr (toksString (render c)) start = some (finalString xs) ∧
      Lemmas.phs xs = (List.range (encodeQuery E q).2.length).map (· + start) :=
  ⟨replaceToks start 0 (render c), Lemmas.encode_text_exact E q c start hs h hlen, Lemmas.phs_render E q c start h⟩

/-- `limit_query`: the two parameters pushed for OFFSET / LIMIT are the ones the appended text names. -/
theorem limitQuery_numbered (q : List Char) (nargs : Nat) (offset limit : Option Int)
    (h : (offset.isSome || limit.isSome) = true) (hn : (nargs : Int) + 3 ≤ i64Max) :
    limitQuery q nargs offset limit
      = some (q ++ (" LIMIT ?" ++ toString (nargs + 1) ++ ", ?" ++ toString (nargs + 2)).toList, nargs + 2) := by
  rw [← Lemmas.limitQueryD_sqlite, Lemmas.limitQueryD_sqlite_shape q nargs offset limit h hn]
  rfl

/-! #### Totality of `replace_arg_placeholders` on ARBITRARY text is false

The function is only ever applied to text the encoder produced, and there it cannot panic (`encode_text_exact`).
As a function on arbitrary text it is not total: a `$` followed by a digit run that does not fit an `i64` makes
`parse::<i64>().unwrap()` panic (any profile), and `N + start_index` / `index += 1` can overflow (dev profile).
Not reachable through the public API: tag names and values never enter the text. -/

def ReplaceArgsTotal : Prop :=
  ∀ (s : List Char) (start : Int), i64Min ≤ start → start ≤ i64Max → replaceArgs s start ≠ none

theorem replaceArgs_total_refuted : ¬ ReplaceArgsTotal := fun h => by
  have hp : replaceArgs "$9223372036854775808".toList 1 = none := by
    -- the rewrite spares the kernel `String.toList` on the literal (see Lemmas/WqlText.lean, above `valueOp_tame`); below, one
    -- rewrite per distinct literal
    rw [String.toList_ofList]
    decide +kernel
  exact h _ 1 (by decide) (by decide) hp

/-- the part that holds: no panic on well-formed token text without overflow -/
theorem replaceArgs_total_partial (ts : List Tok) (start : Nat) (hs : 1 ≤ start) (hwf : wfToks ts = true)
    (hno : NoOverflow start ts) : (replaceArgsStr (toksString ts) start).isSome = true := by
  rw [Lemmas.replaceArgs_tokens ts start hs hwf hno]; rfl

/-- text without any `$` is returned unchanged, whatever the start index -/
theorem replaceArgs_no_dollar (s : List Char) (start : Int) (h : s.contains '$' = false) :
    replaceArgs s start = some s := by
  have := Lemmas.goD_text .sqlite start start s [] h
  simpa [← Lemmas.replaceArgsD_sqlite, replaceArgsD, replaceGoD] using this

/-! Non-vacuity and test vectors of the scanner (each of these texts is also a case of the correspondence run). -/

example : wfToks [.text "x = ", .ph (.num 1), .text " AND y IN (", .ph .dd, .text ", ", .ph .dd, .text ")"] = true := by decide +kernel
example : NoOverflow 4 [.text "x = ", .ph (.num 1), .text " AND y IN (", .ph .dd, .text ", ", .ph .dd, .text ")"] := by
  constructor
  · intro n hn
    simp only [List.mem_cons, Tok.ph.injEq, Ph.num.injEq, reduceCtorEq, List.not_mem_nil, or_false, false_or] at hn
    subst hn; decide
  · decide
-- a `$N` directly followed by a digit is NOT well-formed, and there the two levels really differ
example : wfToks [.ph (.num 1), .text "2"] = false := by decide +kernel
example : replaceArgs "$12".toList 1 = some "?12".toList := by decide +kernel
example : finalChars (replaceToks 1 0 [.ph (.num 1), .text "2"]) = "?12".toList := by decide +kernel
example : replaceArgs "$1".toList 4 = some "?4".toList := by decide +kernel
example : replaceArgs "x = $1 AND y IN ($$, $$)".toList 4 = some "x = ?4 AND y IN (?5, ?6)".toList := by
  rw [String.toList_ofList, String.toList_ofList]
  decide +kernel
example : replaceArgs "$$$".toList 1 = some "?1$".toList := by decide +kernel
example : replaceArgs "$a$".toList 1 = some "$a$".toList := by decide +kernel
example : replaceArgs "$007".toList 1 = some "?7".toList := by decide +kernel
example : replaceArgs "$$ $1 $0".toList (-3) = some "?-3 ?-3 ?-4".toList := by
  rw [String.toList_ofList, String.toList_ofList]
  decide +kernel
example : replaceArgs "$9223372036854775807".toList 0 = some "?9223372036854775806".toList := by
  rw [String.toList_ofList, String.toList_ofList]
  decide +kernel
example : replaceArgs "$9223372036854775807".toList 1 = none := by
  rw [String.toList_ofList]
  decide +kernel
example : replaceArgs "$$".toList i64Max = none := by decide +kernel
example : startsWithSelect "  \n\tselect x".toList = true := by
  rw [String.toList_ofList]
  decide +kernel
example : startsWithSelect "DELETE FROM items AS i".toList = false := by
  rw [String.toList_ofList]
  decide +kernel
example : extendQuery "SELECT 1 WHERE 1".toList 3 (some ("x = ?4".toList, 1)) none (some 5) true true
    = some ("SELECT 1 WHERE 1 AND x = ?4 ORDER BY id DESC LIMIT ?5, ?6".toList, 6) := by
  rw [String.toList_ofList, String.toList_ofList, String.toList_ofList]
  decide +kernel
example : extendQuery "DELETE FROM t WHERE 1".toList 3 (some ("x = ?4".toList, 1)) (some 1) (some 5) true true
    = some ("DELETE FROM t WHERE 1 AND x = ?4".toList, 4) := by
  rw [String.toList_ofList, String.toList_ofList, String.toList_ofList]
  decide +kernel

end Askar.Wql
