/-
C14 — key export/import round-trips; JWK import is tolerant, strict and panic-free.
ONLY property theorems, refutations with witnesses, and non-vacuity examples; the model is `Model/Jwk.lean`
(configuration `Cfg.current` = read from the source in /repo by tools/extract.py; `Cfg.pinned` = both known defects present;
`Cfg.fixed` = neither), the lemmas they rest on are in `Lemmas/Jwk.lean`, `Lemmas/JwkEnc.lean`, `Lemmas/JwkGap.lean`.
Curve arithmetic is the parameter `P : Prims`; no theorem assumes anything about it except `jwk_roundtrip*`, whose hypotheses
on `P` are written out (`Prims.CurveLaws`, `Key.OnCurve`, `Key.PubCanonical`).

Four full-strength statements are FALSE for some variant and are kept visible as `def … : Prop` with a refutation:
* `VisitIgnoresUnknown`  (D4, `consumeUnknown = false`: the value of an unknown member is not consumed)
                         → `visit_ignores_unknown_refuted`, `_partial`, and `_fixed` for `consumeUnknown = true`;
* `BytesImportTotal`     (D3, `ecLenCheck = false`: p256/p384/k256 `from_secret_bytes` panics)
                         → `bytes_import_total_refuted`, `_partial`, `_fixed`;
* `VisitOrderIndependent` is false for EVERY configuration because of the `use` / `key_ops` pair (not observable through any key)
                         → `visit_order_independent_refuted`, `_partial` (everything but `key_ops`), `import_order_independent`;
* `EncoderReadsBack`     (D38: `finalize` without the opening `[` of `key_ops`; the variant is the Bool argument of `renderJwk` /
                         `toJwkWith`, and `keyOpsBracketCurrent` is what the source in /repo does)
                         → `encoder_reads_back_current_refuted`, `encoder_keyops_never_parses_current` /
                         `encoder_export_unimportable_current` (exactly what happens instead), `encoder_reads_back_partial`
                         (everything without `key_ops`), `encoder_reads_back_repaired` / `encoder_roundtrip_repaired`.
`parse_render` is the parser-correctness theorem for the encoder's output (byte level, every configuration, the parser's own fuel);
`jwk_roundtrip` (export → text → import = the key, secret and public mode, all 8 asymmetric algorithms) is proved from it.
Its symmetric-key half is false (D15): `oct_import_unsupported`.
The sections after the round trip: the encoder with `key_ops` / `kid` (`JwkBufferEncoder::finalize`), `key_ops` / `use` on import,
keypair bytes, key conversion, members with a non-string value, foreign `kty` / `crv`, the length accessors, the source's
secret-key widths.
-/
import AskarModel.Model.Jwk
import AskarModel.Lemmas.Jwk
import AskarModel.Lemmas.JwkEnc
import AskarModel.Lemmas.JwkGap
import AskarModel.Generated.Tables

namespace Askar.C14
open Askar.Jwk

/-! ### base64url: one spelling per byte string, never beyond the output array -/

theorem b64_roundtrip (b : Bytes) : b64decode (b64encode b) = some b := Jwk.b64_roundtrip b

/-- no second spelling of a key: whatever decodes is the canonical encoding of the result
    (so padded, non-url-safe and trailing-bit variants are rejected) -/
theorem b64_canonical {s b : Bytes} (h : b64decode s = some b) : b64encode b = s := Jwk.b64_canonical h

/-- `decode_base64` never reports more bytes than the array holds; over-long text is an error whatever it contains -/
theorem b64_bounded {attr : Option Bytes} {n : Nat} {b : Bytes} (h : decodeBase64 attr n = .ok b) : b.length ≤ n := Jwk.b64_bounded h
theorem b64_overlong {s : Bytes} {n : Nat} (h : s.length > (n * 4 + 2) / 3) : decodeBase64 (some s) n = .err .invalid := by
  simp [decodeBase64, h]

example : b64decode (sb "Zm9v") = some (sb "foo") := by
  repeat rw [sb_ofList]
  decide +kernel
example : b64decode (sb "Zm9=") = none ∧ b64decode (sb "Zh") = none ∧ b64decode (sb "Zm+v") = none ∧ b64decode (sb "Z") = none := by
  repeat rw [sb_ofList]
  decide +kernel

/-! ### unknown members -/

/-- Full strength: a member with an unrecognised name changes nothing, whatever its value (every JSON type), wherever it stands. -/
def VisitIgnoresUnknown (cfg : Cfg) : Prop :=
  ∀ (ms₁ ms₂ : List (Bytes × JVal)) (k : Bytes) (v : JVal), fieldOf k = none →
    visit cfg (ms₁ ++ (k, v) :: ms₂) = visit cfg (ms₁ ++ ms₂)

/-- FALSE on the pinned tree (witness: `{"kty":"OKP","ext":true}`) -/
theorem visit_ignores_unknown_refuted : ¬ VisitIgnoresUnknown Cfg.pinned := by
  intro h
  have h1 := h [(sb "kty", .str (sb "OKP"))] [] (sb "ext") .bool fieldOf_ext
  rw [visit_unknown_fails rfl _ _ _ _ fieldOf_ext] at h1
  revert h1
  decide +kernel

/-- the part that holds there: such a JWK is rejected — never imported as a different key -/
theorem visit_ignores_unknown_partial (ms₁ ms₂ : List (Bytes × JVal)) (k : Bytes) (v : JVal) (hk : fieldOf k = none) :
    visit Cfg.pinned (ms₁ ++ (k, v) :: ms₂) = none := Jwk.visit_unknown_fails rfl ms₁ ms₂ k v hk

/-- with `consumeUnknown = true` (`next_value::<IgnoredAny>()`) the full statement holds -/
theorem visit_ignores_unknown_fixed : VisitIgnoresUnknown Cfg.fixed := Jwk.visit_unknown_ignored rfl

/-! ### member order -/

def VisitOrderIndependent (cfg : Cfg) : Prop :=
  ∀ ms ms' : List (Bytes × JVal), ms.Perm ms' → (ms.map (·.1)).Nodup → visit cfg ms = visit cfg ms'

/-- FALSE for every configuration: `"use":"sig","key_ops":["encrypt"]` gives {encrypt}, the other order {encrypt,sign,verify} -/
theorem visit_order_independent_refuted (cfg : Cfg) : ¬ VisitOrderIndependent cfg := by
  intro h
  have := h [(sb "kty", .str (sb "OKP")), (sb "use", .str (sb "sig")), (sb "key_ops", .strArr [sb "encrypt"])]
    [(sb "kty", .str (sb "OKP")), (sb "key_ops", .strArr [sb "encrypt"]), (sb "use", .str (sb "sig"))]
    (List.Perm.cons _ (List.Perm.swap _ _ _)) (by decide +kernel)
  -- all three names are known to the visitor, so the configuration is never consulted
  simp only [visit, visitFrom, visitStep, fieldOf_kty, fieldOf_use, fieldOf_key_ops] at this
  revert this
  decide +kernel

/-- the part that holds: everything except the `key_ops` set is independent of the order (distinct member names) -/
theorem visit_order_independent_partial (cfg : Cfg) {ms ms' : List (Bytes × JVal)} (hp : ms.Perm ms')
    (hn : (ms.map (·.1)).Nodup) : (visit cfg ms).map Parts.core = (visit cfg ms').map Parts.core := by
  -- on the variables without `key_ops`, the loop is a fold of steps that commute when the names differ
  rw [visit_core, visit_core, visitFrom_core, visitFrom_core]
  rw [List.Perm.foldl_eq' hp (fun x hx y hy z => stepC_comm cfg z x y (nodup_keys_inj hn hx hy))]

/-- and the import never reads `key_ops`: the imported key, or the error, does not depend on the member order -/
theorem import_order_independent (cfg : Cfg) (P : Prims) {ms ms' : List (Bytes × JVal)} (hp : ms.Perm ms')
    (hn : (ms.map (·.1)).Nodup) : fromMembers cfg P ms = fromMembers cfg P ms' :=
  fromMembers_congr_core cfg P (visit_order_independent_partial cfg hp hn)

/-! ### exports -/

/-- a public export has no member `d` or `k` … -/
theorem public_export_no_secret (k : Key) (a : Option Alg) (ms : List Member) (h : encodeJwk k .publicKey a = .ok ms) :
    ∀ m ∈ ms, m.1 ≠ "d" ∧ m.1 ≠ "k" := by
  cases hs : k.alg.isSymmetric
  · rw [encodeJwk_asym hs, secretMember_of_ne k (by decide), List.append_nil] at h
    cases h
    intro m hm
    have hn := List.mem_map_of_mem (f := Prod.fst) hm
    rw [pubMembers_names] at hn
    have h4 : ∀ n ∈ ["crv", "kty", "x", "y"], n ≠ "d" ∧ n ≠ "k" := by decide
    have h3 : ∀ n ∈ ["crv", "kty", "x"], n ≠ "d" ∧ n ≠ "k" := by decide
    split at hn
    · exact h4 _ hn
    · exact h3 _ hn
  · rw [encodeJwk_sym hs] at h
    cases h

/-- … is not a function of the secret at all (JWK and raw bytes) … -/
theorem public_export_independent_of_secret (k : Key) (a : Option Alg) (s' : Option Bytes) :
    encodeJwk { k with secret := s' } .publicKey a = encodeJwk k .publicKey a ∧
    toPublicBytes { k with secret := s' } = toPublicBytes k :=
  ⟨by unfold encodeJwk blsView; simp, rfl⟩

/-- … and does not exist for symmetric keys -/
theorem public_export_symmetric (k : Key) (a : Option Alg) (h : k.alg.isSymmetric = true) :
    encodeJwk k .publicKey a = .err .unsupported := by
  rw [encodeJwk_sym h]
  rfl

/-- RFC 7638: the hashed text has exactly the required members of the key type, in lexicographic order, the `kty` member
    carries the key type, every member is (name and value) a member of the key's full export, and the text has no whitespace -/
theorem thumbprint_members (k : Key) (a : Option Alg) (ms : List Member) (h : encodeJwk k .thumbprint a = .ok ms) :
    ms.map (·.1) = rfc7638Members k.alg.jwkKty ∧ ("kty", sb k.alg.jwkKty) ∈ ms ∧
    ∃ full, encodeJwk k .secretKey a = .ok full ∧ ∀ m ∈ ms, m ∈ full := by
  cases hs : k.alg.isSymmetric
  · rw [encodeJwk_asym hs, secretMember_of_ne k (by decide), List.append_nil] at h
    cases h
    refine ⟨?_, ?_, _, encodeJwk_asym hs _ _, fun m hm => List.mem_append_left _ hm⟩
    · rw [pubMembers_names, Alg.jwkKty, hs]
      cases k.alg.isEc <;> rfl
    · rw [Alg.jwkKty, hs, pubMembers]
      cases k.alg.isEc <;> simp
  · rw [encodeJwk_sym hs] at h
    cases h
    refine ⟨?_, ?_, _, encodeJwk_sym hs _ _, fun m hm => List.mem_append_right _ hm⟩
    · rw [Alg.jwkKty, hs]
      rfl
    · rw [Alg.jwkKty, hs]
      simp

theorem thumbprint_members_sorted : ∀ kty ∈ ["EC", "OKP", "oct"], (rfc7638Members kty).Pairwise (· < ·) := by decide +kernel

example : renderMembers [("crv", sb "Ed25519"), ("kty", sb "OKP"), ("x", sb "AA")] = sb "{\"crv\":\"Ed25519\",\"kty\":\"OKP\",\"x\":\"AA\"}" := by
  repeat rw [sb_ofList]
  decide +kernel

/-! ### raw bytes: which imports can panic -/

def BytesImportTotal (cfg : Cfg) : Prop :=
  ∀ (P : Prims) (alg : Alg) (b : Bytes), (fromSecretBytes cfg P alg b).isPanic = false ∧ (fromPublicBytes P alg b).isPanic = false

/-- FALSE on the pinned tree (witness: one byte offered as a P-256 secret) -/
theorem bytes_import_total_refuted : ¬ BytesImportTotal Cfg.pinned := by
  intro h
  have := (h ⟨fun _ _ => none, fun _ _ _ => none, fun _ _ => none⟩ .p256 [0]).1
  revert this
  decide

/-- exactly which inputs panic there: a Weierstrass-curve algorithm with a secret of the wrong length -/
theorem bytes_import_panic_iff (P : Prims) (alg : Alg) (b : Bytes) :
    (fromSecretBytes Cfg.pinned P alg b).isPanic = true ↔ (alg.isEc = true ∧ b.length ≠ alg.secretLen) := by
  constructor
  · -- a panic only where `fromSecretBytes_no_panic_of` does not apply
    intro hp
    by_cases he : alg.isEc = true
    · refine ⟨he, fun hl => ?_⟩
      rw [fromSecretBytes_no_panic_of _ P alg b (Or.inr (Or.inl hl))] at hp
      cases hp
    · rw [fromSecretBytes_no_panic_of _ P alg b (Or.inl (by simpa using he))] at hp
      cases hp
  · rintro ⟨he, hl⟩
    rw [fromSecretBytes_eq, if_pos hl, if_pos ⟨he, rfl⟩]
    rfl

/-- the part that holds for every configuration: the other 13 algorithms, every right-length input, and all public imports -/
theorem bytes_import_total_partial (cfg : Cfg) (P : Prims) (alg : Alg) (b : Bytes) :
    (alg.isEc = false ∨ b.length = alg.secretLen → (fromSecretBytes cfg P alg b).isPanic = false) ∧
    (fromPublicBytes P alg b).isPanic = false :=
  ⟨fun h => Jwk.fromSecretBytes_no_panic_of cfg P alg b (h.elim Or.inl fun h => Or.inr (Or.inl h)), Jwk.fromPublicBytes_no_panic P alg b⟩

/-- with the explicit length check the full statement holds -/
theorem bytes_import_total_fixed : BytesImportTotal Cfg.fixed :=
  fun P alg b => ⟨Jwk.fromSecretBytes_no_panic_of _ P alg b (Or.inr (Or.inr rfl)), Jwk.fromPublicBytes_no_panic P alg b⟩

/-- JWK import cannot panic even on the pinned tree: `d` is decoded into exactly `secretLen` bytes before the conversion -/
theorem jwk_import_total (cfg : Cfg) (P : Prims) (text : Bytes) (ms : List (Bytes × JVal)) :
    (fromJwk cfg P text).isPanic = false ∧ (fromMembers cfg P ms).isPanic = false := by
  refine ⟨Jwk.fromJwk_no_panic cfg P text, ?_⟩
  unfold fromMembers
  split
  · exact Jwk.fromJwkAny_no_panic _ _ _
  · rfl

/-! ### an accepted key is the key that was encoded -/

/-- secret bytes: the imported key has that algorithm and exports exactly the input; importing the export gives the same key -/
theorem bytes_roundtrip {cfg : Cfg} {P : Prims} {alg : Alg} {b : Bytes} {k : Key} (h : fromSecretBytes cfg P alg b = .ok k) :
    k.alg = alg ∧ toSecretBytes k = .ok b ∧ b.length = alg.secretLen ∧
    ∃ s, toSecretBytes k = .ok s ∧ fromSecretBytes cfg P k.alg s = .ok k :=
  let ⟨h1, hs, h3, _⟩ := Jwk.fromSecretBytes_ok h
  ⟨h1, toSecretBytes_of_secret hs, h3, b, toSecretBytes_of_secret hs, by rw [h1]; exact h⟩

/-- wrong length is an error (or, on the pinned tree for EC, the panic above) — never a key -/
theorem bytes_wrong_length_rejected (cfg : Cfg) (P : Prims) (alg : Alg) (b : Bytes) (h : b.length ≠ alg.secretLen) :
    (fromSecretBytes cfg P alg b).isOk = false := by
  cases hr : fromSecretBytes cfg P alg b with
  | ok k => exact absurd (Jwk.fromSecretBytes_ok hr).2.2.1 h
  | err e => rfl
  | panic s => rfl

/-- JWK: with `d` the accepted key is (d, public key of d) and the encoded public members equal that public key, so
    mismatched d/x/y are rejected; without `d` there is no secret; EC points were found on the curve -/
theorem import_checks {cfg : Cfg} {P : Prims} {alg : Alg} {j : Parts} {k : Key} (h : fromJwkParts cfg P alg j = .ok k) :
    k.Consistent P ∧
    (j.d = none → k.secret = none) ∧
    (j.d.isSome → ∃ d, decodeExact j.d alg.secretLen = .ok d ∧ k.secret = some d) ∧
    (alg.isEc = true → ∃ x y, decodeExact j.x alg.secretLen = .ok x ∧ decodeExact j.y alg.secretLen = .ok y ∧
        P.fromAffine alg x y = some k.pub) ∧
    (alg.isEc = false → j.d.isSome → decodeExact j.x alg.pubLen = .ok k.pub) := Jwk.import_checks h

/-- D15 as a theorem about the dispatch: nothing with `kty = "oct"` can be imported (all 8 symmetric algorithms) -/
theorem oct_import_unsupported (cfg : Cfg) (P : Prims) (j : Parts) (h : j.kty = sb "oct") :
    fromJwkAny cfg P j = .err .unsupported := by
  have h1 : sb "oct" ≠ sb "OKP" := by decide +kernel
  have h2 : sb "oct" ≠ sb "EC" := by decide +kernel
  simp [fromJwkAny, selectAlg, h, h1, h2]

/-! ### export → JSON text → import

`toJwk` is `JwkBufferEncoder` (no whitespace, no escapes); `fromJwk` runs the byte-level model of
`serde_json_core::from_str::<JwkParts>` (`parseJwk`, which supplies its own fuel: text length + 2) and then `from_jwk_any`. -/

/-- Parser correctness on everything the encoder can write: for every member list whose names and values contain neither `"`
    nor `\` (`MembersClean`, a decidable check; the names `crv kty x y d alg k`, the curve / key-type / `alg` names and all
    base64url text satisfy it — `Clean_b64encode`, `Clean_crv`), the byte-level parser run on the rendered text visits exactly
    those members, in order, as string values.  Holds for every configuration and for unknown member names as well
    (with D4 present both sides fail). -/
theorem parse_render (cfg : Cfg) (ms : List Member) (hc : MembersClean ms = true) :
    parseJwk cfg (renderMembers ms) = visit cfg (toks ms) := Jwk.parse_render cfg ms hc

/-- … and the premise holds for everything `encode_jwk` writes: any key (symmetric too), any mode, any `alg` view.  So the
    text of every export is parsed into exactly the members that were written. -/
theorem parse_export (cfg : Cfg) (k : Key) (mode : Mode) (a : Option Alg) (ms : List Member) (h : encodeJwk k mode a = .ok ms) :
    MembersClean ms = true ∧ toJwk k mode a = .ok (renderMembers ms) ∧ parseJwk cfg (renderMembers ms) = visit cfg (toks ms) :=
  ⟨Jwk.encodeJwk_clean k mode a ms h, by simp [toJwk, h], Jwk.parse_render cfg ms (Jwk.encodeJwk_clean k mode a ms h)⟩

/-- base64url text is clean, whatever the bytes -/
theorem b64_text_clean (b : Bytes) : Clean (b64encode b) = true := Jwk.Clean_b64encode b

/-- Round trip, key pairs: for every asymmetric algorithm and every key pair with the lengths of `Alg.pubLen` / `Alg.secretLen`
    whose public part is the public key of its secret (`Key.Consistent`), under the curve laws
    (`Prims.CurveLaws`: a public key computed from a secret is on the curve, resp. is a canonical encoding) and nothing else:
    the secret-mode export imports as the key, the public-mode export as its public half.  Every configuration. -/
theorem jwk_roundtrip (cfg : Cfg) (P : Prims) (hP : P.CurveLaws) (k : Key) (ha : k.alg.isSymmetric = false)
    (hs : k.WellSized) (hc : k.Consistent P) {d : Bytes} (hd : k.secret = some d) :
    (∃ t, toJwk k .secretKey none = .ok t ∧ fromJwk cfg P t = .ok k) ∧
    (∃ t, toJwk k .publicKey none = .ok t ∧ fromJwk cfg P t = .ok { k with secret := none }) :=
  ⟨jwk_roundtrip_secret cfg P k ha hs hc (Key.onCurve_of_laws hP hc ha hd) (fun h => by simp [hd] at h),
   jwk_roundtrip_public cfg P k ha hs hc (Key.onCurve_of_laws hP hc ha hd) (Key.pubCanonical_of_laws hP hc ha hd)⟩

/-- Round trip, any key (with or without secret), with the facts about the public part as hypotheses on the key instead of laws
    on `P`: the stored point is on the curve (`Key.OnCurve`, Weierstrass curves only) and, where the import goes through the
    crate's public-key decoder (no `d` in the text), the stored encoding is canonical (`Key.PubCanonical`; Ed25519 and BLS only).
    For a public-only key these cannot be dropped: `Key.Consistent` says nothing about it, and the crates reject other bytes. -/
theorem jwk_roundtrip_secret (cfg : Cfg) (P : Prims) (k : Key) (ha : k.alg.isSymmetric = false) (hs : k.WellSized)
    (hc : k.Consistent P) (hoc : k.OnCurve P) (hpc : k.secret = none → k.PubCanonical P) :
    ∃ t, toJwk k .secretKey none = .ok t ∧ fromJwk cfg P t = .ok k := Jwk.jwk_roundtrip_secret cfg P k ha hs hc hoc hpc

theorem jwk_roundtrip_public (cfg : Cfg) (P : Prims) (k : Key) (ha : k.alg.isSymmetric = false) (hs : k.WellSized)
    (hc : k.Consistent P) (hoc : k.OnCurve P) (hpc : k.PubCanonical P) :
    ∃ t, toJwk k .publicKey none = .ok t ∧ fromJwk cfg P t = .ok { k with secret := none } :=
  Jwk.jwk_roundtrip_public cfg P k ha hs hc hoc hpc

/-- the hypotheses on the key follow from the laws for every key pair -/
theorem keypair_pub_valid {P : Prims} (hP : P.CurveLaws) {k : Key} (hc : k.Consistent P) (ha : k.alg.isSymmetric = false)
    {d : Bytes} (hd : k.secret = some d) : k.OnCurve P ∧ k.PubCanonical P :=
  ⟨Jwk.Key.onCurve_of_laws hP hc ha hd, Jwk.Key.pubCanonical_of_laws hP hc ha hd⟩

/-! ### non-vacuity: the hypotheses above are satisfiable (toy curve: public key = secret) -/

def toy : Prims := { pubOf := fun _ d => some d, fromAffine := fun _ x y => some (x ++ y), decodePub := fun _ b => some b }

example : ∃ k, fromSecretBytes Cfg.pinned toy .ed25519 (List.replicate 32 7) = .ok k := ⟨_, rfl⟩
example : ∃ k, fromJwkParts Cfg.pinned toy .ed25519
    { kty := sb "OKP", crv := some (sb "Ed25519"), x := some (b64encode (List.replicate 32 7)), d :=
  some (b64encode (List.replicate 32 7)) } = .ok k := by
  exact ⟨{ alg := .ed25519, secret := some (List.replicate 32 7), pub := List.replicate 32 7 }, by decide +kernel⟩
example : ∃ ms, encodeJwk { alg := .p256, secret := none, pub := List.replicate 64 1 } .thumbprint none = .ok ms := ⟨_, rfl⟩
example : ([(sb "kty", JVal.str (sb "OKP")), (sb "x", JVal.str (sb "AA"))].map (·.1)).Nodup := by decide +kernel

/-! non-vacuity of the round trip: a toy primitive record that satisfies the curve laws (public key = the secret repeated up to
    the public length; every coordinate pair is a point; every encoding canonical), one Ed25519 and one P-256 key pair -/

def toyRT : Prims :=
  { pubOf := fun a d => some ((d ++ d ++ d ++ d ++ d).take a.pubLen), fromAffine := fun _ x y => some (x ++ y),
    decodePub := fun _ b => some b }

theorem toyRT_laws : toyRT.CurveLaws :=
  ⟨fun _ _ p _ _ => congrArg some (List.take_append_drop _ p), fun _ _ _ _ _ => rfl, fun _ _ _ => ⟨rfl, rfl⟩⟩

def edKey : Key := { alg := .ed25519, secret := some (List.replicate 32 7), pub := List.replicate 32 7 }
def p256Key : Key := { alg := .p256, secret := some (List.range 32 |>.map UInt8.ofNat),
                       pub := (List.range 32 ++ List.range 32) |>.map UInt8.ofNat }

example : edKey.alg.isSymmetric = false ∧ edKey.WellSized ∧ edKey.Consistent toyRT :=
  ⟨rfl, ⟨rfl, fun d h => by cases h; rfl⟩, fun d h _ => by cases h; rfl⟩
example : p256Key.alg.isSymmetric = false ∧ p256Key.WellSized ∧ p256Key.Consistent toyRT :=
  ⟨rfl, ⟨rfl, fun d h => by cases h; rfl⟩, fun d h _ => by cases h; rfl⟩

example : (∃ t, toJwk edKey .secretKey none = .ok t ∧ fromJwk Cfg.current toyRT t = .ok edKey) ∧
    (∃ t, toJwk edKey .publicKey none = .ok t ∧ fromJwk Cfg.current toyRT t = .ok { edKey with secret := none }) :=
  jwk_roundtrip _ _ toyRT_laws edKey rfl ⟨rfl, fun d h => by cases h; rfl⟩ (fun d h _ => by cases h; rfl) rfl
example : (∃ t, toJwk p256Key .secretKey none = .ok t ∧ fromJwk Cfg.pinned toyRT t = .ok p256Key) ∧
    (∃ t, toJwk p256Key .publicKey none = .ok t ∧ fromJwk Cfg.pinned toyRT t = .ok { p256Key with secret := none }) :=
  jwk_roundtrip _ _ toyRT_laws p256Key rfl ⟨rfl, fun d h => by cases h; rfl⟩ (fun d h _ => by cases h; rfl) rfl

/-- the exported text of the Ed25519 key, literally, and the byte-level parser run on it (by evaluation, not by the theorem) -/
example : toJwk edKey .publicKey none =
    .ok (sb "{\"crv\":\"Ed25519\",\"kty\":\"OKP\",\"x\":\"BwcHBwcHBwcHBwcHBwcHBwcHBwcHBwcHBwcHBwcHBwc\"}") := by
  rw [sb_ofList]
  decide +kernel
example : fromJwk Cfg.pinned toyRT (sb "{\"crv\":\"Ed25519\",\"kty\":\"OKP\",\"x\":\"BwcHBwcHBwcHBwcHBwcHBwcHBwcHBwcHBwcHBwcHBwc\"}")
    = .ok { edKey with secret := none } := by
  rw [sb_ofList]
  decide +kernel

/-- and a public-only key: the hypotheses on the public part are satisfiable too -/
example : ∃ t, toJwk { p256Key with secret := none } .publicKey none = .ok t ∧
    fromJwk Cfg.fixed toyRT t = .ok { p256Key with secret := none } :=
  jwk_roundtrip_public _ _ { p256Key with secret := none } rfl ⟨rfl, fun d h => by cases h⟩ (fun d h _ => by cases h)
    (fun _ => by decide) trivial

/-! ### the encoder with `key_ops` and `kid` (`JwkBufferEncoder::new(..).alg(..).key_ops(..).kid(..)`, `finalize`)

`renderJwk bracket ms ops kid` is the buffer after `finalize` (members of `encode_jwk`, then `key_ops`, then `kid`);
`bracket` = does `finalize` write the opening `[` of the array (`keyOpsBracketCurrent`: what the source in /repo does). -/

/-- Full strength: whatever the encoder is asked to write — the members of any export, any set of operations or none, a kid
    (without `"` and `\`: `add_str` escapes nothing) or none — the library's own byte-level parser reads back exactly that:
    the members in order, `key_ops` as the array of the set's names, `kid` as given. -/
def EncoderReadsBack (bracket : Bool) : Prop :=
  ∀ (cfg : Cfg) (ms : List Member) (ops : Option Nat) (kid : Option Bytes), MembersClean ms = true →
    (∀ k, kid = some k → Clean k = true) →
    parseJwk cfg (renderJwk bracket ms ops kid) = visit cfg (toks ms ++ extraToks ops kid)

/-- holds for the encoder that writes the `[` … -/
theorem encoder_reads_back_repaired : EncoderReadsBack true :=
  fun cfg ms ops kid hc hk => Jwk.parse_renderJwk_fixed cfg ms hc ops kid hk

/-- … and is FALSE for the encoder without the `[` (defect D38; witness:
    `{"kty":"OKP","key_ops":"sign","verify"]}`) -/
theorem encoder_reads_back_current_refuted : ¬ EncoderReadsBack false := by
  intro h
  have h1 := h Cfg.fixed [("kty", sb "OKP")] (some 12) none (by decide +kernel) (by intro k hk; cases hk)
  rw [Jwk.parse_renderJwk_unbracketed_fails _ _ (by decide +kernel)] at h1
  revert h1
  decide +kernel

/-- for the CURRENT tree (`keyOpsBracketCurrent` is read from the source by tools/extract.py): holds whenever the source writes the `[` -/
theorem encoder_reads_back_current (h : keyOpsBracketCurrent = true) : EncoderReadsBack keyOpsBracketCurrent := by
  rw [h]; exact encoder_reads_back_repaired

/-- what happens there instead, exactly: with `key_ops` set — ANY set (the empty one too), any members, any kid, any parser
    configuration — the text is not accepted by `JwkParts::from_str` … -/
theorem encoder_keyops_never_parses_current (cfg : Cfg) (ms : List Member) (hc : MembersClean ms = true) (o : Nat)
    (kid : Option Bytes) : parseJwk cfg (renderJwk false ms (some o) kid) = none :=
  Jwk.parse_renderJwk_unbracketed_fails cfg ms hc o kid

/-- … so every export of every key that carries `key_ops` is refused by the import (never imported as another key) -/
theorem encoder_export_unimportable_current (cfg : Cfg) (P : Prims) (k : Key) (mode : Mode) (a : Option Alg) (o : Nat)
    (kid : Option Bytes) (t : Bytes) (h : toJwkWith false k mode a (some o) kid = .ok t) :
    fromJwk cfg P t = .err .invalid := by
  unfold toJwkWith at h
  cases he : encodeJwk k mode a with
  | ok ms =>
    rw [he] at h
    cases h
    unfold fromJwk
    rw [parse_renderJwk_unbracketed_fails cfg ms (encodeJwk_clean k mode a ms he) o kid]
  | err e => rw [he] at h; cases h
  | panic s => rw [he] at h; cases h

/-- the part that holds for both variants: everything without `key_ops` (members and kid) -/
theorem encoder_reads_back_partial (bracket : Bool) (cfg : Cfg) (ms : List Member) (kid : Option Bytes)
    (hc : MembersClean ms = true) (hk : ∀ k, kid = some k → Clean k = true) :
    parseJwk cfg (renderJwk bracket ms none kid) = visit cfg (toks ms ++ extraToks none kid) := by
  rw [Jwk.renderJwk_no_ops]
  exact Jwk.parse_renderJwk_fixed cfg ms hc none kid hk

/-- without the two arguments the encoder is the one of `toJwk` (so the theorems above extend `parse_render`) -/
theorem encoder_plain (bracket : Bool) (ms : List Member) : renderJwk bracket ms none none = renderMembers ms :=
  Jwk.renderJwk_plain bracket ms

/-- The encoder that writes the `[`, key level, all 8 asymmetric algorithms, every set `o` of the eight operations (`o < 256`), every kid
    without `"` / `\`, secret and public mode: the text is parsed back with exactly that set and that kid, and imports as the key
    (the hypotheses on the key are those of `jwk_roundtrip_secret` / `_public`). -/
theorem encoder_roundtrip_repaired (cfg : Cfg) (P : Prims) (k : Key) (ha : k.alg.isSymmetric = false) (hs : k.WellSized)
    (hc : k.Consistent P) (hoc : k.OnCurve P) (withD : Bool) (hpc : withD = false ∨ k.secret = none → k.PubCanonical P)
    (o : Nat) (ho : o < 256) (kid : Bytes) (hk : Clean kid = true) :
    ∃ t, toJwkWith true k (if withD then .secretKey else .publicKey) none (some o) (some kid) = .ok t ∧
      (∃ p, parseJwk cfg t = some p ∧ p.keyOps = some o ∧ p.kid = some kid) ∧
      fromJwk cfg P t = .ok (if withD then k else { k with secret := none }) := by
  obtain ⟨ms, he, hcl, hv⟩ := export_visit cfg k ha withD
  have hp := parse_renderJwk_fixed cfg ms hcl (some o) (some kid) (by intro k' hk'; cases hk'; exact hk)
  rw [visit_extra cfg _ _ hv o ho kid] at hp
  refine ⟨renderJwk true ms (some o) (some kid), by simp [toJwkWith, he], ⟨_, hp, rfl, rfl⟩, ?_⟩
  unfold fromJwk
  rw [hp]
  simp only []
  rw [fromJwkAny_extra]
  simp only [fromJwkAny, selectAlg_export k ha withD]
  exact fromJwkParts_export cfg P k ha hs hc hoc withD hpc

/-- the hypothesis `Clean kid` cannot be dropped in either variant: `add_str` escapes nothing, so a kid with a `"` writes other
    members (witness: kid = `x","d":"AAAA` is read back as kid = `x` and a private member d = `AAAA`) -/
theorem encoder_kid_injection : ∃ kid p, parseJwk Cfg.fixed (renderJwk true [("kty", sb "OKP")] none (some kid)) = some p ∧
    p.kid = some (sb "x") ∧ p.kid ≠ some kid ∧ p.d = some (sb "AAAA") :=
  ⟨sb "x\",\"d\":\"AAAA", { kty := sb "OKP", kid := some (sb "x"), d := some (sb "AAAA") }, by decide +kernel, rfl, by decide +kernel, rfl⟩

/-- the array element names: a set of the eight operations is written as names that are parsed back into that set -/
theorem keyops_names_roundtrip : ∀ o, o < 256 → opsOf (opsNames o) 0 = some o := Jwk.opsOf_opsNames

/- the text without and with the `[`, literally (an Ed25519 public key, {sign, verify}, kid "k1") -/
set_option maxRecDepth 100000 in
example : toJwkWith false { alg := .ed25519, secret := none, pub := List.replicate 32 7 } .publicKey none (some 12) (some (sb "k1")) =
    .ok (sb "{\"crv\":\"Ed25519\",\"kty\":\"OKP\",\"x\":\"BwcHBwcHBwcHBwcHBwcHBwcHBwcHBwcHBwcHBwcHBwc\",\"key_ops\":\"sign\",\"verify\"],\"kid\":\"k1\"}") := by
  rw [sb_ofList, sb_ofList]
  decide +kernel
set_option maxRecDepth 100000 in
example : toJwkWith true { alg := .ed25519, secret := none, pub := List.replicate 32 7 } .publicKey none (some 12) (some (sb "k1")) =
    .ok (sb "{\"crv\":\"Ed25519\",\"kty\":\"OKP\",\"x\":\"BwcHBwcHBwcHBwcHBwcHBwcHBwcHBwcHBwcHBwcHBwc\",\"key_ops\":[\"sign\",\"verify\"],\"kid\":\"k1\"}") := by
  rw [sb_ofList, sb_ofList]
  decide +kernel
example : MembersClean [("kty", sb "OKP")] = true ∧ Clean (sb "k1") = true ∧ (12 : Nat) < 256 := by
  repeat rw [sb_ofList]
  decide +kernel

/-! ### `key_ops` and `use` on import: recorded by the parser, never read by the import -/

/-- `"use"` with any string value, anywhere in the object: the imported key, or the error, is the same as without it -/
theorem import_ignores_use (cfg : Cfg) (P : Prims) (l₁ l₂ : List (Bytes × JVal)) (s : Bytes) :
    fromMembers cfg P (l₁ ++ (sb "use", .str s) :: l₂) = fromMembers cfg P (l₁ ++ l₂) :=
  fromMembers_congr_core cfg P (visit_keyless_member cfg l₁ l₂ _ _ (effect_use cfg s) (use_keyless s))

/-- `"key_ops"` with an array of strings in which no operation is repeated (unknown names allowed), anywhere: the same -/
theorem import_ignores_key_ops (cfg : Cfg) (P : Prims) (l₁ l₂ : List (Bytes × JVal)) (xs : List Bytes) {o : Nat}
    (ho : opsOf xs 0 = some o) :
    fromMembers cfg P (l₁ ++ (sb "key_ops", .strArr xs) :: l₂) = fromMembers cfg P (l₁ ++ l₂) :=
  fromMembers_congr_core cfg P (visit_keyless_member cfg l₁ l₂ _ (.ops o) (by rw [effect_keyOps, ho]; rfl) (fun _ => rfl))

/-- a repeated operation, a non-array, an array with a non-string element: the JWK is refused as a whole (Invalid) — strict, not a
    different key; likewise a `use` that is not a string -/
theorem import_refuses_bad_key_ops (cfg : Cfg) (P : Prims) (l₁ l₂ : List (Bytes × JVal)) (v : JVal)
    (hv : ∀ xs, v = .strArr xs → opsOf xs 0 = none) :
    fromMembers cfg P (l₁ ++ (sb "key_ops", v) :: l₂) = .err .invalid := by
  have he : effect cfg (sb "key_ops", v) = none := by
    cases v with
    | strArr xs => rw [effect_keyOps, hv xs rfl]; rfl
    | _ => simp [effect, fieldOf_key_ops]
  simp [fromMembers, visit_bad_member cfg l₁ l₂ _ he]

theorem import_refuses_bad_use (cfg : Cfg) (P : Prims) (l₁ l₂ : List (Bytes × JVal)) (v : JVal) (hv : ∀ s, v ≠ .str s) :
    fromMembers cfg P (l₁ ++ (sb "use", v) :: l₂) = .err .invalid := by
  have he : effect cfg (sb "use", v) = none := by
    cases v with
    | str s => exact absurd rfl (hv s)
    | _ => simp [effect, fieldOf_use]
  simp [fromMembers, visit_bad_member cfg l₁ l₂ _ he]

/-- names that are not operations do not count, wherever they stand in the array -/
theorem key_ops_unknown_name_ignored {s : Bytes} (hs : opBit s = none) (l₁ l₂ : List Bytes) (acc : Nat) :
    opsOf (l₁ ++ s :: l₂) acc = opsOf (l₁ ++ l₂) acc := by
  induction l₁ generalizing acc with
  | nil => simp [opsOf, hs]
  | cons x xs ih =>
    simp only [List.cons_append, opsOf]
    cases opBit x with
    | none => exact ih acc
    | some b =>
      simp only []
      split
      · rfl
      · exact ih _

example : opsOf [sb "sign", sb "bogus", sb "deriveBits"] 0 = some 132 ∧ opsOf [sb "sign", sb "verify", sb "sign"] 0 = none ∧
    opsOf [] 0 = some 0 ∧ opBit (sb "Sign") = none := by decide +kernel
example : useOps (sb "enc") = 51 ∧ useOps (sb "sig") = 12 ∧ useOps (sb "other") = 0 := by
  repeat rw [sb_ofList]
  decide +kernel

/-! ### keypair bytes (`KeypairBytes` of Ed25519, X25519, secp256k1, P-256, P-384) -/

/-- never a panic: any configuration (also with D3 present — the secret half has the right length when it is converted),
    any algorithm, bytes of any length -/
theorem keypair_import_total (cfg : Cfg) (P : Prims) (alg : Alg) (b : Bytes) : (fromKeypairBytes cfg P alg b).isPanic = false := by
  unfold fromKeypairBytes
  cases hkp : alg.hasKeypairBytes
  case false => rfl
  by_cases hl : b.length = alg.secretLen + alg.pubBytesLen
  case neg => rw [if_neg (by decide), if_pos hl]; rfl
  rw [if_neg (by decide), if_neg (not_not_intro hl)]
  -- the secret half has the right length when it is converted
  have hn := fromSecretBytes_no_panic_of cfg P alg (b.take alg.secretLen)
    (Or.inr (Or.inl (by rw [List.length_take]; omega)))
  cases hs : fromSecretBytes cfg P alg (b.take alg.secretLen) with
  | ok k =>
    obtain ⟨pb, hp⟩ : ∃ pb, toPublicBytes k = .ok pb :=
      ⟨_, toPublicBytes_asym (by rw [(fromSecretBytes_ok hs).1]; exact Alg.not_symmetric_of_keypair hkp)⟩
    simp only [hp]
    split <;> rfl
  | err e => simp only []; split <;> rfl
  | panic s => rw [hs] at hn; cases hn

/-- an accepted string has the right length, its first half imports (as a secret) as exactly the returned key, its second half
    is that key's public export, and the key exports as the string: never a different key -/
theorem keypair_import_checks {cfg : Cfg} {P : Prims} {alg : Alg} {b : Bytes} {k : Key} (h : fromKeypairBytes cfg P alg b = .ok k) :
    k.alg = alg ∧ b.length = alg.secretLen + alg.pubBytesLen ∧ fromSecretBytes cfg P alg (b.take alg.secretLen) = .ok k ∧
    toPublicBytes k = .ok (b.drop alg.secretLen) ∧ toKeypairBytes k = .ok b := Jwk.fromKeypairBytes_ok h

/-- every other length is InvalidKeyData … -/
theorem keypair_wrong_length_rejected (cfg : Cfg) (P : Prims) (alg : Alg) (b : Bytes) (ha : alg.hasKeypairBytes = true)
    (hl : b.length ≠ alg.secretLen + alg.pubBytesLen) : fromKeypairBytes cfg P alg b = .err .invalidKeyData := by
  simp [fromKeypairBytes, ha, hl]

/-- … secret ‖ public-of-another-key is refused … -/
theorem keypair_mismatch_rejected (cfg : Cfg) (P : Prims) (alg : Alg) (b : Bytes) {k : Key}
    (hs : fromSecretBytes cfg P alg (b.take alg.secretLen) = .ok k) (hne : toPublicBytes k ≠ .ok (b.drop alg.secretLen)) :
    (fromKeypairBytes cfg P alg b).isOk = false := by
  cases h : fromKeypairBytes cfg P alg b with
  | ok k' =>
    obtain ⟨_, _, hs', hp, _⟩ := fromKeypairBytes_ok h
    rw [hs] at hs'
    cases hs'
    exact absurd hp hne
  | err e => rfl
  | panic s => rfl

/-- … and so is a secret half the curve does not accept (zero, not below the order), whatever the public half -/
theorem keypair_bad_scalar_rejected (cfg : Cfg) (P : Prims) (alg : Alg) (b : Bytes)
    (hs : (fromSecretBytes cfg P alg (b.take alg.secretLen)).isOk = false) : (fromKeypairBytes cfg P alg b).isOk = false := by
  cases h : fromKeypairBytes cfg P alg b with
  | ok k' =>
    obtain ⟨_, _, hs', _, _⟩ := fromKeypairBytes_ok h
    rw [hs'] at hs
    cases hs
  | err e => rfl
  | panic s => rfl

/-- round trip: the keypair export of every key made from secret bytes (5 algorithms; public part of the length the key type
    holds) imports as that key -/
theorem keypair_roundtrip {cfg : Cfg} {P : Prims} {alg : Alg} {s : Bytes} {k : Key} (ha : alg.hasKeypairBytes = true)
    (h : fromSecretBytes cfg P alg s = .ok k) (hs : k.pub.length = k.alg.pubLen) :
    ∃ b, toKeypairBytes k = .ok b ∧ fromKeypairBytes cfg P alg b = .ok k := by
  obtain ⟨hka, hsk, hlen, _⟩ := fromSecretBytes_ok h
  have ha' : k.alg.hasKeypairBytes = true := by rw [hka]; exact ha
  obtain ⟨pb, hpb, hpl⟩ := toPublicBytes_length (Alg.not_symmetric_of_keypair ha') hs
  refine ⟨s ++ pb, by simp [toKeypairBytes, ha', hsk, hpb], ?_⟩
  have ht : (s ++ pb).take alg.secretLen = s := by rw [← hlen]; simp
  have hd : (s ++ pb).drop alg.secretLen = pb := by rw [← hlen]; simp
  have hl : (s ++ pb).length = alg.secretLen + alg.pubBytesLen := by rw [List.length_append, hlen, hpl, hka]
  simp [fromKeypairBytes, ha, hl, ht, hd, h, hpb]

/-- a public-only key has no keypair export -/
theorem keypair_public_only_no_export {k : Key} (ha : k.alg.hasKeypairBytes = true) (hs : k.secret = none) :
    toKeypairBytes k = .err .missingSecretKey := by
  simp [toKeypairBytes, ha, hs]

example : fromKeypairBytes Cfg.pinned toy .ed25519 (List.replicate 64 7) = .ok edKey := by decide +kernel
example : fromKeypairBytes Cfg.pinned toy .ed25519 (List.replicate 32 7 ++ List.replicate 32 8) = .err .invalidKeyData := by decide +kernel
example : fromKeypairBytes Cfg.pinned toy .p256 (List.replicate 64 7) = .err .invalidKeyData := by decide +kernel
example : ∃ b, toKeypairBytes edKey = .ok b ∧ fromKeypairBytes Cfg.current toy .ed25519 b = .ok edKey :=
  keypair_roundtrip (cfg := Cfg.current) (P := toy) (alg := .ed25519) (s := List.replicate 32 7) rfl (by rfl) rfl

/-! ### key conversion (`convert_key`: Ed25519 → X25519, BLS12-381 G1G2 → G1 / G2)

`Ed25519KeyPair::to_x25519_keypair` on a key WITHOUT secret runs `CompressedEdwardsY(public).decompress().unwrap()`.
The only thing that keeps it from panicking is that every way to obtain such a key went through `VerifyingKey::from_bytes`,
which is that very decompression (`ConvPrims.Agrees`) and keeps the bytes as given. -/

/-- the `unwrap` is a real guard: on a key value whose public bytes do not decompress the conversion panics -/
theorem convert_panics_without_invariant :
    ∃ (P : Prims) (C : ConvPrims) (k : Key), (convertKey P C k .x25519).isPanic = true :=
  ⟨toy, { sha512 := id, edToMontgomery := fun _ => none }, { alg := .ed25519, secret := none, pub := [2] }, rfl⟩

/-- … and the invariant (`Key.EdPubValid`: a public-only Ed25519 key holds bytes that decompress) is all it needs -/
theorem convert_total_of_invariant (P : Prims) (C : ConvPrims) (k : Key) (to : Alg) (hv : k.EdPubValid C) :
    (convertKey P C k to).isPanic = false := by
  unfold convertKey
  by_cases h1 : k.alg = .blsG1G2 ∧ to = .blsG1
  · rw [if_pos h1]; rfl
  by_cases h2 : k.alg = .blsG1G2 ∧ to = .blsG2
  · rw [if_neg h1, if_pos h2]; rfl
  by_cases h3 : k.alg = .ed25519 ∧ to = .x25519
  · rw [if_neg h1, if_neg h2, if_pos h3, toX25519]
    cases hs : k.secret with
    | some s => rfl
    | none =>
      -- the invariant: the public bytes decompress
      have := hv h3.1 hs
      cases hm : C.edToMontgomery k.pub with
      | some u => rfl
      | none => rw [hm] at this; cases this
  · rw [if_neg h1, if_neg h2, if_neg h3]; rfl

/-- every import establishes the invariant — secret bytes, public bytes (ANY bytes: small-order points, non-canonical encodings,
    whatever the decoder accepts), JWK text, keypair bytes, and conversion itself — so no key obtainable through the API makes a
    conversion (to any algorithm) panic -/
theorem convert_total_of_import {cfg : Cfg} {P : Prims} {C : ConvPrims} (hl : C.Agrees P) (to : Alg) :
    (∀ alg b k, fromSecretBytes cfg P alg b = .ok k → (convertKey P C k to).isPanic = false) ∧
    (∀ alg b k, fromPublicBytes P alg b = .ok k → (convertKey P C k to).isPanic = false) ∧
    (∀ text k, fromJwk cfg P text = .ok k → (convertKey P C k to).isPanic = false) ∧
    (∀ alg b k, fromKeypairBytes cfg P alg b = .ok k → (convertKey P C k to).isPanic = false) ∧
    (∀ k₀ to₀ k, convertKey P C k₀ to₀ = .ok k → (convertKey P C k to).isPanic = false) :=
  ⟨fun _ _ k h => convert_total_of_invariant P C k to (Jwk.fromSecretBytes_edValid h),
   fun _ _ k h => convert_total_of_invariant P C k to (Jwk.fromPublicBytes_edValid hl h),
   fun _ k h => convert_total_of_invariant P C k to (Jwk.fromJwk_edValid hl h),
   fun _ _ k h => convert_total_of_invariant P C k to (Jwk.fromSecretBytes_edValid (Jwk.fromKeypairBytes_ok h).2.2.1),
   fun _ _ k h => convert_total_of_invariant P C k to (Jwk.convertKey_edValid h)⟩

/-- a conversion yields the algorithm asked for and neither loses nor invents a secret -/
theorem convert_shape {P : Prims} {C : ConvPrims} {k k' : Key} {to : Alg} (h : convertKey P C k to = .ok k') :
    k'.alg = to ∧ k'.secret.isSome = k.secret.isSome :=
  ⟨(convertKey_ok h).1, (convertKey_ok h).2.1⟩

/-- everything but the three pairs is Unsupported -/
theorem convert_unsupported (P : Prims) (C : ConvPrims) (k : Key) (to : Alg)
    (h : ¬ (k.alg = .blsG1G2 ∧ (to = .blsG1 ∨ to = .blsG2)) ∧ ¬ (k.alg = .ed25519 ∧ to = .x25519)) :
    convertKey P C k to = .err .unsupported := by
  obtain ⟨h1, h2⟩ := h
  have a : ¬ (k.alg = .blsG1G2 ∧ to = .blsG1) := fun hh => h1 ⟨hh.1, Or.inl hh.2⟩
  have b : ¬ (k.alg = .blsG1G2 ∧ to = .blsG2) := fun hh => h1 ⟨hh.1, Or.inr hh.2⟩
  simp only [convertKey, a, b, h2, if_false]

/-- G1G2 → G1 / G2 of a key pair IS the crate's own G1 / G2 key of the same secret bytes (under the one law that the pair type
    derives its public key as the two single derivations, `Prims.BlsSplit`) -/
theorem convert_bls_own_key (cfg : Cfg) (P : Prims) (C : ConvPrims) (hl : P.BlsSplit) {d : Bytes} {k : Key}
    (h : fromSecretBytes cfg P .blsG1G2 d = .ok k) :
    convertKey P C k .blsG1 = fromSecretBytes cfg P .blsG1 d ∧ convertKey P C k .blsG2 = fromSecretBytes cfg P .blsG2 d := by
  obtain ⟨ha, hs, hlen, hp⟩ := fromSecretBytes_ok h
  obtain ⟨h1, h2⟩ := hl d k.pub (hp rfl)
  rw [fromSecretBytes_of_pubOf cfg (alg := .blsG1) rfl hlen h1, fromSecretBytes_of_pubOf cfg (alg := .blsG2) rfl hlen h2]
  simp [convertKey, ha, hs]

/-! non-vacuity: conversion primitives that agree with `toy`, one conversion of each kind -/
def toyC : ConvPrims := { sha512 := fun b => b ++ b, edToMontgomery := fun b => some b }
example : toyC.Agrees toy := fun _ _ _ => rfl
def pad48 (d : Bytes) : Bytes := (d ++ List.replicate 48 0).take 48
def toyBls : Prims :=
  { toy with pubOf := fun a d => match a with
      | .blsG1 => some (pad48 d) | .blsG1G2 => some (pad48 d ++ d) | _ => some d }
example : toyBls.BlsSplit := fun d p h => by
  cases h
  have hl : (pad48 d).length = 48 := by simp [pad48]
  exact ⟨congrArg some (List.take_left' hl).symm, congrArg some (List.drop_left' hl).symm⟩
example : ∃ k, fromSecretBytes Cfg.current toyBls .blsG1G2 (List.replicate 32 5) = .ok k := ⟨_, rfl⟩
example : (convertKey toy toyC { edKey with secret := none } .x25519) = .ok { alg := .x25519, secret := none, pub := List.replicate 32 7 } := by rfl
example : ∃ k, convertKey toy toyC edKey .x25519 = .ok k ∧ k.secret.isSome = true := ⟨_, rfl, rfl⟩
example : convertKey toy toyC edKey .p256 = .err .unsupported := by rfl

/-! ### members with a NON-STRING JSON value (`kty kid alg crv x y d k use` = number, bool, null, array, object)

`access.next_value::<&str>()` fails in the deserializer, `JwkParts::try_from_str` maps that to Invalid "Error parsing JWK":
never InvalidKeyData, never a panic, never a key — for the dispatcher and for every concrete type alike. -/

/-- token level: wherever the member stands, whatever else the object contains, for every configuration -/
theorem non_string_member_refused (cfg : Cfg) (P : Prims) (l₁ l₂ : List (Bytes × JVal)) {key : Bytes} {f : Field}
    (hf : fieldOf key = some f) (hk : f ≠ .keyOps) (v : JVal) (hv : ∀ s, v ≠ .str s) :
    fromMembers cfg P (l₁ ++ (key, v) :: l₂) = .err .invalid := by
  simp [fromMembers, visit_bad_member cfg l₁ l₂ _ (effect_non_string cfg hf hk v hv)]

/-- byte level (the parser's own fuel): after any clean string members, a string-valued member name followed by a value text whose
    first byte is neither blank nor `"` (so: a number, `true` / `false`, `null`, `[…`, `{…`), followed by ANY further attribute
    texts: the parse fails, so the dispatcher's import and every concrete type's import answer Invalid -/
theorem non_string_member_refused_bytes (cfg : Cfg) (P : Prims) (ms : List Member) (hc : MembersClean ms = true) {name : Bytes}
    {f : Field} (hn : Clean name = true) (hf : fieldOf name = some f) (hk : f ≠ .keyOps) (c : UInt8) (v : Bytes)
    (hw : isWs c = false) (hq : c ≠ 34) (ts : List Bytes) :
    parseJwk cfg (objectWithBadValue ms name c v ts) = none ∧
    fromJwk cfg P (objectWithBadValue ms name c v ts) = .err .invalid ∧
    ∀ alg, fromJwkTyped cfg P alg (objectWithBadValue ms name c v ts) = .err .invalid := by
  have h := Jwk.parse_non_string cfg ms hc hn hf hk c v hw hq ts
  exact ⟨h, by simp [fromJwk, h], fun alg => by simp [fromJwkTyped, h]⟩

/-- the five value shapes for `"x"` after `kty` / `crv`, literally -/
example : ∀ v ∈ [sb "5", sb "true", sb "null", sb "[\"a\"]", sb "{}"],
    parseJwk Cfg.current (sb "{\"kty\":\"OKP\",\"crv\":\"Ed25519\",\"x\":" ++ v ++ sb "}") = none := by
  repeat rw [sb_ofList]
  decide +kernel
example : objectWithBadValue [("kty", sb "OKP")] (sb "x") 53 [] [] = sb "{\"kty\":\"OKP\",\"x\":5}" ∧
    fieldOf (sb "x") = some .x ∧ Clean (sb "x") = true ∧ isWs 53 = false := by
  repeat rw [sb_ofList]
  decide +kernel

/-! ### the concrete key types' own `from_jwk` (no dispatcher in front) given a foreign `kty` / `crv` -/

/-- for each of the 8 types: a `kty` the type does not accept (`Alg.ktyOk`: EC types "EC", Ed25519 / X25519 "OKP", BLS "OKP" or "EC")
    or a `crv` that is not the type's own (or absent) is InvalidKeyData, whatever the other members hold -/
theorem foreign_kty_crv_refused (cfg : Cfg) (P : Prims) (alg : Alg) (j : Parts) (ha : alg.isSymmetric = false)
    (h : alg.ktyOk j.kty = false ∨ j.crv ≠ some (sb alg.jwkCrv)) : fromJwkParts cfg P alg j = .err .invalidKeyData :=
  Jwk.fromJwkParts_foreign cfg P alg j ha h

/-- every (concrete type, JWK exported from a key of ANOTHER asymmetric algorithm) pair, secret and public form, at text level through
    the byte-level parser: InvalidKeyData — never a key -/
theorem foreign_jwk_refused (cfg : Cfg) (P : Prims) (alg : Alg) (k : Key) (withD : Bool) (ha : alg.isSymmetric = false)
    (hk : k.alg.isSymmetric = false) (hne : alg ≠ k.alg) :
    ∃ t, toJwk k (if withD then .secretKey else .publicKey) none = .ok t ∧ fromJwkTyped cfg P alg t = .err .invalidKeyData := by
  obtain ⟨ms, he, hcl, hv⟩ := export_visit cfg k hk withD
  refine ⟨renderMembers ms, by simp [toJwk, he], ?_⟩
  unfold fromJwkTyped
  rw [parse_render cfg ms hcl, hv]
  exact fromJwkParts_foreign_export cfg P alg k withD ha hk hne

/-- a symmetric key's JWK (`kty` = "oct", no `crv`) offered to any of the 8 types: InvalidKeyData -/
theorem oct_jwk_refused_by_types (cfg : Cfg) (P : Prims) (alg : Alg) (j : Parts) (ha : alg.isSymmetric = false)
    (h : j.kty = sb "oct") : fromJwkParts cfg P alg j = .err .invalidKeyData := by
  apply Jwk.fromJwkParts_foreign cfg P alg j ha
  left
  rw [h, Alg.ktyOk]
  cases alg.isEc <;> cases alg.isBls <;> decide +kernel

/-- on the JWKs the dispatcher routes to a type, the type's own import is the dispatcher's import; and it never panics -/
theorem typed_import_agrees_with_dispatch (cfg : Cfg) (P : Prims) (alg : Alg) (text : Bytes) (j : Parts)
    (hp : parseJwk cfg text = some j) (hs : selectAlg j = some alg) : fromJwkTyped cfg P alg text = fromJwk cfg P text := by
  simp [fromJwkTyped, fromJwk, fromJwkAny, hp, hs]

theorem typed_import_total (cfg : Cfg) (P : Prims) (alg : Alg) (text : Bytes) : (fromJwkTyped cfg P alg text).isPanic = false := by
  unfold fromJwkTyped
  split
  · exact fromJwkParts_no_panic cfg P alg _
  · rfl

example : fromJwkParts Cfg.current toy .p256 (exportParts edKey true) = .err .invalidKeyData :=
  Jwk.fromJwkParts_foreign_export _ _ _ _ _ rfl rfl (by decide)
example : Alg.ktyOk .blsG1 (sb "EC") = true ∧ Alg.ktyOk .ed25519 (sb "EC") = false ∧ Alg.ktyOk .p256 (sb "OKP") = false := by decide +kernel

/-! ### `public_bytes_length` / `secret_bytes_length` announce what the exports produce -/

theorem public_bytes_length_exact {k : Key} {pb : Bytes} (h : toPublicBytes k = .ok pb) (hs : k.pub.length = k.alg.pubLen) :
    publicBytesLen k = .ok pb.length := by
  cases ha : k.alg.isSymmetric
  · obtain ⟨pb', h', hl⟩ := toPublicBytes_length ha hs
    rw [h] at h'
    cases h'
    rw [publicBytesLen, ha, hl]
    rfl
  · rw [toPublicBytes, ha] at h
    cases h

theorem secret_bytes_length_exact {cfg : Cfg} {P : Prims} {alg : Alg} {b : Bytes} {k : Key}
    (h : fromSecretBytes cfg P alg b = .ok k) : toSecretBytes k = .ok b ∧ secretBytesLen k = .ok b.length := by
  obtain ⟨ha, hs, hl, _⟩ := fromSecretBytes_ok h
  exact ⟨toSecretBytes_of_secret hs, by rw [secretBytesLen, ha, hl]⟩

example : publicBytesLen p256Key = .ok 33 ∧ publicBytesLen edKey = .ok 32 := ⟨rfl, rfl⟩

/-! ### the secret-key widths are the source's (regenerated from askar-crypto/src/alg/*.rs on every run) -/

/-- `Alg.secretLen` of the key types that declare `SECRET_KEY_LENGTH` as a literal equals the CURRENT source's constant -/
theorem secret_key_lengths_match_source :
    [("p256", Jwk.Alg.p256.secretLen), ("k256", Jwk.Alg.k256.secretLen), ("p384", Jwk.Alg.p384.secretLen),
     ("x25519", Jwk.Alg.x25519.secretLen)] = Askar.Generated.Tables.secretKeyLengths := by decide

end Askar.C14
