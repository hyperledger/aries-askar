/-
C01 — a profile behaves as a faithful keyed map of records.
ONLY property theorems and non-vacuity examples; helper lemmas are in Lemmas/Refine.lean.
The specification is Model/Spec.lean (`Spec.step`: an association list keyed by (kind, category, name)).
-/
import AskarModel.Model.Spec
import AskarModel.Lemmas.Refine
import AskarModel.Model.SqlShape
import AskarModel.Generated.Stmts
import AskarModel.Generated.StmtsPg
import AskarModel.Generated.Tables

namespace Askar.Store

/-- One call without expiry: the store model's result equals the map's result, the abstraction commutes, and the
    invariants are kept. -/
theorem step_refines (like : Bytes → Bytes → Bool) (page : Nat) (hp : 0 < page) (now : Int) (s : Sess) (db : Db)
    (hI : Inv db) (hK : KeyCoherent s db) (op : Op) (hop : op.noExpiry = true) :
    (step like page now s db op).2 = (Spec.step like page (abs s db) op).2 ∧
    abs s (step like page now s db op).1 = (Spec.step like page (abs s db) op).1 ∧
    Inv (step like page now s db op).1 ∧ KeyCoherent s (step like page now s db op).1 :=
  Lemmas.step_refines like page hp now s db hI hK op hop

/-- Any finite sequence of calls without expiry (over one or several sequential sessions of the same profile — they
    share the profile id and key) produces exactly the outputs of the in-memory map. -/
theorem run_refines (like : Bytes → Bytes → Bool) (page : Nat) (hp : 0 < page) (now : Int) (s : Sess) (db : Db)
    (hI : Inv db) (hK : KeyCoherent s db) (ops : List Op) (hops : ∀ op ∈ ops, op.noExpiry = true) :
    (run like page now s db ops).2 = (Spec.run like page (abs s db) ops).2 ∧
    abs s (run like page now s db ops).1 = (Spec.run like page (abs s db) ops).1 :=
  Lemmas.run_refines like page hp now s db hI hK ops hops

/-- From a fresh profile: outputs equal those of the map started empty. -/
theorem run_refines_fresh (like : Bytes → Bytes → Bool) (page : Nat) (hp : 0 < page) (now : Int) (s : Sess)
    (ops : List Op) (hops : ∀ op ∈ ops, op.noExpiry = true) :
    (run like page now s {} ops).2 = (Spec.run like page [] ops).2 :=
  Lemmas.run_refines_fresh like page hp now s ops hops

/-- The map is keyed by kind as well: after any history, a fetch returns only an entry of the kind asked for
    (Item and Kms records never shadow each other). -/
theorem kinds_disjoint (like : Bytes → Bytes → Bool) (page : Nat) (m : Spec.Map) (ops : List Op) (k : Kind) (c n : String) (e : Entry)
    (h : (Spec.step like page (Spec.run like page m ops).1 (.fetch k c n)).2 = .entry (some e)) : e.kind = k :=
  Lemmas.kinds_disjoint like page m ops k c n e h

/-- Of the map, with unique keys: a fetch directly after a successful insert or replace (without expiry) returns
    exactly the bytes, strings and tag list that were written. -/
theorem fetch_after_write (like : Bytes → Bytes → Bool) (page : Nat) (m : Spec.Map) (k : Kind) (c n : String) (v : Bytes) (t : Option (List Wql.Tag))
    (hU : m.Pairwise fun a b => ¬(a.kind = b.kind ∧ a.cat = b.cat ∧ a.name = b.name))
    (op : Op) (hop : op = .insert k c n v t none ∨ op = .replace k c n v t none)
    (hok : (Spec.step like page m op).2 = .ok) :
    (Spec.step like page (Spec.step like page m op).1 (.fetch k c n)).2 = .entry (some ⟨k, c, n, v, t.getD []⟩) := by
  have hnew : Spec.sameKey ⟨k, c, n, v, t.getD []⟩ k c n = true := by simp [Spec.sameKey]
  rcases hop with rfl | rfl
  · simp only [Spec.step] at hok ⊢
    split at hok
    · cases hok
    · rename_i hany
      simp only [hany, Bool.false_eq_true, if_false]
      congr 1
      exact Lemmas.find_append_new m k c n _ hnew (by simpa using hany)
  · simp only [Spec.step] at hok ⊢
    split at hok
    · rename_i hany
      simp only [hany, if_true]
      congr 1
      exact Lemmas.find_map_replace m k c n _ hnew hany
    · cases hok

/-! non-vacuity: the empty database satisfies the invariant; in the map a concrete three-call history gives
    Duplicate on the second insert and none on the third, of the other kind. -/
example : Inv {} := Lemmas.inv_empty
example : KeyCoherent ⟨1, 0⟩ {} := by simp [KeyCoherent]
example : (Spec.run (fun _ _ => false) 32 [] [.insert 2 "c" "n" [1] none none, .insert 2 "c" "n" [2] none none, .insert 1 "c" "n" [3] none none]).2
    = [.ok, .err .duplicate, .ok] := by decide +kernel

/-! ### The model's statements are the source's statements
    `Sql.Generated.*` is re-extracted from sqlite/mod.rs on every run; `Sql.Expected.*` is what
    Model/Store.lean implements (`inScope`, `sameIdent`, `live`, INSERT OR IGNORE, UPDATE … RETURNING id). -/
open Askar.Sql in
theorem insert_stmt_matches_source : shapeOk Generated.insertQuery Expected.insertQuery = true := by decide +kernel
open Askar.Sql in
theorem update_stmt_matches_source : shapeOk Generated.updateQuery Expected.updateQuery = true := by decide +kernel
open Askar.Sql in
theorem delete_stmt_matches_source : shapeOk Generated.deleteQuery Expected.deleteQuery = true := by decide +kernel
open Askar.Sql in
theorem delete_all_stmt_matches_source : shapeOk Generated.deleteAllQuery Expected.deleteAllQuery = true := by decide +kernel
open Askar.Sql in
theorem fetch_stmt_matches_source : shapeOk Generated.fetchQuery Expected.fetchQuery = true := by decide +kernel
open Askar.Sql in
theorem scan_stmt_matches_source : shapeOk Generated.scanQuery Expected.scanQuery = true := by decide +kernel
open Askar.Sql in
theorem count_stmt_matches_source : shapeOk Generated.countQuery Expected.countQuery = true := by decide +kernel
open Askar.Sql in
theorem tag_stmts_match_source :
    shapeOk Generated.tagInsertQuery Expected.tagInsertQuery = true ∧ shapeOk Generated.tagDeleteQuery Expected.tagDeleteQuery = true := by decide +kernel

/-- The POSTGRES backend's statements (backend/postgres/mod.rs, re-extracted on every run) have the shapes the same model
    assumes of them: same identity / scope atoms, Postgres' expiry conjunct, `ON CONFLICT DO NOTHING RETURNING id`, and a
    row-locking twin of the fetch.  No Postgres server exists in the sandbox: this tie is by proof obligation only. -/
theorem pg_stmts_match_source :
    Sql.shapeOk Sql.GeneratedPg.insertQuery Sql.ExpectedPg.insertQuery = true ∧
    Sql.shapeOk Sql.GeneratedPg.updateQuery Sql.ExpectedPg.updateQuery = true ∧
    Sql.shapeOk Sql.GeneratedPg.deleteQuery Sql.ExpectedPg.deleteQuery = true ∧
    Sql.shapeOk Sql.GeneratedPg.deleteAllQuery Sql.ExpectedPg.deleteAllQuery = true ∧
    Sql.shapeOk Sql.GeneratedPg.fetchQuery Sql.ExpectedPg.fetchQuery = true ∧
    Sql.shapeOk Sql.GeneratedPg.fetchQueryUpdate Sql.ExpectedPg.fetchQueryUpdate = true ∧
    Sql.shapeOk Sql.GeneratedPg.scanQuery Sql.ExpectedPg.scanQuery = true ∧
    Sql.shapeOk Sql.GeneratedPg.countQuery Sql.ExpectedPg.countQuery = true ∧
    Sql.shapeOk Sql.GeneratedPg.tagInsertQuery Sql.ExpectedPg.tagInsertQuery = true ∧
    Sql.shapeOk Sql.GeneratedPg.tagDeleteQuery Sql.ExpectedPg.tagDeleteQuery = true := by decide +kernel

/-- the integers behind `Kind` (`items.kind`; the generators and the driver use 1 = Kms, 2 = Item) are the CURRENT source's
    `enum EntryKind` discriminants (regenerated from askar-storage/src/entry.rs on every run) -/
theorem entry_kinds_match_source : Askar.Generated.Tables.entryKinds = [("Kms", 1), ("Item", 2)] := by decide +kernel

end Askar.Store
