/-
C17 — expired records are absent for every operation.
ONLY property theorems and refutations with witnesses; helpers in Lemmas/Expiry.lean.
The full-strength statement `ExpiredIsAbsent` is FALSE on the current tree (known findings, D8):
it is kept visible below, its negation is proved with concrete witnesses, and the part that holds
is `expired_is_absent_partial`.
-/
import AskarModel.Model.Spec
import AskarModel.Lemmas.Expiry
import AskarModel.Model.SqlShape
import AskarModel.Generated.Stmts
import AskarModel.Generated.StmtsPg

namespace Askar.Store

def Op.isRead : Op → Bool
  | .fetch .. => true
  | .fetchAll .. => true
  | .count .. => true
  | .scan .. => true
  | _ => false

/-- Full strength (what the property demands): every operation behaves on a store holding expired
    rows exactly as on the store without them. -/
def ExpiredIsAbsent : Prop :=
  ∀ (like : Bytes → Bytes → Bool) (page : Nat) (now : Int) (s : Sess) (db : Db) (op : Op),
    (step like page now s db op).2 = (step like page now s (purge now db) op).2

/-- The part that holds: all four read operations ignore expired rows. -/
theorem expired_is_absent_partial (like : Bytes → Bytes → Bool) (page : Nat) (now : Int) (s : Sess) (db : Db) (op : Op)
    (hr : op.isRead = true) :
    (step like page now s db op).2 = (step like page now s (purge now db) op).2 :=
  Lemmas.expired_is_absent_partial like page now s db op hr

/-- The full statement is refuted on the model of the current code (the four witnesses below, each replayed
    on the real code by the correspondence run: known findings). -/
theorem expired_is_absent_refuted : ¬ ExpiredIsAbsent := Lemmas.expired_is_absent_refuted

theorem expired_insert_is_duplicate_witness :
    ∃ (db : Db) (now : Int) (s : Sess), (∀ it ∈ db.items, live now it = false) ∧
      (step (fun _ _ => false) 32 now s db (.insert 2 "c" "n" [] none none)).2 = .err .duplicate := by
  refine ⟨Lemmas.wDb, 5000, ⟨1, 0⟩, Lemmas.wDb_all_expired, ?_⟩
  simp [step, doInsert, Lemmas.wDb, Lemmas.wItem_same]

theorem expired_replace_resurrects_witness :
    ∃ (db : Db) (now : Int) (s : Sess), (∀ it ∈ db.items, live now it = false) ∧
      (step (fun _ _ => false) 32 now s db (.replace 2 "c" "n" [] none none)).2 = .ok := by
  refine ⟨Lemmas.wDb, 5000, ⟨1, 0⟩, Lemmas.wDb_all_expired, ?_⟩
  simp [step, doReplace, Lemmas.wDb, Lemmas.wItem_same]

theorem expired_remove_succeeds_witness :
    ∃ (db : Db) (now : Int) (s : Sess), (∀ it ∈ db.items, live now it = false) ∧
      (step (fun _ _ => false) 32 now s db (.remove 2 "c" "n")).2 = .ok := by
  refine ⟨Lemmas.wDb, 5000, ⟨1, 0⟩, Lemmas.wDb_all_expired, ?_⟩
  simp [step, doRemove, Lemmas.wDb, Lemmas.wItem_same]

theorem expired_remove_all_counts_witness :
    ∃ (db : Db) (now : Int) (s : Sess), (∀ it ∈ db.items, live now it = false) ∧
      (step (fun _ _ => false) 32 now s db (.removeAll none none none)).2 = .count 1 := by
  refine ⟨Lemmas.wDb, 5000, ⟨1, 0⟩, Lemmas.wDb_all_expired, ?_⟩
  simp [step, doRemoveAll, Lemmas.wDb, Item.inScope, matchFilter, matchTags, Lemmas.wItem]

/-- No read ever returns or counts a row that has expired. -/
theorem reads_hide_expired (like : Bytes → Bytes → Bool) (db : Db) (now : Int) (s : Sess) (kind : Option Kind) (cat : Option String)
    (f : Option (Wql.Query String)) (off lim : Option Int) (desc : Bool) :
    (∀ it ∈ selectRows like db now s.pid s.key kind cat f off lim desc, live now it = true) ∧
    (∀ k c n e, doFetch db now s k c n = some e → ∃ it ∈ db.items, live now it = true ∧ toEntry it = e) ∧
    doCount like db now s kind cat f = (doCount like (purge now db) now s kind cat f) :=
  Lemmas.reads_hide_expired like db now s kind cat f off lim desc

/-- Visible before expiry, to within the one-second resolution, while the timestamp is representable
    (the year bound is forced by SQLite's DATETIME: D13). -/
theorem visible_before_expiry (now e : Int) (it : Item) (he : it.expiry = some e) (h1 : now + 1000 ≤ e)
    (h0 : 0 ≤ now) (h2 : e / 1000 ≤ maxDatetimeSec) : live now it = true :=
  Lemmas.visible_before_expiry now e it he h1 h0 h2

theorem gone_after_expiry (now e : Int) (it : Item) (he : it.expiry = some e) (h1 : e ≤ now) : live now it = false := by
  simp only [live, he]
  have a : ¬ (e / 1000 > now / 1000) := by omega
  simp [a]

theorem no_expiry_never_expires (now : Int) (it : Item) (he : it.expiry = none) : live now it = true :=
  Lemmas.no_expiry_never_expires now it he

/-- An expiry beyond year 9999 is stored but never visible (D13). -/
theorem far_future_invisible (now e : Int) (it : Item) (he : it.expiry = some e) (h : maxDatetimeSec < e / 1000) :
    live now it = false :=
  Lemmas.far_future_invisible now e it he h

/-- Replacing a record resets its expiry to exactly what the call says (none, or now + ms). -/
theorem replace_resets_expiry (db db' : Db) (now : Int) (s : Sess) (k : Kind) (c n : String) (v : Bytes) (t : Option (List Wql.Tag))
    (ems : Option Int) (h : doReplace db now s k c n v t ems = .ok db') :
    ∀ it ∈ db'.items, it.sameIdent s.pid s.key k c n = true →
      it.expiry = ems.map (now + ·) ∧ it.value = v :=
  Lemmas.replace_resets_expiry db db' now s k c n v t ems h

/-- In the CURRENT source (re-extracted on every run) every read statement carries the expiry atom … -/
theorem read_stmts_hide_expired :
    ∀ s ∈ [Sql.Generated.countQuery, Sql.Generated.scanQuery, Sql.Generated.fetchQuery], s.hidesExpired = true := by decide +kernel

/-- … and no write statement does: that is defect D8 as a fact about the source text (when the source is
    repaired this obligation breaks and the model must follow). -/
theorem write_stmts_ignore_expiry :
    ∀ s ∈ [Sql.Generated.deleteQuery, Sql.Generated.deleteAllQuery, Sql.Generated.updateQuery, Sql.Generated.insertQuery],
      s.hidesExpired = false := by decide +kernel

/-- The POSTGRES backend: reads carry its expiry conjunct, writes do not (D8 holds there too). -/
theorem pg_read_stmts_hide_expired :
    ∀ s ∈ [Sql.GeneratedPg.countQuery, Sql.GeneratedPg.scanQuery, Sql.GeneratedPg.fetchQuery, Sql.GeneratedPg.fetchQueryUpdate],
      s.hidesExpiredPg = true := by decide +kernel

theorem pg_write_stmts_ignore_expiry :
    ∀ s ∈ [Sql.GeneratedPg.deleteQuery, Sql.GeneratedPg.deleteAllQuery, Sql.GeneratedPg.updateQuery, Sql.GeneratedPg.insertQuery],
      s.hidesExpiredPg = false ∧ s.hidesExpired = false := by decide +kernel

end Askar.Store
