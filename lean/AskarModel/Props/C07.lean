/-
C07 — profiles are isolated from each other.
ONLY property theorems; helper lemmas are in Lemmas/Refine.lean.
-/
import AskarModel.Model.Spec
import AskarModel.Lemmas.Refine
import AskarModel.Model.SqlShape
import AskarModel.Generated.Stmts
import AskarModel.Generated.Flags
import AskarModel.Generated.StmtsPg

namespace Askar.Store

/-- Frame: a call through a session of profile `s.pid` leaves every row of every other profile
    untouched (same rows, same order, same content). -/
theorem step_frame (like : Bytes → Bytes → Bool) (page : Nat) (now : Int) (s : Sess) (db : Db) (op : Op) :
    (step like page now s db op).1.items.filter (·.pid != s.pid) = db.items.filter (·.pid != s.pid) ∧
    (step like page now s db op).1.profiles = db.profiles :=
  (step_effect like page now s db op).frame

/-- Hence the map of any other profile is unchanged. -/
theorem step_other_abs (like : Bytes → Bytes → Bool) (page : Nat) (now : Int) (s s' : Sess) (db : Db) (op : Op) (h : s'.pid ≠ s.pid) :
    abs s' (step like page now s db op).1 = abs s' db :=
  Lemmas.step_other_abs like page now s s' db op h

/-- Isolation over interleaved histories: whatever calls other profiles make in between, the
    outputs of the calls made through sessions of profile `s` are exactly those of `s`'s own map
    run on `s`'s own calls alone.  (Sessions are identified with (profile id, key); all sessions
    in the history are key-coherent.  `cache_coherent_resolve` below gives, for every session a handle hands out, its row
    `⟨s.pid, name, s.key⟩` in the profiles table; that the items of that profile carry that key is not proved here but in
    Props/Ties.lean, `single_handle_store_invariants`.) -/
theorem isolation (like : Bytes → Bytes → Bool) (page : Nat) (hp : 0 < page) (now : Int) (db : Db) (hI : Inv db)
    (hist : List (Sess × Op)) (hK : ∀ so ∈ hist, KeyCoherent so.1 db) (hops : ∀ so ∈ hist, so.2.noExpiry = true)
    (hS : ∀ so ∈ hist, ∀ so' ∈ hist, so.1.pid = so'.1.pid → so.1 = so'.1) (s : Sess) (hs : KeyCoherent s db) 
    (hS' : ∀ so ∈ hist, so.1.pid = s.pid → so.1 = s) :
    ((runMulti like page now db hist).2.filter (·.1.pid == s.pid)).map (·.2) =
      (Spec.run like page (abs s db) ((hist.filter (·.1.pid == s.pid)).map (·.2))).2 :=
  Lemmas.isolation like page hp now db hI hist hK hops hS s hs hS'

/-- Removing a profile removes all of its rows and nothing else. -/
theorem remove_profile_exact (db : Db) (h : Handle) (name : String) (p : Profile)
    (hp : db.profiles.find? (·.name == name) = some p) :
    ((removeProfile db h name true).1.1).items = db.items.filter (·.pid != p.id) ∧
    ((removeProfile db h name true).1.1).profiles = db.profiles.filter (·.name != name) ∧
    (removeProfile db h name true).2 = true :=
  Lemmas.remove_profile_exact db h name p hp

/-- The removed profile can no longer be opened through the same store handle (without the eviction it can:
    `remove_without_eviction_still_resolves`, defect D7). -/
theorem removed_profile_not_found (db : Db) (h : Handle) (name : String) :
    resolve (removeProfile db h name true).1.1 (removeProfile db h name true).1.2 name = .error .notFound :=
  Lemmas.removed_profile_not_found db h name

/-- The key cache stays coherent with the profiles table under create / remove / resolve: here create, which also keeps
    names and ids of the profiles table distinct (and needs that to do so). -/
theorem cache_coherent_create (db : Db) (h : Handle) (name : String) (db' : Db) (h' : Handle)
    (hc : CacheCoherent db h) (hw : ProfilesWF db) (hr : createProfile db h name = .ok (db', h')) :
    CacheCoherent db' h' ∧ ProfilesWF db' :=
  Lemmas.cache_coherent_create db h name db' h' hc hw hr

/-- … under remove (with eviction); `ProfilesWF` is carried along only because `cache_coherent_create` needs it. -/
theorem cache_coherent_remove (db : Db) (h : Handle) (name : String) (hc : CacheCoherent db h) (hw : ProfilesWF db) :
    CacheCoherent (removeProfile db h name true).1.1 (removeProfile db h name true).1.2 ∧
    ProfilesWF (removeProfile db h name true).1.1 := by
  unfold removeProfile
  cases hf : db.profiles.find? (·.name == name) with
  | none => exact ⟨Lemmas.cacheCoherent_evict hc fun _ hp _ => hp, hw⟩
  | some p =>
    exact ⟨Lemmas.cacheCoherent_evict hc fun q hq hn => by simp [List.mem_filter, hq, hn],
      hw.sublist List.filter_sublist⟩

/-- … under resolve, and the session handed out is that of a row of the profiles table. -/
theorem cache_coherent_resolve (db : Db) (h : Handle) (name : String) (s : Sess) (h' : Handle)
    (hc : CacheCoherent db h) (hr : resolve db h name = .ok (s, h')) :
    CacheCoherent db h' ∧ (⟨s.pid, name, s.key⟩ : Profile) ∈ db.profiles :=
  Lemmas.cache_coherent_resolve db h name s h' hc hr

/-- A newly created profile is empty even when SQLite hands it the row id of a removed profile:
    removal cascaded, so no row carries that id (foreign-key invariant). -/
theorem created_profile_empty (db : Db) (h : Handle) (name : String) (db' : Db) (h' : Handle)
    (hfk : FkInv db) (hr : createProfile db h name = .ok (db', h')) (s : Sess) (h'' : Handle)
    (hres : resolve db' h' name = .ok (s, h'')) : abs s db' = [] := by
  obtain ⟨_, rfl, rfl⟩ := Lemmas.createProfile_ok hr
  rw [Lemmas.resolve_cached (Lemmas.cacheGet_cachePut_self ..)] at hres
  cases hres
  simp only [abs, List.map_eq_nil_iff, List.filter_eq_nil_iff]
  intro it hit
  obtain ⟨p, hp, hpid⟩ := hfk it hit
  have := lt_nextId (db.profiles.map (·.id)) p.id (List.mem_map_of_mem hp)
  simp only [beq_iff_eq]
  omega

/-- A witness of D7: *without* eviction (`removeProfile … false`) the four-step history create P, remove P, create Q,
    open P resolves P to Q's row id. -/
theorem d7_witness_without_eviction :
    ∃ (s : Sess) (h : Handle) (db : Db),
      (do
        let (db1, h1) ← createProfile {} {} "P"
        let ((db2, h2), _) := removeProfile db1 h1 "P" false
        let (db3, h3) ← createProfile db2 h2 "Q"
        let (s, h4) ← resolve db3 h3 "P"
        pure (s, h4, db3) : Except Err (Sess × Handle × Db)) = .ok (s, h, db) ∧
      (⟨s.pid, "Q", 2⟩ : Profile) ∈ db.profiles ∧ s.key = 1 := by
  refine ⟨⟨1, 1⟩, { cache := [("Q", 1, 2), ("P", 1, 1)], nextKey := 3 },
    { items := [], profiles := [⟨1, "Q", 2⟩] }, ?_, ?_, rfl⟩
  · simp [createProfile, removeProfile, resolve, cacheGet, cachePut, nextId, bind, Except.bind, pure, Except.pure]
  · simp

/-- Every statement over `items` in the CURRENT source (re-extracted on every run) is restricted to the
    session's profile: `profile_id = ?1` is one of its conjuncts (INSERT binds it as the first column). -/
theorem stmt_profile_scoped :
    (∀ s ∈ [Sql.Generated.countQuery, Sql.Generated.scanQuery, Sql.Generated.fetchQuery, Sql.Generated.deleteQuery,
            Sql.Generated.deleteAllQuery, Sql.Generated.updateQuery], s.profileScoped = true) ∧
    Sql.Generated.insertQuery.cols.head? = some ("profile_id", 1) := by decide +kernel

/-- The same for the POSTGRES backend's statements (proof obligation over the extracted text only). -/
theorem pg_stmt_profile_scoped :
    (∀ s ∈ [Sql.GeneratedPg.countQuery, Sql.GeneratedPg.scanQuery, Sql.GeneratedPg.fetchQuery, Sql.GeneratedPg.fetchQueryUpdate,
            Sql.GeneratedPg.deleteQuery, Sql.GeneratedPg.deleteAllQuery, Sql.GeneratedPg.updateQuery], s.profileScoped = true) ∧
    Sql.GeneratedPg.insertQuery.cols.head? = some ("profile_id", 1) := by decide +kernel

/-! ### D7's repair as an obligation against the CURRENT source (flag re-extracted on every run) -/

/-- Without the eviction, for every database, handle and name: the removed profile still resolves, to the
    id and key the handle remembered. -/
theorem remove_without_eviction_still_resolves (db : Db) (h : Handle) (name : String) (pid key : Nat)
    (hc : cacheGet h.cache name = some (pid, key)) :
    resolve (removeProfile db h name false).1.1 (removeProfile db h name false).1.2 name = .ok (⟨pid, key⟩, h) := by
  have h2 : (removeProfile db h name false).1.2 = h := by
    unfold removeProfile; cases db.profiles.find? (·.name == name) <;> simp
  rw [h2]; exact Lemmas.resolve_cached hc

/-- the SQLite backend's `remove_profile` evicts — what the model (`evictOnRemove`) and every theorem above assume -/
theorem sqlite_remove_profile_evicts_as_modelled :
    Askar.Generated.Flags.removeProfileEvictsSqlite = evictOnRemove := by decide +kernel

end Askar.Store
