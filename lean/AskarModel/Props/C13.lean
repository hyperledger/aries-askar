/-
C13 — signatures verify only for the signed message and key, and interoperate.
ONLY property theorems, one refutation with its witness, and non-vacuity examples.  The model is `Model/Sign.lean` (askar's own
code on the signing / verification paths: `normalize_alg`, `SignatureType::from_str`, the per-algorithm `KeySign` / `KeySigVerify`,
the `AnyKey` dispatch, `LocalKey::sign_message` / `verify_signature`, the error-kind mapping); the lemmas the proofs rest on are in
`Lemmas/Sign.lean`, which also defines the vocabulary of the statements (`normSpec`, `utf8Len`, `missingSecretKind`, `Schemes.Std`,
`acceptAllSchemes`).  The last two sections rest on `Crypto/Ed25519.lean`, `Crypto/Ecdsa.lean` with `Lemmas/Ed25519Spec.lean` (which
defines `sigR`, `sigSOf`, `plusL`), `Lemmas/EcdsaSpec.lean`, and on `Model/Seed.lean` with `Lemmas/Seed.lean`.

PARTIAL, and where the line runs.  The curve mathematics (ed25519-dalek, p256, p384, k256, ecdsa, rfc6979) is NOT modelled: each
statement below holds for EVERY family `Sch : Schemes` of abstract schemes satisfying three laws (fixed signature width, a derived public key
decodes, a signature verifies under the public key of its secret key).  Hence
* proved here, for all keys, messages, byte strings and type strings, without bounds: which (key, type string) pairs sign / verify
  and which error each other pair gives; that the type-string parser accepts exactly the spellings of eddsa / es256 / es256k / es384 up
  to ASCII case and `-`, `_`, space, whatever the length of the input; that an own signature verifies, under the key pair and under
  every public-only import of it, with the default or the spelled-out type; that a byte string of the wrong length is `false`, not an
  error and not a panic; that neither entry point can panic (for keys built by the constructors); that signing is a function of
  (algorithm, secret, message, parsed type);
* NOT provable from the laws, and not claimed: "any altered message or signature is rejected" (`AlteredRejected` below is refuted
  for a law-abiding scheme) — this is unforgeability of the real curves; and "the values fixed by RFC 8032 and RFC 6979".  Both are
  checked on the real code by the harness (RFC vectors bit for bit; every single-bit mutation; garbage of every length 0…200).
  What the model does give is `verify_is_scheme_verdict`: askar's code adds nothing to and removes nothing from the verdict of the
  external verifier on an exact-length input.
Observed on the real crates and built into the toy instance the driver runs (`Toy.schemes`): p256 / p384 verification accepts
(r, n − s) for a valid (r, s); k256 and Ed25519 (strict) do not.

THE EXECUTABLE SPECIFICATIONS.  "The values fixed by RFC 8032 and RFC 6979" are checked against executable specifications written
from the RFCs — `Crypto/Ed25519.lean`, `Crypto/Ecdsa.lean` — which the driver evaluates for EVERY sign operation (signature bytes,
public key) and EVERY verify operation (verdict of the strict Ed25519 / the ECDSA verifier) and the harness compares with the library
byte for byte.  Proved about those specifications without elliptic-curve group laws: determinism and closed form of the Ed25519
signature, widths, canonical S (emitted S < L; every S ≥ L — in particular S + L — rejected by all verifiers), low-S for secp256k1,
the RFC 6979 nonce range (with the loop's fuel stated), and `ecdsa_correct` over every abstract group satisfying `Ecdsa.Laws`
(satisfiable: Z/7).  Not proved (list at the end of `Lemmas/EcdsaSpec.lean`): that the arithmetic of `Ec.lean` satisfies the laws, Ed25519
correctness, rejection of a canonical S' ≠ S.
-/
import AskarModel.Model.Sign
import AskarModel.Lemmas.Sign
import AskarModel.Lemmas.Ed25519Spec
import AskarModel.Lemmas.EcdsaSpec
import AskarModel.Model.Seed
import AskarModel.Lemmas.Seed
import AskarModel.Generated.Tables

namespace Askar.C13
open Askar.Sign Askar.Crypto

/-! ### the type-string parser -/

/-- `SignatureType::from_str` accepts exactly the strings whose normal form (separators `-`, `_`, space dropped, ASCII letters
    lower-cased) IS one of the four names — for inputs of any length (the 64-byte buffer never rejects an accepted spelling) -/
theorem sigType_parse_table (s : List Char) (t : SignatureType) :
    SignatureType.fromStr s = .ok t ↔ normSpec s = t.canonical := fromStr_ok_iff s t

/-- the buffer bound: `ExceededBuffer` exactly when the NORMALISED text needs more than 64 bytes of UTF-8 … -/
theorem sigType_parse_exceeded (s : List Char) :
    SignatureType.fromStr s = .err .exceededBuffer ↔ 64 < utf8Len (normSpec s) := fromStr_exceeded_iff s

/-- … `Unsupported` exactly when it fits and is none of the four names … -/
theorem sigType_parse_unsupported (s : List Char) :
    SignatureType.fromStr s = .err .unsupported ↔ utf8Len (normSpec s) ≤ 64 ∧ ∀ t : SignatureType, normSpec s ≠ t.canonical :=
  fromStr_unsupported_iff s

/-- … and nothing else can happen (no panic: the slice operations of the writer and of `as_ref` stay in bounds) -/
theorem sigType_parse_total (s : List Char) :
    (∃ t, SignatureType.fromStr s = .ok t) ∨ SignatureType.fromStr s = .err .exceededBuffer ∨ SignatureType.fromStr s = .err .unsupported :=
  fromStr_cases s

/-- `normalize_alg` computes its specification (as UTF-8), bounded by 64 bytes … -/
theorem normalize_spec (s : List Char) :
    normalizeAlg s =
      if utf8Len (normSpec s) ≤ 64 then
        .ok { len := utf8Len (normSpec s), buf := encode (normSpec s) ++ List.replicate (64 - utf8Len (normSpec s)) 0 }
      else .err .exceededBuffer := normalizeAlg_eq s

/-- the model's fused loop is the source's `for c in NormalizedIter::new(val)` loop over `NormalizedIter::next` -/
theorem normalize_loop_as_written (s : List Char) : normalizeAlgIter s = normalizeAlg s := normalizeAlgIter_eq s

/-- … and is idempotent: normalising the normal form changes nothing -/
theorem normalize_idempotent (s : List Char) : normalizeAlg (normSpec s) = normalizeAlg s ∧ normSpec (normSpec s) = normSpec s :=
  ⟨by rw [normalizeAlg_eq, normalizeAlg_eq, normSpec_idem], normSpec_idem s⟩

/-- spellings with the same normal form are interchangeable everywhere -/
theorem spelling_irrelevant {s s' : List Char} (h : normSpec s = normSpec s') (Sch : Schemes) (k : Key) (m sig : Bytes) :
    signMessage Sch k m (some s) = signMessage Sch k m (some s') ∧
    verifySignature Sch k m sig (some s) = verifySignature Sch k m sig (some s') := by
  rw [signMessage_eq, signMessage_eq, verifySignature_eq, verifySignature_eq, parseSigType_congr h]
  exact ⟨rfl, rfl⟩

example : SignatureType.fromStr " Ed-DSA_".toList = .ok .eddsa := (sigType_parse_table _ _).mpr (by decide +kernel)
example : SignatureType.fromStr ("es256k".toList ++ List.replicate 100 '-') = .ok .es256k := (sigType_parse_table _ _).mpr (by decide +kernel)
example : SignatureType.fromStr "es256K".toList = .err .unsupported := by decide +kernel   -- KELVIN SIGN is not ASCII 'K'
example : SignatureType.fromStr (List.replicate 64 'a') = .err .unsupported := by decide +kernel
example : SignatureType.fromStr (List.replicate 65 'A') = .err .exceededBuffer := by decide +kernel
example : SignatureType.fromStr (List.replicate 63 'a' ++ ['é']) = .err .exceededBuffer := by decide +kernel   -- bytes, not characters

/-! ### signing -/

/-- `sign_message` succeeds exactly for: a signing algorithm, a secret present, the default type or (a spelling of) the algorithm's own type -/
theorem sign_ok_iff (Sch : Schemes) (k : Key) (m : Bytes) (t : Option (List Char)) :
    (∃ s, signMessage Sch k m t = .ok s) ↔
      ∃ a sk st, k.alg.sigAlg? = some a ∧ k.secret = some sk ∧ parseSigType t = .ok st ∧ (st = none ∨ st = some a.native) := by
  constructor
  · rintro ⟨s, h⟩
    obtain ⟨a, sk, st, h1, h2, h3, h4, _⟩ := sign_ok_elim h
    exact ⟨a, sk, st, h1, h2, h3, h4⟩
  · rintro ⟨a, sk, st, h1, h2, h3, h4⟩
    exact ⟨_, sign_ok_intro h1 h2 h3 h4⟩

/-- … and then the signature is the external scheme's, with the scheme's fixed width -/
theorem sign_value {Sch : Schemes} {k : Key} {m : Bytes} {t : Option (List Char)} {s : Bytes} (h : signMessage Sch k m t = .ok s) :
    ∃ a sk, k.alg.sigAlg? = some a ∧ k.secret = some sk ∧ s = (Sch.scheme a).sign sk m ∧ s.length = (Sch.scheme a).sigLen := by
  obtain ⟨a, sk, _, h1, h2, _, _, rfl⟩ := sign_ok_elim h
  exact ⟨a, sk, h1, h2, rfl, (Sch.scheme a).sign_len sk m⟩

/-- with the widths of the real crates (64, 64, 64, 96 — `Schemes.Std`, true of the driver's instance) the length of a signature is
    what `SignatureType::signature_length` announces for the algorithm's type -/
theorem sign_length_matches_type {Sch : Schemes} (hstd : Sch.Std) {k : Key} {m : Bytes} {t : Option (List Char)} {s : Bytes}
    (h : signMessage Sch k m t = .ok s) : ∃ a, k.alg.sigAlg? = some a ∧ s.length = a.native.signatureLength := by
  obtain ⟨a, sk, _, ha, _, _, _, rfl⟩ := sign_ok_elim h
  exact ⟨a, ha, by rw [(Sch.scheme a).sign_len, hstd a]⟩

example : Toy.schemes.Std := toy_std

/-- signing is deterministic in the strongest sense the model can express: the outcome (signature or error) is a function of
    (algorithm, secret, message, parsed type) — independent of the stored public part, of how the type was spelled, of any state -/
theorem sign_deterministic {Sch : Schemes} {k k' : Key} {t t' : Option (List Char)} (m : Bytes)
    (ha : k.alg = k'.alg) (hs : k.secret = k'.secret) (ht : parseSigType t = parseSigType t') :
    signMessage Sch k m t = signMessage Sch k' m t' := by
  rw [signMessage_eq, signMessage_eq, ht]
  cases parseSigType t' with
  | ok st =>
    show (anyWriteSignature Sch k m st).mapErr _ = (anyWriteSignature Sch k' m st).mapErr _
    cases ha' : k'.alg.sigAlg? with
    | none => rw [anyWrite_of_nonsigning (ha ▸ ha'), anyWrite_of_nonsigning ha']
    | some a => rw [anyWrite_of (ha ▸ ha'), anyWrite_of ha', hs]
  | err e => rfl
  | panic x => rfl

/-- the default type is the algorithm's own type -/
theorem sign_default_is_native {Sch : Schemes} {k : Key} {a : SigAlg} (m : Bytes) {s : List Char}
    (ha : k.alg.sigAlg? = some a) (hs : normSpec s = a.native.canonical) :
    signMessage Sch k m (some s) = signMessage Sch k m none := by
  have hp : parseSigType (some s) = .ok (some a.native) := (parseSigType_some_ok_iff s _).mpr ⟨_, rfl, hs⟩
  rw [signMessage_of_parse k m hp, signMessage_of_parse k m (t := none) rfl, anyWrite_of ha, anyWrite_of ha,
    if_pos (typeOk_native a), if_pos (typeOk_none a)]

/-- a public-only key never signs; the error is `Input` (MissingSecretKey) for Ed25519 and `Unsupported` for the ECDSA curves -/
theorem public_only_sign_errors {Sch : Schemes} {k : Key} (m : Bytes) (t : Option (List Char)) (hs : k.secret = none) :
    (signMessage Sch k m t).isErr = true ∧
    ∀ a st, k.alg.sigAlg? = some a → parseSigType t = .ok st → (st = none ∨ st = some a.native) →
      signMessage Sch k m t = .err (missingSecretKind a) :=
  ⟨Sign.public_only_sign_errors m t hs, fun a _ ha hp hty => by
    rw [signMessage_of_parse k m hp, anyWrite_of ha, if_pos (show typeOk _ _ from hty), hs]
    cases a <;> rfl⟩

/-- a type that parses but belongs to another algorithm: `Unsupported`, for signing and for verification, whatever the signature -/
theorem mismatched_type_errors {Sch : Schemes} {k : Key} {a : SigAlg} {t : Option (List Char)} {st : SignatureType} (m sig : Bytes)
    (ha : k.alg.sigAlg? = some a) (hp : parseSigType t = .ok (some st)) (hne : st ≠ a.native) :
    signMessage Sch k m t = .err .unsupported ∧ verifySignature Sch k m sig t = .err .unsupported :=
  Sign.mismatched_type_errors m sig ha hp hne

/-- the twelve algorithms that do not sign: always an error, `Unsupported` whenever the type string itself is acceptable -/
theorem nonsigning_alg_errors {Sch : Schemes} {k : Key} (m sig : Bytes) (t : Option (List Char)) (ha : k.alg.sigAlg? = none) :
    (signMessage Sch k m t).isErr = true ∧ (verifySignature Sch k m sig t).isErr = true ∧
    ((∃ st, parseSigType t = .ok st) → signMessage Sch k m t = .err .unsupported ∧ verifySignature Sch k m sig t = .err .unsupported) :=
  by
  rcases parseSigType_cases t with ⟨st, hp⟩ | hp | hp
  · rw [(entry_points_of_nonsigning m sig ha hp).1, (entry_points_of_nonsigning m sig ha hp).2]
    exact ⟨rfl, rfl, fun _ => ⟨rfl, rfl⟩⟩
  all_goals
    rw [(entry_points_of_parse_err k m sig hp).1, (entry_points_of_parse_err k m sig hp).2, hp]
    exact ⟨rfl, rfl, fun ⟨_, h⟩ => by cases h⟩

/-- a type string that does not parse is reported before the key is looked at: `Unexpected` when over-long, else `Unsupported` -/
theorem bad_type_errors {Sch : Schemes} (k : Key) (m sig : Bytes) {s : List Char} {e : CErr} (h : SignatureType.fromStr s = .err e) :
    signMessage Sch k m (some s) = .err e.toKind ∧ verifySignature Sch k m sig (some s) = .err e.toKind :=
  entry_points_of_parse_err k m sig (by rw [parseSigType_some, h]; rfl)

/-! ### verification -/

/-- a signature made by a key verifies — under that key, under any key with the same algorithm and public part (every public-only
    import of it), with the default type or any spelling of the algorithm's type -/
theorem verify_own_signature {Sch : Schemes} {k k' : Key} {a : SigAlg} {m s : Bytes} {t t' : Option (List Char)}
    {st' : Option SignatureType}
    (hwf : k.WF Sch) (ha : k.alg.sigAlg? = some a) (halg : k'.alg = k.alg) (hpub : k'.pub = k.pub)
    (hp' : parseSigType t' = .ok st') (hty' : st' = none ∨ st' = some a.native)
    (hs : signMessage Sch k m t = .ok s) : verifySignature Sch k' m s t' = .ok true :=
  Sign.verify_own_signature hwf ha halg hpub hp' hty' hs

/-- the two instances the property names: the key itself and its public-only counterpart, same type argument -/
theorem verify_own_signature_same_args {Sch : Schemes} {k : Key} {m s : Bytes} {t : Option (List Char)}
    (hwf : k.WF Sch) (hs : signMessage Sch k m t = .ok s) :
    verifySignature Sch k m s t = .ok true ∧ verifySignature Sch k.toPublic m s t = .ok true := by
  obtain ⟨a, _, st, ha, _, hp, hty, _⟩ := sign_ok_elim hs
  exact ⟨Sign.verify_own_signature hwf ha rfl rfl hp hty hs, Sign.verify_own_signature hwf ha rfl rfl hp hty hs⟩

/-- a byte string of any length other than the signature width is answered `false` — not an error, not a panic, and before the
    public key is touched (so even for a key that violates the invariant) -/
theorem wrong_length_false {Sch : Schemes} {k : Key} {a : SigAlg} {t : Option (List Char)} {st : Option SignatureType} (m sig : Bytes)
    (ha : k.alg.sigAlg? = some a) (hp : parseSigType t = .ok st) (hty : st = none ∨ st = some a.native)
    (hl : sig.length ≠ (Sch.scheme a).sigLen) : verifySignature Sch k m sig t = .ok false :=
  Sign.wrong_length_false m sig ha hp hty hl

/-- verification is total: for every message, byte string and type string of any length the answer is true, false or an error -/
theorem verify_total {Sch : Schemes} {k : Key} (hwf : k.WF Sch) (m sig : Bytes) (t : Option (List Char)) :
    verifySignature Sch k m sig t = .ok true ∨ verifySignature Sch k m sig t = .ok false ∨
      ∃ e, verifySignature Sch k m sig t = .err e := Sign.verify_total hwf m sig t

/-- signing is total, for every key whatsoever -/
theorem sign_total (Sch : Schemes) (k : Key) (m : Bytes) (t : Option (List Char)) : (signMessage Sch k m t).isPanic = false :=
  sign_no_panic Sch k m t

/-- the invariant `WF` is what every constructor establishes and what re-import as public key preserves … -/
theorem constructors_wf (Sch : Schemes) (a : SigAlg) (alg : KeyAlg) (h : alg.sigAlg? = some a) :
    (∀ sk, (Key.ofSecret Sch a alg sk).WF Sch) ∧ (∀ pk k, Key.ofPublic Sch a alg pk = some k → k.WF Sch) ∧
    (∀ k : Key, k.WF Sch → k.toPublic.WF Sch) :=
  ⟨fun sk => wf_ofSecret Sch a alg sk h, fun _ _ hk => wf_ofPublic h hk, fun _ hk => wf_toPublic hk⟩

/-- … and it cannot be dropped from `verify_total`: with stored public bytes that do not decode, the `unwrap` in
    `Ed25519KeyPair::verify_signature` is reached (a statement about the model; no constructor of the library builds such a key) -/
theorem verify_total_needs_wf :
    ∃ (k : Key) (m sig : Bytes), (verifySignature Toy.schemes k m sig none).isPanic = true :=
  ⟨{ alg := .ed25519, secret := none, pub := [] }, [], List.replicate 64 0, by decide⟩

/-- the secret part plays no role in verification: a key pair and its public-only import answer alike on every input -/
theorem verify_ignores_secret (Sch : Schemes) (k : Key) (m sig : Bytes) (t : Option (List Char)) :
    verifySignature Sch k.toPublic m sig t = verifySignature Sch k m sig t := by
  rw [verifySignature_eq, verifySignature_eq]
  cases parseSigType t with
  | ok st =>
    show (anyVerifySignature Sch k.toPublic m sig st).mapErr _ = (anyVerifySignature Sch k m sig st).mapErr _
    cases ha : k.alg.sigAlg? with
    | none => rw [anyVerify_of_nonsigning (k := k.toPublic) ha, anyVerify_of_nonsigning ha]
    | some a => rw [anyVerify_of (k := k.toPublic) ha, anyVerify_of ha]; rfl
  | err e => rfl
  | panic x => rfl

/-- askar's part of "fails to verify when anything is changed": on a well-formed key and an acceptable type the answer is the
    external verifier's verdict on an exact-length input and `false` otherwise — nothing is added, nothing is skipped -/
theorem verify_is_scheme_verdict {Sch : Schemes} {k : Key} {a : SigAlg} {t : Option (List Char)} {st : Option SignatureType} (m sig : Bytes)
    (ha : k.alg.sigAlg? = some a) (hp : parseSigType t = .ok st) (hty : st = none ∨ st = some a.native)
    (hv : (Sch.scheme a).validPub k.pub = true) :
    verifySignature Sch k m sig t = .ok (if sig.length = (Sch.scheme a).sigLen then (Sch.scheme a).verify k.pub m sig else false) :=
  verify_eq_of_ok m sig ha hp hty hv

/-- Full strength of "fails to verify when any bit of the message or signature is changed". -/
def AlteredRejected (Sch : Schemes) : Prop :=
  ∀ (k : Key) (m m' s s' : Bytes) (t : Option (List Char)), k.WF Sch → signMessage Sch k m t = .ok s →
    (m', s') ≠ (m, s) → verifySignature Sch k m' s' t = .ok false

/-- NOT a consequence of the laws the model assumes of the external schemes (witness: a scheme that accepts every one-byte
    signature satisfies all of them).  It is unforgeability of the real curves; the harness tests it exhaustively for single-bit changes. -/
theorem altered_rejected_not_from_laws : ¬ ∀ Sch : Schemes, AlteredRejected Sch := by
  intro h
  have hk : (Key.ofSecret acceptAllSchemes .ed25519 .ed25519 []).WF acceptAllSchemes := wf_ofSecret _ _ _ _ rfl
  have := h acceptAllSchemes (Key.ofSecret acceptAllSchemes .ed25519 .ed25519 []) [] [] [0] [1] none hk (by decide) (by decide +kernel)
  revert this
  decide

/-! ### non-vacuity -/

/-- hypotheses of `verify_own_signature` are satisfiable (toy instance): a key from a secret is well-formed and signs -/
example : (Key.ofSecret Toy.schemes .p384 .p384 [1, 2, 3]).WF Toy.schemes ∧
    ∃ s, signMessage Toy.schemes (Key.ofSecret Toy.schemes .p384 .p384 [1, 2, 3]) [7] (some "ES-384".toList) = .ok s :=
  ⟨wf_ofSecret _ _ _ _ rfl,
   (sign_ok_iff _ _ _ _).mpr ⟨.p384, [1, 2, 3], some .es384, rfl, rfl, (parseSigType_some_ok_iff _ _).mpr ⟨_, rfl, by decide +kernel⟩, .inr rfl⟩⟩

/-- `mismatched_type_errors`: a P-256 key asked for EdDSA -/
example : parseSigType (some "EdDSA".toList) = .ok (some .eddsa) ∧ SignatureType.eddsa ≠ SigAlg.p256.native :=
  ⟨(parseSigType_some_ok_iff _ _).mpr ⟨_, rfl, by decide +kernel⟩, by decide⟩

/-- `public_only_sign_errors`: the two different kinds -/
example : signMessage Toy.schemes (Key.ofSecret Toy.schemes .ed25519 .ed25519 [1]).toPublic [] none = .err .input ∧
          signMessage Toy.schemes (Key.ofSecret Toy.schemes .k256 .k256 [1]).toPublic [] none = .err .unsupported := by
  constructor <;> rfl

/-- `wrong_length_false` on the toy instance, and `nonsigning_alg_errors` on an AES key -/
example : verifySignature Toy.schemes (Key.ofSecret Toy.schemes .p256 .p256 [1]) [] (List.replicate 63 0) none = .ok false := by decide
example : signMessage Toy.schemes { alg := .a256Gcm, secret := some [1], pub := [] } [] none = .err .unsupported := by decide

/-! ### the executable specifications of the external schemes

`Crypto/Ed25519.lean` (RFC 8032) and `Crypto/Ecdsa.lean` (SEC 1 + RFC 6979) are what the driver evaluates for every sign and
verify operation; the harness compares the library with them byte for byte.  What is PROVED about them here needs no elliptic-curve
group law; what does need one is either stated under an explicit hypothesis (`ecdsa_correct`) or listed as not proved at the end of
`Lemmas/EcdsaSpec.lean`. -/

/-- Ed25519 signing has no input besides the secret key and the message (no nonce, no randomness, no state): equal inputs, equal
    signatures.  True by construction — `Ed25519.sign` is a function — and recorded here as the statement "deterministic". -/
theorem ed25519_sign_deterministic {sk sk' m m' : Bytes} (hk : sk = sk') (hm : m = m') : Ed25519.sign sk m = Ed25519.sign sk' m' := by
  rw [hk, hm]

/-- … and its value in closed form: R ‖ S with R = enc([r]B) (32 octets), S = (r + k·a) mod L in 32 little-endian octets,
    r = H(prefix ‖ M) mod L, k = H(R ‖ A ‖ M) mod L (RFC 8032 §5.1.6) -/
theorem ed25519_sign_closed_form (sk m : Bytes) :
    Ed25519.sign sk m = Ed25519.sigR sk m ++ Ed25519.natLE 32 (Ed25519.sigSOf sk m) ∧ (Ed25519.sigR sk m).length = 32 ∧
    Ed25519.sigSOf sk m = (Ed25519.leNat (Ed25519.sha512 ((Ed25519.expand sk).2 ++ m)) % Ed25519.L +
      Ed25519.leNat (Ed25519.sha512 (Ed25519.sigR sk m ++ Ed25519.publicKey sk ++ m)) % Ed25519.L * (Ed25519.expand sk).1) % Ed25519.L :=
  ⟨Ed25519.sign_eq sk m, Ed25519.sigR_length sk m, rfl⟩

/-- the width is what `SignatureType::signature_length` announces for EdDSA -/
theorem ed25519_sig_width (sk m : Bytes) : (Ed25519.sign sk m).length = SignatureType.eddsa.signatureLength :=
  Ed25519.sign_length sk m

/-- the S the specification emits is canonical: as a little-endian integer it is below the group order L -/
theorem ed25519_S_canonical (sk m : Bytes) : Ed25519.leNat ((Ed25519.sign sk m).drop 32) < Ed25519.L := by
  rw [Ed25519.sign_S]; exact Ed25519.sigSOf_lt sk m

/-- the canonical-S rule: a byte string whose second half decodes to S ≥ L is rejected by the strict verifier (the library's), by the
    cofactorless non-strict one and by RFC 8032's — whatever the key, the message and R -/
theorem ed25519_noncanonical_S_rejected (pk m sig : Bytes) (h : Ed25519.L ≤ Ed25519.leNat (sig.drop 32)) :
    Ed25519.verifyStrict pk m sig = false ∧ Ed25519.verifyLoose pk m sig = false ∧ Ed25519.verifyRfc pk m sig = false := by
  -- each verifier compares S with L right after the length check
  refine ⟨?_, ?_, ?_⟩
  · unfold Ed25519.verifyStrict
    by_cases hl : sig.length ≠ 64 <;> simp [hl, h]
  · unfold Ed25519.verifyLoose
    by_cases hl : sig.length ≠ 64 <;> simp [hl, h]
  · unfold Ed25519.verifyRfc
    by_cases hl : sig.length ≠ 64 <;> simp [hl, h]

/-- `ed25519_S_flip_rejected`, the part that needs no group reasoning: the signature (R, S + L) — same R, the other representative
    of S modulo L, still 32 octets — is rejected under every key and message by all three verifiers.  (That a CANONICAL S' ≠ S is
    rejected needs "B has order L": not proved, see the end of `Lemmas/EcdsaSpec.lean`.) -/
theorem ed25519_S_flip_rejected (sk m pk' m' : Bytes) :
    (Ed25519.plusL (Ed25519.sign sk m)).take 32 = (Ed25519.sign sk m).take 32 ∧
    Ed25519.leNat ((Ed25519.plusL (Ed25519.sign sk m)).drop 32) = Ed25519.leNat ((Ed25519.sign sk m).drop 32) + Ed25519.L ∧
    Ed25519.verifyStrict pk' m' (Ed25519.plusL (Ed25519.sign sk m)) = false ∧
    Ed25519.verifyLoose pk' m' (Ed25519.plusL (Ed25519.sign sk m)) = false ∧
    Ed25519.verifyRfc pk' m' (Ed25519.plusL (Ed25519.sign sk m)) = false := by
  have hS := Ed25519.plusL_S sk m
  have hrej := ed25519_noncanonical_S_rejected pk' m' (Ed25519.plusL (Ed25519.sign sk m)) (by rw [hS]; exact Nat.le_add_left _ _)
  refine ⟨?_, ?_, hrej.1, hrej.2.1, hrej.2.2⟩
  · exact Ed25519.plusL_take _ (by rw [Ed25519.sign_length]; decide)
  · rw [hS, Ed25519.sign_S]

/-- ECDSA signatures are r ‖ s at fixed width, twice the field width … -/
theorem ecdsa_sig_width (S : Ecdsa.Suite) (reduce : Bool) (sk m sig : Bytes) (h : Ecdsa.sign S reduce sk m = some sig) :
    sig.length = 2 * S.curve.len := by
  obtain ⟨r, s, _, rfl⟩ := Ecdsa.sign_elim h
  rw [List.length_append, Ecdsa.i2osp_length, Ecdsa.i2osp_length, Nat.two_mul]

/-- … which is what `SignatureType::signature_length` announces for ES256, ES256K, ES384 -/
theorem ecdsa_sig_width_matches_type (reduce : Bool) (sk m sig : Bytes) :
    (Ecdsa.sign Ecdsa.p256 reduce sk m = some sig → sig.length = SignatureType.es256.signatureLength) ∧
    (Ecdsa.sign Ecdsa.k256 reduce sk m = some sig → sig.length = SignatureType.es256k.signatureLength) ∧
    (Ecdsa.sign Ecdsa.p384 reduce sk m = some sig → sig.length = SignatureType.es384.signatureLength) :=
  ⟨ecdsa_sig_width _ _ _ _ _, ecdsa_sig_width _ _ _ _ _, ecdsa_sig_width _ _ _ _ _⟩

/-- secp256k1: the emitted s is in the lower half, 1 ≤ s ≤ ⌊n/2⌋ — as a number and as the 32 big-endian octets of the signature -/
theorem ecdsa_low_s_k256 (reduce : Bool) (sk m : Bytes) :
    (∀ r s, Ecdsa.signRSBytes Ecdsa.k256 reduce sk m = some (r, s) → 1 ≤ s ∧ s ≤ Ec.k256.n / 2) ∧
    (∀ sig, Ecdsa.sign Ecdsa.k256 reduce sk m = some sig → Ecdsa.os2ip (sig.drop 32) ≤ Ec.k256.n / 2) := by
  refine ⟨fun r s h => Ecdsa.signRSBytes_lowS rfl Ecdsa.k256_n_pos h, ?_⟩
  intro sig h
  obtain ⟨r, s, hrs, hhalf⟩ := Ecdsa.sign_s_half h
  have hs := (Ecdsa.signRSBytes_lowS rfl Ecdsa.k256_n_pos hrs).2
  have hlt : s < 256 ^ 32 := Nat.lt_of_le_of_lt hs Ecdsa.k256_half_lt
  have h32 : Ecdsa.k256.curve.len = 32 := rfl
  rw [h32] at hhalf
  rw [hhalf, Nat.mod_eq_of_lt hlt]
  exact hs

/-- RFC 6979: the nonce handed to the signing equation is in range, 1 ≤ k < q — by construction of the retry loop.  The loop is
    bounded: `generateK` examines at most `Ecdsa.nonceFuel` = 100 candidates and answers `none` beyond that (never observed; a
    candidate is out of range with probability < 2⁻³²). -/
theorem rfc6979_nonce_in_range (P : Ecdsa.Params) (reduce : Bool) (x : Nat) (h1 : Bytes) (k : Nat)
    (h : Ecdsa.generateK P reduce x h1 = some k) : 1 ≤ k ∧ k < P.q := Ecdsa.generateK_range P reduce x h1 k h

/-- ECDSA is correct over EVERY structure `O` of group operations that satisfies `Ecdsa.Laws` (a cyclic group of order n with
    inverses modulo n, k ↦ k·G periodic and additive, x(−P) = x(P), x mod n < n): what `signRS` produces from a nonce k ≢ 0,
    `verifyRS` accepts under the public point d·G — with and without the low-S rule. -/
theorem ecdsa_correct {Pt : Type} {O : Ecdsa.Ops Pt} (hL : Ecdsa.Laws O) (lowS : Bool) {d k z r s : Nat} (hk : k % O.n ≠ 0)
    (h : Ecdsa.signRS O lowS d k z = some (r, s)) : Ecdsa.verifyRS O lowS (O.mulBase d) z r s = true :=
  Ecdsa.ecdsa_correct hL lowS hk h

/-- … hence for the executable suites, IF the arithmetic of `Ec.lean` satisfies the laws (not proved: `ecdsa_laws_exec` at the end of `Lemmas/EcdsaSpec.lean`): the (r, s) signed
    for a message verifies under the public point of the secret key, for the digest of that message -/
theorem ecdsa_correct_exec (S : Ecdsa.Suite) (hL : Ecdsa.Laws (Ecdsa.ops S.curve)) (reduce : Bool) (sk m : Bytes) (r s : Nat)
    (h : Ecdsa.signRSBytes S reduce sk m = some (r, s)) :
    Ecdsa.verifyRS (Ecdsa.ops S.curve) S.lowS (Ecdsa.publicPoint S sk)
      (Ecdsa.bits2int S.params (S.digest m) % S.curve.n) r s = true := by
  obtain ⟨d, k, hd, hk1, hkn, hs⟩ := Ecdsa.signRSBytes_elim h
  have hk0 : k % (Ecdsa.ops S.curve).n ≠ 0 := by
    have : (Ecdsa.ops S.curve).n = S.curve.n := rfl
    rw [this, Nat.mod_eq_of_lt hkn]; omega
  have hp : Ecdsa.publicPoint S sk = (Ecdsa.ops S.curve).mulBase d := by
    unfold Ecdsa.publicPoint; rw [hd]; rfl
  rw [hp]
  exact Ecdsa.ecdsa_correct hL S.lowS hk0 hs

/-- the hypotheses of `ecdsa_correct` are satisfiable: Z/7 -/
example : Ecdsa.Laws Ecdsa.toyOps := Ecdsa.toy_laws
example : Ecdsa.signRS Ecdsa.toyOps false 3 2 5 = some (2, 2) ∧ Ecdsa.verifyRS Ecdsa.toyOps false (Ecdsa.toyOps.mulBase 3) 5 2 2 = true := by decide
example : Ecdsa.signRS Ecdsa.toyOps true 3 2 6 = some (2, 1) ∧ Ecdsa.signRS Ecdsa.toyOps false 3 2 6 = some (2, 6) ∧
    Ecdsa.verifyRS Ecdsa.toyOps true (Ecdsa.toyOps.mulBase 3) 6 2 1 = true ∧ Ecdsa.verifyRS Ecdsa.toyOps true (Ecdsa.toyOps.mulBase 3) 6 2 6 = false := by decide

/-! ### `KeySign::create_signature`, `SignatureType::signature_length`, `Ed25519KeyPair::sign`; seeded keys

The allocating entry point, on `AnyKey` and on each concrete key type, is the writing one; `LocalKey::sign_message` is it behind the
type-string parser and the error-kind mapping — so every theorem above about `signMessage` is a theorem about `create_signature`. -/

open Askar.Seed in
/-- `create_signature` returns what `write_signature` writes — same signature, same error — on `AnyKey` … -/
theorem create_signature_is_write (Sch : Schemes) (k : Key) (m : Bytes) (st : Option SignatureType) :
    anyCreateSignature Sch k m st = anyWriteSignature Sch k m st := createSignature_eq _ _ _

open Askar.Seed in
/-- … and on the concrete key type of the key's algorithm (`Ed25519KeyPair`, `K256KeyPair`, `P256KeyPair`, `P384KeyPair`) -/
theorem create_signature_concrete_is_any {Sch : Schemes} {k : Key} {a : SigAlg} (ha : k.alg.sigAlg? = some a) (m : Bytes)
    (st : Option SignatureType) : concreteCreateSignature Sch a k m st = anyCreateSignature Sch k m st := by
  rw [create_signature_is_write]
  unfold concreteCreateSignature anyWriteSignature
  rw [ha]
  cases a <;> exact createSignature_eq _ _ _

open Askar.Seed in
/-- `LocalKey::sign_message` = parse the type string, `create_signature`, map the error kind -/
theorem sign_message_is_create_signature (Sch : Schemes) (k : Key) (m : Bytes) (t : Option (List Char)) :
    signMessage Sch k m t = ((parseSigType t).bind fun st => anyCreateSignature Sch k m st).mapErr CErr.toKind := by
  unfold signMessage
  simp only [create_signature_is_write]

open Askar.Seed in
/-- the length of a created signature is what `SignatureType::signature_length` announces: for the algorithm's own type and for
    the type that was asked for (widths of the real crates: `Schemes.Std`) -/
theorem create_signature_length {Sch : Schemes} (hstd : Sch.Std) {k : Key} {m s : Bytes} {st : Option SignatureType}
    (h : anyCreateSignature Sch k m st = .ok s) :
    ∃ a, k.alg.sigAlg? = some a ∧ s.length = a.native.signatureLength ∧ ∀ ty, st = some ty → s.length = ty.signatureLength := by
  rw [create_signature_is_write] at h
  obtain ⟨a, sk, ha, _, hty, rfl⟩ := anyWrite_ok_elim h
  have hl : ((Sch.scheme a).sign sk m).length = a.native.signatureLength := by rw [(Sch.scheme a).sign_len, hstd a]
  refine ⟨a, ha, hl, fun ty hst => ?_⟩
  -- the type asked for is the algorithm's own, or signing would have failed
  rcases hty with h0 | h1
  · rw [h0] at hst; cases hst
  · rw [h1] at hst; cases hst; exact hl

/-- the executable specifications the driver signs with have exactly these widths (`ed25519_sig_width`,
    `ecdsa_sig_width_matches_type`): a family of schemes whose `sign` is the specification's is `Std` -/
theorem spec_widths_are_signature_lengths (reduce : Bool) (sk m : Bytes) :
    (Ed25519.sign sk m).length = SigAlg.ed25519.native.signatureLength ∧
    (∀ sig, Ecdsa.sign Ecdsa.k256 reduce sk m = some sig → sig.length = SigAlg.k256.native.signatureLength) ∧
    (∀ sig, Ecdsa.sign Ecdsa.p256 reduce sk m = some sig → sig.length = SigAlg.p256.native.signatureLength) ∧
    (∀ sig, Ecdsa.sign Ecdsa.p384 reduce sk m = some sig → sig.length = SigAlg.p384.native.signatureLength) :=
  ⟨ed25519_sig_width sk m, fun sig h => (ecdsa_sig_width_matches_type reduce sk m sig).2.1 h,
   fun sig h => (ecdsa_sig_width_matches_type reduce sk m sig).1 h, fun sig h => (ecdsa_sig_width_matches_type reduce sk m sig).2.2 h⟩

open Askar.Seed in
/-- `SignatureType::from_str(s).map(signature_length)`: a number exactly for the spellings of the four names, and then the width of
    that type (64, 64, 64, 96); the parser's error otherwise -/
theorem signature_length_table (s : List Char) :
    (∀ n, signatureLengthOf s = .ok n ↔ ∃ t : SignatureType, normSpec s = t.canonical ∧ n = t.signatureLength) ∧
    (∀ e, signatureLengthOf s = .err e ↔ SignatureType.fromStr s = .err e) := by
  unfold signatureLengthOf
  refine ⟨fun n => ?_, fun e => ?_⟩
  · simp only [Res.bind_ok_eq_ok, fromStr_ok_iff]
  · cases SignatureType.fromStr s <;> simp [Res.bind]

open Askar.Seed in
/-- `Ed25519KeyPair::sign` is `create_signature` with the default type: `Some(signature)` with a secret, `None` where
    `create_signature` reports `MissingSecretKey` -/
theorem ed25519_sign_is_create_signature (S : SigScheme) (k : Key) (m : Bytes) :
    createSignature (ed25519WriteSignature S k) m none =
      match ed25519Sign S k m with
      | some s => .ok s
      | none => .err .missingSecretKey := by
  rw [createSignature_eq]
  unfold ed25519WriteSignature ed25519Sign
  cases k.secret <;> rfl

open Askar.Seed in
/-- seeded keys: whatever (seed, method) `from_seed` accepts for a signing algorithm, the key signs every message with the default
    type, the signature is the scheme's under the seeded secret, and it verifies under the key and under its public-only import -/
theorem seeded_key_signs_and_verifies {P : Prims} {strict : Bool} {Sch : Schemes} {alg : KeyAlg} {a : SigAlg} {seed : Bytes}
    {method : Option String} {sk : Bytes} (ha : alg.sigAlg? = some a) (_h : fromSeed P strict alg seed method = .ok sk) (m : Bytes) :
    signMessage Sch (Key.ofSecret Sch a alg sk) m none = .ok ((Sch.scheme a).sign sk m) ∧
    verifySignature Sch (Key.ofSecret Sch a alg sk) m ((Sch.scheme a).sign sk m) none = .ok true ∧
    verifySignature Sch (Key.ofSecret Sch a alg sk).toPublic m ((Sch.scheme a).sign sk m) none = .ok true := by
  have hs : signMessage Sch (Key.ofSecret Sch a alg sk) m none = .ok ((Sch.scheme a).sign sk m) :=
    sign_ok_intro (st := none) ha rfl rfl (.inl rfl)
  have hv := verify_own_signature_same_args (wf_ofSecret Sch a alg sk ha) hs
  exact ⟨hs, hv.1, hv.2⟩

/-- non-vacuity: a seeded Ed25519 key exists on the executable primitives, `create_signature` succeeds on the toy instance -/
example : ∃ sk, Seed.fromSeed Seed.Std.prims false .ed25519 [] none = .ok sk := by
  rw [Seed.fromSeed_none_current]
  obtain ⟨sk, h, _⟩ := Seed.generate_total (P := Seed.Std.prims) (alg := .ed25519) rfl (.det (Seed.detSeed []) 0)
  exact ⟨sk, by rw [h]; rfl⟩
example : ∃ s, Seed.anyCreateSignature Toy.schemes (Key.ofSecret Toy.schemes .p384 .p384 [1]) [] (some .es384) = .ok s ∧ s.length = 96 :=
  ⟨_, rfl, by decide⟩
example : Seed.signatureLengthOf "ES-384".toList = .ok 96 := by decide +kernel
example : Seed.signatureLengthOf "es385".toList = .err .unsupported := by decide +kernel


/-! ### the signature widths are the source's (regenerated from askar-crypto/src/alg/{p256,k256,p384}.rs on every run) -/

/-- `SignatureType.signatureLength` of the three ECDSA types equals `ES256_SIGNATURE_LENGTH`, `ES256K_…`, `ES384_…` of the CURRENT source -/
theorem signature_lengths_match_source :
    [("es256", Askar.Sign.SignatureType.es256.signatureLength), ("es256k", Askar.Sign.SignatureType.es256k.signatureLength),
     ("es384", Askar.Sign.SignatureType.es384.signatureLength)] = Askar.Generated.Tables.ecdsaSignatureLengths := by decide

end Askar.C13
