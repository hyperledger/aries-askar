/-
C08 — only the right key opens a store; re-key, provisioning and URIs lose nothing.
ONLY property theorems and non-vacuity examples live here.  Four parts, each with its model and its helper lemmas:
A  Model/Keys.lean, Lemmas/Keys.lean (also the toy instance `Crypto.toy`, `Crypto.toyRnd` of the examples);
B  Model/Uri.lean, Lemmas/Uri.lean;
A′ Model/KeysDisk.lean, Lemmas/KeysDisk.lean (also `LoadKinds`, `Documented`, which occur in the statements);
B′ Model/SqliteOpts.lean, Lemmas/SqliteOpts.lean.

Conventions.  `C : Crypto` are the third-party primitives (Argon2i, base58, the AEAD wrap of the
profile key) as parameters; `C.Laws` is what is assumed of them (decryptability + the idealisation
"a sealed blob loads under no other store key").  `Rnd` are the random choices of one call.
`Store` is the logical content of the SQLite file, `Fs` adds "no file" / "file without tables".
A Rust `str` is modelled as its bytes (`Str`), with the type invariant as the predicate `validUtf8`.
-/
import AskarModel.Model.Keys
import AskarModel.Lemmas.Keys
import AskarModel.Model.Uri
import AskarModel.Lemmas.Uri
import AskarModel.Model.KeysDisk
import AskarModel.Lemmas.KeysDisk
import AskarModel.Model.SqliteOpts
import AskarModel.Lemmas.SqliteOpts

namespace Askar.C08
open Askar.Uri Askar.Keys

variable {C : Crypto} {I : Type}

/-! ## Model A — keys and the store life cycle -/

/-- The text stored in `config.key` parses back to the key reference it was written from, for every
    reference the code can produce (`KeyRef.WF`: the detail is empty or `?…`; see `keyref_parse_wf`
    and `resolve_ref_wf`: both producers only yield such references). -/
theorem keyref_uri_roundtrip (r : KeyRef) (h : r.WF) : KeyRef.parse r.toUri = .ok r :=
  keyref_roundtrip r h

theorem keyref_parse_wf (s : Str) (r : KeyRef) (h : KeyRef.parse s = .ok r) : r.WF := parse_wf h

theorem resolve_ref_wf (m : Method) (pass : PassKey) (rnd : Rnd C) (sk : Option C.Key) (ref : KeyRef)
    (h : m.resolve C pass rnd = .ok (sk, ref)) : ref.WF ∧ ref.method = m :=
  resolve_ref m pass rnd sk ref h

/-- The Argon2 salt survives `format!("?salt={}", hex)` → `Options::parse_uri` → `hex::decode_to_slice`
    (this goes through model B's `parseUri`). -/
theorem salt_roundtrip (salt : Bytes) (hlen : salt.length = 16) : parseSalt (saltDetail salt) = .ok salt :=
  parseSalt_saltDetail salt hlen

/-- **Only the right key opens a store.**  For a store all of whose profile keys are sealed under
    `sk0` (what provision / create_profile / rekey establish: `provision_fresh`, `rekey_preserves`),
    and a requested profile that exists: `open` succeeds *iff* the named method (if one is named)
    is the stored one and the pass key resolves — through the stored key reference, i.e. with the
    stored salt — to `sk0` itself. -/
theorem open_iff_right_key (L : C.Laws) (st : Store C I) (sk0 : Option C.Key) (hs : SealedUnder C sk0 st)
    (ref : KeyRef) (hp : KeyRef.parse st.keyRef = .ok ref)
    (m : Option Method) (pass : PassKey) (p : Option Str)
    (hex : (lookup (p.getD st.defaultProfile) st.profiles).isSome) :
    (∃ h, openDb C st m pass p = .ok h) ↔
      (∀ m', m = some m' → ref.method = m') ∧ ref.resolve C pass = .ok sk0 :=
  Keys.open_iff_right_key L st sk0 hs ref hp m pass p hex

/-- … and whoever gets a handle holds exactly that key. -/
theorem open_yields_store_key (L : C.Laws) (st : Store C I) (sk0 : Option C.Key) (hs : SealedUnder C sk0 st)
    (m : Option Method) (pass : PassKey) (p : Option Str) (h : Handle C) (ho : openDb C st m pass p = .ok h) :
    h.storeKey = sk0 :=
  open_storeKey_eq L st sk0 hs m pass p h ho

/-- … and under the collision-freeness idealisation of Argon2i / base58 (`Crypto.Inj`), two pass keys
    that resolve to the same store key through the same key reference are the same text: "the right
    key" is *the* pass key the store was keyed with (for `none` every pass key is right, by design). -/
theorem right_key_is_the_pass_key (J : C.Inj) (ref : KeyRef) (hne : ref ≠ .unprotected) (pass pass' : PassKey)
    (sk : Option C.Key) (h : ref.resolve C pass = .ok sk) (h' : ref.resolve C pass' = .ok sk) :
    pass.str = pass'.str := by
  cases ref with
  | unprotected => exact absurd rfl hne
  | raw =>
    obtain ⟨k, hk, rfl⟩ := resolve_raw_ok h
    obtain ⟨k', hk', e⟩ := resolve_raw_ok h'
    cases e
    exact J.raw_inj _ _ _ hk hk'
  | kdf l d =>
    obtain ⟨salt, hs, rfl⟩ := resolve_kdf_ok h
    obtain ⟨salt', hs', e⟩ := resolve_kdf_ok h'
    rw [hs] at hs'; cases hs'
    exact J.kdf_inj _ _ _ _ (Option.some.inj e)

/-- `open` writes nothing: whatever key, method or profile is given, and whether it succeeds or
    is rejected, the persistent state afterwards is the state before. -/
theorem wrong_open_no_change (fs : Fs C I) (m : Option Method) (pass : PassKey) (p : Option Str) :
    (openStore C fs m pass p).1 = fs := by
  cases fs <;> rfl

/-- Provisioning without `recreate` over an existing store is `open` with the method check and
    leaves the store as it is (contents preserved, also when the key is wrong). -/
theorem provision_existing (noItems : I) (st : Store C I) (m : Method) (pass : PassKey) (p : Option Str) (rnd : Rnd C) :
    provision C noItems (.store st) m pass p false rnd = (.store st, openDb C st (some m) pass p) := rfl

/-- `recreate` forgets whatever was there … -/
theorem provision_recreate (noItems : I) (fs : Fs C I) (m : Method) (pass : PassKey) (p : Option Str) (rnd : Rnd C) :
    provision C noItems fs m pass p true rnd = provision C noItems .absent m pass p false rnd := by
  simp [provision]

/-- … and a successful creation yields the empty store: no items, one profile (the active and
    default one), sealed under the new key — which the same method and pass key open again. -/
theorem provision_fresh (L : C.Laws) (noItems : I) (fs fs' : Fs C I) (hfs : fs = .absent ∨ fs = .empty)
    (m : Method) (pass : PassKey) (p : Option Str) (rnd : Rnd C) (hsalt : rnd.salt.length = 16) (h : Handle C)
    (hp : provision C noItems fs m pass p false rnd = (fs', .ok h)) :
    ∃ st, fs' = .store st ∧ st.items = noItems ∧ st.defaultProfile = h.profile ∧ h.profile = p.getD rnd.profileName ∧
      st.profiles.map (·.1) = [h.profile] ∧ SealedUnder C h.storeKey st ∧
      openDb C st (some m) pass none = .ok h ∧ openDb C st none pass none = .ok h := by
  have hp' : createStore C noItems m pass p rnd = (fs', .ok h) := by
    rcases hfs with rfl | rfl <;> simpa [provision] using hp
  simp only [createStore] at hp'
  simp only [initKeys] at hp'
  by_cases hb : m = .raw ∧ pass.str.isEmpty = true
  · rw [if_pos hb] at hp'; simp at hp'
  · rw [if_neg hb] at hp'
    rcases hm : m.resolve C pass rnd with e | ⟨sk, ref⟩
    · simp [hm] at hp'
    · simp only [hm, Prod.mk.injEq, Except.ok.injEq] at hp'
      obtain ⟨rfl, rfl⟩ := hp'
      obtain ⟨hwf, hmeth⟩ := resolve_ref m pass rnd sk ref hm
      have hraw : m = .raw → pass.str ≠ [] := by
        intro e1 e2; exact hb ⟨e1, by simp [e2]⟩
      have hres := resolve_consistent m pass rnd sk ref hm hraw hsalt
      refine ⟨_, rfl, rfl, rfl, rfl, rfl, ?_, ?_, ?_⟩
      · intro e he; simp at he; subst he; exact ⟨rnd.nonce 0, _, rfl⟩
      · apply (openDb_ok_iff _ _ _ _ _).mpr
        refine ⟨ref, C.wrapPk sk (rnd.nonce 0) rnd.pk, keyref_roundtrip ref hwf, ?_, hres, rfl, by simp [lookup], L.load_wrap _ _ _⟩
        intro m' e; cases e; exact (compareMethod_iff ref m).mpr hmeth
      · apply (openDb_ok_iff _ _ _ _ _).mpr
        exact ⟨ref, C.wrapPk sk (rnd.nonce 0) rnd.pk, keyref_roundtrip ref hwf, by simp, hres, rfl, by simp [lookup], L.load_wrap _ _ _⟩

/-- A blank raw key (`None` or `""`) is refused whenever a store would be created. -/
theorem blank_raw_refused (noItems : I) (pass : PassKey) (p : Option Str) (rnd : Rnd C) (h : pass.str = []) :
    provision C noItems .absent .raw pass p false rnd = (.empty, .error .input) ∧
    provision C noItems .empty .raw pass p false rnd = (.empty, .error .input) := by
  simp [provision, createStore, initKeys_blank_raw pass rnd h]

/-- **Re-keying preserves everything**, for every target method and every source key: the same
    profile names, the same profile keys (read with the new store key) — hence the same records —
    the same items and default profile; the store is sealed under the new key and its stored key
    reference parses back and names the new method. -/
theorem rekey_preserves (L : C.Laws) (st st' : Store C I) (h h' : Handle C) (m : Method) (pass : PassKey) (rnd : Rnd C)
    (hr : rekey C st h m pass rnd = (st', .ok h')) :
    loadAll C h'.storeKey st'.profiles = loadAll C h.storeKey st.profiles ∧
    (∃ r, loadAll C h.storeKey st.profiles = .ok r) ∧
    st'.profiles.map (·.1) = st.profiles.map (·.1) ∧
    st'.items = st.items ∧ st'.defaultProfile = st.defaultProfile ∧
    SealedUnder C h'.storeKey st' ∧
    h'.profile = h.profile ∧ h'.pk = h.pk ∧
    (∃ ref, m.resolve C pass rnd = .ok (h'.storeKey, ref) ∧ KeyRef.parse st'.keyRef = .ok ref ∧ ref.method = m) :=
  rekey_ok rekeyRefusesBlankRaw L st st' h h' m pass rnd hr

/-- A rejected re-key changes nothing. -/
theorem rekey_failed_no_change (st : Store C I) (h : Handle C) (m : Method) (pass : PassKey) (rnd : Rnd C) (e : Err)
    (hr : (rekey C st h m pass rnd).2 = .error e) : (rekey C st h m pass rnd).1 = st :=
  rekey_err_unchanged rekeyRefusesBlankRaw st h m pass rnd e hr

/-- The new (method, pass key) opens the re-keyed store (for a usable pass key: not a blank raw one —
    with the guard of 9124dcd in the source that case cannot succeed anyway, see below). -/
theorem rekey_new_key_opens (L : C.Laws) (st st' : Store C I) (h h' : Handle C) (m : Method) (pass : PassKey)
    (rnd : Rnd C) (hsalt : rnd.salt.length = 16) (hraw : m = .raw → pass.str ≠ [])
    (hr : rekey C st h m pass rnd = (st', .ok h'))
    (p : Option Str) (hex : (lookup (p.getD st'.defaultProfile) st'.profiles).isSome) :
    ∃ hh, openDb C st' (some m) pass p = .ok hh ∧ hh.storeKey = h'.storeKey :=
  rekey_then_open rekeyRefusesBlankRaw L st st' h h' m pass rnd hsalt hraw hr p hex

/-- **The previous key is dead**, for all ordered pairs of methods: after a re-key, every
    successful open holds the NEW store key and, if it names a method, names the NEW method.
    So a previous (method, pass key) that resolves to any other key, or names any other method,
    is rejected. -/
theorem rekey_old_key_dead (L : C.Laws) (st st' : Store C I) (h h' : Handle C) (m : Method) (pass : PassKey)
    (rnd : Rnd C) (hr : rekey C st h m pass rnd = (st', .ok h'))
    (m0 : Option Method) (pass0 : PassKey) (p : Option Str) (hh : Handle C)
    (ho : openDb C st' m0 pass0 p = .ok hh) :
    hh.storeKey = h'.storeKey ∧ ∀ m', m0 = some m' → m' = m :=
  rekey_then_open_only_new rekeyRefusesBlankRaw L st st' h h' m pass rnd hr m0 pass0 p hh ho

/-- The twelve ordered pairs of *different* methods, spelled out: naming the old method fails with `Input`. -/
theorem rekey_old_method_refused (L : C.Laws) (st st' : Store C I) (h h' : Handle C) (m mOld : Method) (pass : PassKey)
    (rnd : Rnd C) (hr : rekey C st h m pass rnd = (st', .ok h')) (hne : mOld ≠ m)
    (pass0 : PassKey) (p : Option Str) : openDb C st' (some mOld) pass0 p = .error .input :=
  rekey_other_method_refused rekeyRefusesBlankRaw st st' h h' m mOld pass rnd hr hne pass0 p

/-- The default-profile setting is what a later `open` without a profile name activates, and a
    re-key keeps it (`rekey_preserves`); `open` itself never changes it (`wrong_open_no_change`). -/
theorem default_profile_persists (st : Store C I) (name : Str) (m : Option Method) (pass : PassKey) (h : Handle C)
    (ho : openDb C (setDefaultProfile st name) m pass none = .ok h) : h.profile = name :=
  open_default_profile (setDefaultProfile st name) m pass h ho

/-- The statement "a blank raw key is refused" at full strength — also by `rekey`, and nothing is
    written — for the variant of `rekey` with (`g = true`) or without (`g = false`) the check
    `method == RawKey && pass_key.is_empty()` in front of `resolve`. -/
def BlankRawRefusedBy (g : Bool) : Prop :=
  ∀ (C : Crypto) (I : Type) (st : Store C I) (h : Handle C) (pass : PassKey) (rnd : Rnd C),
    pass.str = [] → rekeyG g C st h .raw pass rnd = (st, .error .input)

/-- … and for the CURRENT tree (`Keys.rekey` follows `Generated.Flags.rekeyRefusesBlankRaw`). -/
def BlankRawRefusedEverywhere : Prop :=
  ∀ (C : Crypto) (I : Type) (st : Store C I) (h : Handle C) (pass : PassKey) (rnd : Rnd C),
    pass.str = [] → rekey C st h .raw pass rnd = (st, .error .input)

theorem blank_raw_refused_everywhere_of_guard : BlankRawRefusedBy true :=
  fun _ _ st h pass rnd hb => rekey_blank_raw_refused st h pass rnd hb

theorem blank_raw_refused_everywhere_current (hg : rekeyRefusesBlankRaw = true) : BlankRawRefusedEverywhere := by
  intro C I st h pass rnd hb
  unfold rekey; rw [hg]
  exact rekey_blank_raw_refused st h pass rnd hb

/-- Without the guard it is FALSE (defect D25, fixed in 9124dcd):
    `StoreKeyMethod::resolve` answers a blank raw pass key with `StoreKey::random()` and the re-key
    goes through.  Witness: an unprotected one-profile store. -/
theorem blank_raw_accepted_without_guard : ¬ BlankRawRefusedBy false := by
  intro h
  have := h Crypto.toy Unit
    { keyRef := sNone, defaultProfile := [0x70], profiles := [([0x70], (none, 1))], items := () }
    { storeKey := none, profile := [0x70], pk := 1 } none Crypto.toyRnd rfl
  have e : (rekeyG false Crypto.toy (I := Unit)
      { keyRef := sNone, defaultProfile := [0x70], profiles := [([0x70], (none, 1))], items := () }
      { storeKey := none, profile := [0x70], pk := 1 } .raw none Crypto.toyRnd).2
      = .ok { storeKey := some (99 : Nat), profile := [0x70], pk := (1 : Nat) } := rfl
  rw [this] at e; cases e

/-- What does hold without the guard: the store ends up sealed under the *random* key, which no
    pass key denotes. -/
theorem blank_raw_rekey_partial (st : Store C I) (h : Handle C) (pass : PassKey) (rnd : Rnd C) (hb : pass.str = [])
    (ps' : List (Str × C.Blob)) (hw : rewrap C h.storeKey (some rnd.key) rnd.nonce 0 st.profiles = .ok ps') :
    rekeyG false C st h .raw pass rnd = ({ st with profiles := ps', keyRef := sRaw }, .ok { h with storeKey := some rnd.key }) := by
  simp [rekeyG, Method.resolve, hb, hw, KeyRef.toUri]

/-- Either way the verdict on the current tree is decided by the flag read from the source. -/
theorem blank_raw_status :
    (rekeyRefusesBlankRaw = true ∧ BlankRawRefusedEverywhere) ∨ (rekeyRefusesBlankRaw = false ∧ ¬ BlankRawRefusedEverywhere) := by
  cases hg : rekeyRefusesBlankRaw with
  | true => exact Or.inl ⟨rfl, blank_raw_refused_everywhere_current hg⟩
  | false =>
    refine Or.inr ⟨rfl, fun h => blank_raw_accepted_without_guard ?_⟩
    intro C I st hh pass rnd hb
    have := h C I st hh pass rnd hb
    unfold rekey at this; rw [hg] at this; exact this

/-! Non-vacuity: the laws have an instance; a concrete provision / rekey / open run succeeds. -/
example : Crypto.toy.Laws := Crypto.toy_laws
example : (KeyRef.kdf .interactive (saltDetail [1, 2])).WF := Or.inr ⟨_, _, rfl⟩
example : Crypto.toyRnd.salt.length = 16 := by decide
example : ∃ fs h, provision Crypto.toy () .absent (.kdf .interactive) (some [0x70, 0x77]) (some [0x70]) false Crypto.toyRnd = (fs, .ok h) :=
  ⟨_, _, rfl⟩

/-! ## Model B — store URIs -/

/-- **The round-trip property at full strength**, for an `into_uri` that writes `sep` between two
    `key=value` pairs: for every well-formed `Options` (explicit decidable predicate `Options.WF`,
    Model/Uri.lean) and EVERY order `qs` in which the hash map may enumerate its entries, parsing
    what is written gives the same `Options` (query compared as a map). -/
def UriRoundtripFor (sep : Str) : Prop :=
  ∀ (o : Options), o.WF = true → ∀ qs : List (Str × Str), qs.Perm o.query →
    (parseUri (intoUriSep sep qs o)).Equiv o

/-- … and for the `into_uri` of the CURRENT tree (`Uri.queryPairSeparator` follows
    `Generated.Flags.uriQueryAmpersand`, read from options.rs on every run). -/
def UriRoundtrip : Prop :=
  ∀ (o : Options), o.WF = true → ∀ qs : List (Str × Str), qs.Perm o.query →
    (parseUri (intoUriWith qs o)).Equiv o

/-- The statement is decided by the separator: with `&` it holds, with nothing it fails. -/
theorem uri_roundtrip_by_separator : UriRoundtripFor [0x26] ∧ ¬ UriRoundtripFor [] :=
  ⟨fun o hwf qs hp => roundtrip_equiv_amp o hwf qs hp,
   fun h => d1Witness_not_equiv (h d1Witness d1Witness_wf d1Witness.query (List.Perm.refl _))⟩

/-- Without a separator (defect D1, the tree before 3030f32) the full statement is FALSE: witness
    host `h`, query {a ↦ 1, b ↦ 2}, written `h?a=1b=2`, read back as {a ↦ "1b=2"}. -/
theorem uri_roundtrip_false_without_separator : ¬ UriRoundtripFor [] := uri_roundtrip_by_separator.2

theorem uri_roundtrip_current (hf : Askar.Generated.Flags.uriQueryAmpersand = true) : UriRoundtrip :=
  roundtrip_current hf

/-- Either way the verdict on the current tree is decided by the flag read from the source. -/
theorem uri_roundtrip_status :
    (Askar.Generated.Flags.uriQueryAmpersand = true ∧ UriRoundtrip) ∨
    (Askar.Generated.Flags.uriQueryAmpersand = false ∧ ¬ UriRoundtrip) := by
  cases hf : Askar.Generated.Flags.uriQueryAmpersand with
  | true => exact Or.inl ⟨rfl, uri_roundtrip_current hf⟩
  | false =>
    refine Or.inr ⟨rfl, fun h => ?_⟩
    have := h d1Witness d1Witness_wf d1Witness.query (List.Perm.refl _)
    rw [intoUriWith_eq, hf] at this
    exact d1Witness_not_equiv this

/-- The part that holds on every tree: at most one query parameter. -/
theorem uri_roundtrip_partial (o : Options) (hwf : o.WF = true) (qs : List (Str × Str)) (hp : qs.Perm o.query)
    (hlen : o.query.length ≤ 1) : (parseUri (intoUriWith qs o)).Equiv o :=
  roundtrip_equiv_short queryPairSeparator o hwf qs hp (hp.length_eq ▸ hlen)

/-- With `&` between the pairs the round trip holds for all well-formed options, any number of
    parameters, any enumeration order — and the parsed map lists exactly the written pairs. -/
theorem uri_roundtrip_with_ampersand (o : Options) (hwf : o.WF = true) (qs : List (Str × Str)) (hp : qs.Perm o.query) :
    parseUri (intoUriSep [0x26] qs o) = { o with query := qs.reverse } :=
  roundtrip_amp o hwf qs hp

/-- The `List Char` view: every string of Unicode scalar values is a `validUtf8` byte string, so the
    validity clauses of `WF` hold for every Rust `String`; what remains of `WF` is syntactic. -/
theorem utf8_valid (cs : List Char) : validUtf8 (Uri.utf8 cs) = true := validUtf8_utf8 cs

/-- `from_utf8_lossy` is the identity on valid UTF-8. -/
theorem lossy_valid (s : Str) (h : validUtf8 s = true) : lossy s = s := lossy_of_valid s h

/-! Non-vacuity: a non-trivial `Options` satisfying `WF` — scheme `sqlite`, user `u/é`, password `p w`,
    host `h`, path `/a b`, query {`b c` ↦ `2 é`}, fragment `f#` — and its round trip computed. -/
def exOpts : Options :=
  { scheme := Uri.utf8 ['s', 'q', 'l', 'i', 't', 'e'], user := Uri.utf8 ['u', '/', 'é'], password := Uri.utf8 ['p', ' ', 'w'],
    host := Uri.utf8 ['h'], path := Uri.utf8 ['/', 'a', ' ', 'b'], query := [(Uri.utf8 ['b', ' ', 'c'], Uri.utf8 ['2', ' ', 'é'])],
    fragment := Uri.utf8 ['f', '#'] }
example : exOpts.WF = true := by decide +kernel
example : parseUri (intoUri exOpts) = exOpts := by decide +kernel
example : d1Witness.WF = true := d1Witness_wf

/-! ## Model A′ — what is at the path is not a store this code wrote (Model/KeysDisk.lean)

`Disk` = nothing / a directory / a non-database / a database without tables / a database whose three `config` cells are each
missing, a TEXT (NULL reads as ""), or a BLOB.  `openDisk` is `SqliteStoreOptions::open` on it. -/

/-- **The codec of `config.key` is total**: every text either parses to a well-formed reference or is refused with
    `Unsupported` — no third outcome, no panic. -/
theorem keyref_parse_total (s : Str) :
    (∃ r, KeyRef.parse s = .ok r ∧ r.WF) ∨ KeyRef.parse s = .error .unsupported := by
  cases h : KeyRef.parse s with
  | ok r => exact Or.inl ⟨r, rfl, parse_wf h⟩
  | error e => rw [keyRef_parse_err h]; exact Or.inr rfl

/-- … and so is the method parser of the caller's side. -/
theorem method_parse_total (s : Str) : (∃ m, Method.parse s = .ok m) ∨ Method.parse s = .error .unsupported := by
  cases h : Method.parse s with
  | ok m => exact Or.inl ⟨m, rfl⟩
  | error e => rw [method_parse_err h]; exact Or.inr rfl

/-- Resolving a parsed reference with a pass key either yields a store key or is refused with `Input`. -/
theorem keyref_resolve_total (r : KeyRef) (pass : PassKey) :
    (∃ sk, r.resolve C pass = .ok sk) ∨ r.resolve C pass = .error .input := by
  cases h : r.resolve C pass with
  | ok sk => exact Or.inl ⟨sk, rfl⟩
  | error e => rw [keyRef_resolve_err h]; exact Or.inr rfl

/-- The salt of a derived-key reference is accepted iff the LAST `salt` parameter of the detail is the hex text of exactly
    16 bytes; every other detail is refused, with `Input` (`salt_refused_with_input`). -/
theorem salt_accepted_iff (d : Str) (b : Bytes) :
    parseSalt d = .ok b ↔ ∃ s, Uri.mapGet (parseUri d).query sSalt = some s ∧ hexDecode s = some b ∧ b.length = 16 :=
  parseSalt_ok_iff d b

theorem salt_accepted_has_32_digits (d : Str) (b : Bytes) (h : parseSalt d = .ok b) :
    b.length = 16 ∧ ∃ s, Uri.mapGet (parseUri d).query sSalt = some s ∧ s.length = 32 := by
  obtain ⟨s, hs, hb, hl⟩ := (parseSalt_ok_iff d b).1 h
  refine ⟨hl, s, hs, ?_⟩
  have := hexDecode_length s b hb
  omega

theorem salt_refused_with_input (d : Str) (e : Err) (h : parseSalt d = .error e) : e = .input := parseSalt_err h

/-- Codec laxness made explicit: after the prefix `raw` / `none` a `:` and ANY text is accepted and ignored. -/
theorem keyref_prefix_decides (s : Str) :
    ((splitOnce 0x3A s).1 = sRaw → KeyRef.parse s = .ok .raw) ∧ ((splitOnce 0x3A s).1 = sNone → KeyRef.parse s = .ok .unprotected) :=
  ⟨keyRef_parse_raw s, keyRef_parse_none s⟩

/-- **`open` writes nothing**, whatever is at the path and whatever the outcome. -/
theorem open_never_writes (d : Disk C I) (m : Option Method) (pass : PassKey) (p : Option Str) :
    (openDisk C d m pass p).1 = d := rfl

/-- On a store written by this code, `openDisk` IS the `openStore` of model A: every theorem above carries over. -/
theorem open_on_store_is_model_A (fs : Fs C I) (m : Option Method) (pass : PassKey) (p : Option Str) :
    openDisk C (Disk.ofFs fs) m pass p = (Disk.ofFs fs, (openStore C fs m pass p).2) := by
  cases fs with
  | absent => rfl
  | empty => rfl
  | store st => simp [openDisk, Disk.ofFs, openStore, openCfg_ofStore]

/-- **Every refusal carries a documented kind** — Backend, Encryption, Input, NotFound or Unsupported; never Busy, Custom,
    Duplicate or Unexpected — for every disk state, method, pass key and profile (given that the profile-key loader answers
    Encryption / Unsupported, see `profile_key_load_kinds`). -/
theorem open_refused_with_documented_kind (hL : LoadKinds C) (d : Disk C I) (m : Option Method) (pass : PassKey)
    (p : Option Str) (e : Err) (h : (openDisk C d m pass p).2 = .error e) : Documented e := by
  cases d with
  | absent => cases h; exact Documented.notFound
  | dir => cases h; exact Documented.notFound
  | notDb => cases h; exact Documented.backend
  | noTables => cases h; exact Documented.backend
  | db cfg ps it =>
    rw [openDisk_db] at h
    cases hr : readConfig cfg p with
    | error e' =>
      rw [openCfg_of_readConfig_err hr] at h
      cases h
      rcases readConfig_err hr with h1 | h1
      · exact h1 ▸ Documented.backend
      · exact h1 ▸ Documented.unsupported
    | ok qk =>
      rw [openCfg_of_readConfig_ok (q := qk.1) (k := qk.2) hr] at h
      exact openDb_err_kinds hL _ m pass _ e h

/-- **Only a well-formed configuration opens**: a database; version exactly "1"; the key row a TEXT; no BLOB where a text is
    read; a profile to activate (the caller's or a TEXT default) — and then the outcome is that of model A's `openDb` on the
    store these rows describe (so `open_iff_right_key` applies: the key text must parse, the method match, the pass key resolve
    to the sealing key). -/
theorem open_only_wellformed_config (d : Disk C I) (m : Option Method) (pass : PassKey) (p : Option Str) (h : Handle C)
    (ho : (openDisk C d m pass p).2 = .ok h) :
    ∃ cfg ps it k q, d = .db cfg ps it ∧ cfg.version = .text sOne ∧ cfg.key = .text k ∧ cfg.defaultProfile ≠ .blob ∧
      (match p with | some p' => q = p' | none => cfg.defaultProfile = .text q) ∧
      openDb C { keyRef := k, defaultProfile := q, profiles := ps, items := it } m pass (some q) = .ok h := by
  cases d with
  | absent => cases ho
  | dir => cases ho
  | notDb => cases ho
  | noTables => cases ho
  | db cfg ps it =>
    rw [openDisk_db] at ho
    cases hr : readConfig cfg p with
    | error e => rw [openCfg_of_readConfig_err hr] at ho; cases ho
    | ok qk =>
      obtain ⟨q, k⟩ := qk
      rw [openCfg_of_readConfig_ok hr] at ho
      obtain ⟨h1, h2, h3, h4⟩ := (readConfig_ok_iff cfg p q k).1 hr
      exact ⟨cfg, ps, it, k, q, rfl, h1, h2, h3, h4, ho⟩

/-- **Every malformed configuration is refused with the kind of its first defect, and nothing is written.** -/
theorem malformed_config_refused (cfg : Config) (ps : List (Str × C.Blob)) (it : I) (m : Option Method) (pass : PassKey)
    (p : Option Str) (e : Err) (h : readConfig cfg p = .error e) :
    openDisk C (.db cfg ps it) m pass p = (.db cfg ps it, .error e) := by
  rw [openDisk_db, openCfg_of_readConfig_err h]

/-- the defects and their kinds: a BLOB anywhere → Backend (the rows are visited before any check) … -/
theorem config_blob_refused (cfg : Config) (p : Option Str)
    (h : cfg.defaultProfile = .blob ∨ cfg.key = .blob ∨ cfg.version = .blob) : readConfig cfg p = .error .backend := by
  unfold readConfig
  rcases h with h | h | h
  · simp [Cell.isBlob_iff, h]
  · simp [Cell.isBlob_iff, h]
  · simp [h]

/-- … the version row missing, NULL, "2", "01", "1 " → Unsupported … -/
theorem config_version_refused (cfg : Config) (p : Option Str)
    (hb : cfg.defaultProfile ≠ .blob ∧ cfg.key ≠ .blob ∧ cfg.version ≠ .blob) (hv : cfg.version ≠ .text sOne) :
    readConfig cfg p = .error .unsupported := by
  unfold readConfig
  simp only [Cell.isBlob_iff, hb.1, hb.2.1, if_false]
  split
  · exact absurd ‹_› hb.2.2
  · rfl
  · rename_i v hver
    rw [if_pos (fun e : v = sOne => hv (e ▸ hver))]

/-- … no `key` row → Unsupported … -/
theorem config_key_missing_refused (cfg : Config) (p : Option Str)
    (hb : cfg.defaultProfile ≠ .blob) (hv : cfg.version = .text sOne) (hk : cfg.key = .missing) :
    readConfig cfg p = .error .unsupported := by
  unfold readConfig
  simp only [Cell.isBlob_iff, hb, hk, hv, Cell.text?, reduceCtorEq, if_false, ne_eq, not_true]
  split <;> rfl

/-- … no profile named and no default → Unsupported. -/
theorem config_no_profile_refused (cfg : Config)
    (hb : cfg.key ≠ .blob) (hv : cfg.version = .text sOne) (hd : cfg.defaultProfile = .missing) :
    readConfig cfg none = .error .unsupported := by
  unfold readConfig
  simp [Cell.isBlob_iff, hb, hv, hd, Cell.text?]

/-- A key row that does not parse: Unsupported; one whose method is not the caller's: Input; one that does not resolve
    (no / bad salt, no / bad pass key): Input — each with nothing written (`open_never_writes`). -/
theorem config_key_text_refused (cfg : Config) (ps : List (Str × C.Blob)) (it : I) (m : Option Method) (pass : PassKey)
    (p : Option Str) (q k : Str) (hr : readConfig cfg p = .ok (q, k)) :
    (∀ e, KeyRef.parse k = .error e → (openDisk C (.db cfg ps it) m pass p).2 = .error .unsupported) ∧
    (∀ ref, KeyRef.parse k = .ok ref → methodMismatch ref m = true → (openDisk C (.db cfg ps it) m pass p).2 = .error .input) ∧
    (∀ ref e, KeyRef.parse k = .ok ref → methodMismatch ref m = false → ref.resolve C pass = .error e →
      (openDisk C (.db cfg ps it) m pass p).2 = .error .input) := by
  rw [openDisk_db, openCfg_of_readConfig_ok hr]
  refine ⟨fun e he => ?_, fun ref he hm => ?_, fun ref e he hm hres => ?_⟩
  · have := keyRef_parse_err he
    subst this
    simp [openDb, he]
  · simp [openDb, he, hm]
  · have := keyRef_resolve_err hres
    subst this
    simp [openDb, he, hm, hres]

/-- Things that are not databases: nothing / a directory → NotFound; random bytes, a cut or garbled header → Backend; 0 bytes
    or a foreign database → Backend.  Unchanged afterwards. -/
theorem open_non_store_refused (m : Option Method) (pass : PassKey) (p : Option Str) :
    openDisk C (.absent : Disk C I) m pass p = (.absent, .error .notFound) ∧
    openDisk C (.dir : Disk C I) m pass p = (.dir, .error .notFound) ∧
    openDisk C (.notDb : Disk C I) m pass p = (.notDb, .error .backend) ∧
    openDisk C (.noTables : Disk C I) m pass p = (.noTables, .error .backend) := ⟨rfl, rfl, rfl, rfl⟩

/-- `provision` without `recreate` over a directory / a non-database is refused with Backend and leaves it; over a database
    with a `config` table it is `open` with the method named (so every theorem about `openDisk` applies). -/
theorem provision_non_store (noItems : I) (m : Method) (pass : PassKey) (p : Option Str) (rnd : Rnd C)
    (cfg : Config) (ps : List (Str × C.Blob)) (it : I) :
    provisionDisk C noItems (.dir : Disk C I) m pass p rnd = (.dir, .error .backend) ∧
    provisionDisk C noItems (.notDb : Disk C I) m pass p rnd = (.notDb, .error .backend) ∧
    provisionDisk C noItems (.db cfg ps it) m pass p rnd = openDisk C (.db cfg ps it) (some m) pass p := ⟨rfl, rfl, rfl⟩

/-- **A handle that has a clone cannot re-key**: refused with Input, the store as it was (so the old key still opens it);
    the sole owner's call is the `rekey` of model A. -/
theorem rekey_shared_handle_refused (refs : Nat) (hr : refs ≠ 1) (st : Store C I) (h : Handle C) (m : Method) (pass : PassKey)
    (rnd : Rnd C) : rekeyAny refs C st h m pass rnd = (st, .error .input) := by
  simp [rekeyAny, hr]

theorem rekey_sole_handle (st : Store C I) (h : Handle C) (m : Method) (pass : PassKey) (rnd : Rnd C) :
    rekeyAny 1 C st h m pass rnd = rekey C st h m pass rnd := by
  simp [rekeyAny]

/-- **One profile key that does not load under the handle's store key** (a flipped byte, a cut blob, a record that does not
    decode — in ANY profile, not only the active one): the re-key is refused and no row is rewritten — every profile key is
    loaded before the first `UPDATE`.  Hence the old key still opens the store and the handle keeps working. -/
theorem rekey_unloadable_profile_key_refused (st : Store C I) (h : Handle C) (m : Method) (pass : PassKey) (rnd : Rnd C)
    (hu : ∃ e ∈ st.profiles, ∃ er, C.loadPk h.storeKey e.2 = .error er) :
    ∃ er, rekey C st h m pass rnd = (st, .error er) :=
  rekey_unloadable rekeyRefusesBlankRaw st h m pass rnd hu

/-- `ProfileKey::from_slice` refuses with Unsupported only, and (`profile_key_members_32`) what it accepts has six members of
    exactly 32 bytes. -/
theorem profile_key_decode_kinds (g : Bool) (b : Bytes) (e : Err) (h : pkDecode g b = .error e) : e = .unsupported :=
  pkDecode_err h

theorem profile_key_members_32 (g : Bool) (b : Bytes) (k : PkRecord) (h : pkDecode g b = .ok k) :
    k.ick.length = 32 ∧ k.ink.length = 32 ∧ k.ihk.length = 32 ∧ k.tnk.length = 32 ∧ k.tvk.length = 32 ∧ k.thk.length = 32 := by
  unfold pkDecode at h
  split at h
  · cases h
  · split at h
    · cases h
    · split at h
      · rename_i h1 h2 h3 h4 h5 h6
        cases h
        exact ⟨pkMember_length h1, pkMember_length h2, pkMember_length h3, pkMember_length h4, pkMember_length h5, pkMember_length h6⟩
      · cases h

/-- `KeyCache::load_key` = unwrap (Encryption) then decode (Unsupported): discharges `LoadKinds` for the real loader. -/
theorem profile_key_load_kinds {K : Type} (unwrap : Option K → Bytes → Option Bytes) (g : Bool) (sk : Option K) (blob : Bytes)
    (e : Err) (h : loadKeyWith unwrap g sk blob = .error e) : e = .encryption ∨ e = .unsupported := by
  unfold loadKeyWith at h
  split at h
  · cases h; exact Or.inl rfl
  · exact Or.inr (pkDecode_err h)

/-- OBSERVATION about the model (no property states it: neither C08 nor C09 / C03 say that a record with another `ver` must be
    refused, so the run does not judge it).  "A profile key of another format version is refused", for the reader with
    (`g = true`) or without (`g = false`) a test of the `ver` member. -/
def ProfileKeyVersionEnforcedBy (g : Bool) : Prop :=
  ∀ (b : Bytes) (k : PkRecord), pkDecode g b = .ok k → ∃ m, Crypto.Cbor.decode b = some m ∧ pkVersionOk m = true

/-- … and for the reader of the current tree (`Keys.profileKeyChecksVersion`, the constant `false`). -/
def ProfileKeyVersionEnforced : Prop :=
  ∀ (b : Bytes) (k : PkRecord), pkDecodeCurrent b = .ok k → ∃ m, Crypto.Cbor.decode b = some m ∧ pkVersionOk m = true

theorem profile_key_version_enforced_of_check : ProfileKeyVersionEnforcedBy true :=
  fun _ _ h => pkDecode_checks_version h

theorem profile_key_version_enforced_current (hg : profileKeyChecksVersion = true) : ProfileKeyVersionEnforced := by
  intro b k h
  unfold pkDecodeCurrent at h; rw [hg] at h
  exact pkDecode_checks_version h

/-- Without it the statement does not hold (observation, no property states it): the derived deserialiser skips `ver` like any
    unknown member.
    For EVERY version text other than "1" and every six 32-byte members, the record is read by the reader without the test
    (and refused by the one with it). -/
theorem profile_key_other_version (v : Bytes) (hv : v ≠ sOne) (hl : v.length < 2 ^ 64) (k : PkRecord)
    (h : k.ick.length = 32 ∧ k.ink.length = 32 ∧ k.ihk.length = 32 ∧ k.tnk.length = 32 ∧ k.tvk.length = 32 ∧ k.thk.length = 32) :
    let doc := Crypto.Cbor.encodeMap [(nVer, .text v), (nIck, .bytes k.ick), (nInk, .bytes k.ink), (nIhk, .bytes k.ihk),
      (nTnk, .bytes k.tnk), (nTvk, .bytes k.tvk), (nThk, .bytes k.thk)]
    pkDecode false doc = .ok k ∧ pkDecode true doc = .error .unsupported := by
  simp [pkDecode_encodeMap _ v hl k h, hv]

def verWitness : PkRecord :=
  ⟨List.replicate 32 1, List.replicate 32 2, List.replicate 32 3, List.replicate 32 4, List.replicate 32 5, List.replicate 32 6⟩

/-- Witness: the record `{ver: "2", ick … thk: 32 bytes each}`. -/
theorem profile_key_version_ignored_without_check : ¬ ProfileKeyVersionEnforcedBy false := by
  intro h
  have hw := pkDecode_encodeMap false [0x32] (by decide) verWitness (by decide)
  rw [if_neg (by simp)] at hw
  obtain ⟨m, hm, hv⟩ := h _ _ hw
  have hd := Crypto.Cbor.decode_encodeMap _
    (fits_seven [0x32] verWitness.ick verWitness.ink verWitness.ihk verWitness.tnk verWitness.tvk verWitness.thk
      (by decide) (by decide) (by decide) (by decide) (by decide) (by decide) (by decide))
  rw [hd] at hm
  cases hm
  exact absurd hv (by decide)

/-- Which of the two holds of the model's current reader is decided by the constant. -/
theorem profile_key_version_status :
    (profileKeyChecksVersion = true ∧ ProfileKeyVersionEnforced) ∨ (profileKeyChecksVersion = false ∧ ¬ ProfileKeyVersionEnforced) := by
  cases hg : profileKeyChecksVersion with
  | true => exact Or.inl ⟨rfl, profile_key_version_enforced_current hg⟩
  | false =>
    refine Or.inr ⟨rfl, fun h => profile_key_version_ignored_without_check ?_⟩
    intro b k hk
    have := h b k (by unfold pkDecodeCurrent; rw [hg]; exact hk)
    exact this

/-- What does hold without the test: everything else about the record (`profile_key_members_32`), and the records this code
    writes are read back by both readers. -/
theorem profile_key_roundtrip (g : Bool) (k : PkRecord)
    (h : k.ick.length = 32 ∧ k.ink.length = 32 ∧ k.ihk.length = 32 ∧ k.tnk.length = 32 ∧ k.tvk.length = 32 ∧ k.thk.length = 32) :
    pkDecode g k.toCbor = .ok k := by
  simpa [PkRecord.toCbor] using pkDecode_encodeMap g sOne (by decide) k h

/-! Non-vacuity of the hypotheses above. -/
example : LoadKinds Crypto.toy := by
  intro sk b e h
  have h' : (if sk = b.1 then Except.ok b.2 else Except.error Err.encryption) = (Except.error e : Except Err Nat) := h
  by_cases hs : sk = b.1
  · rw [if_pos hs] at h'; cases h'
  · rw [if_neg hs] at h'; cases h'; exact Or.inl rfl
example : readConfig ⟨.text [0x70], .text sRaw, .text sOne⟩ none = .ok ([0x70], sRaw) := by rfl
example : readConfig ⟨.text [0x70], .text sRaw, .text [0x32]⟩ none = .error .unsupported := by rfl
example : readConfig ⟨.blob, .text sRaw, .text [0x32]⟩ (some [0x70]) = .error .backend := by rfl
example : readConfig ⟨Cell.null, Cell.null, .text sOne⟩ none = .ok ([], []) := by rfl
example : ∃ e ∈ ([([0x70], ((some 1 : Option Nat), (1 : Nat)))] : List (Str × Crypto.toy.Blob)), ∃ er, Crypto.toy.loadPk none e.2 = .error er :=
  ⟨_, List.mem_singleton.2 rfl, .encryption, rfl⟩

/-! ## Model B′ — the SQLite parameters of a store URI (Model/SqliteOpts.lean) -/

/-- **`SqliteStoreOptions::new` is total and refuses with `Input` only.** -/
theorem sqlite_options_total (dmax : Nat) (o : Options) :
    (∃ r, sqliteOptions dmax o = .ok r) ∨ sqliteOptions dmax o = .error .input := by
  cases h : sqliteOptions dmax o with
  | ok r => exact Or.inl ⟨r, rfl⟩
  | error e => rw [sqliteOptions_err h]; exact Or.inr rfl

/-- None of the seven recognised names present — whatever else the query holds — gives the default option set … -/
theorem sqlite_options_default (dmax : Nat) (o : Options) (h : ∀ k ∈ recognised, Uri.mapGet o.query k = none) :
    sqliteOptions dmax o = .ok (defaultOpts dmax (o.host ++ o.path)) :=
  sqliteOptions_default dmax o h

/-- … and in general only those seven are looked at: unknown parameters never change the result. -/
theorem sqlite_options_ignore_unknown (dmax : Nat) (o : Options) (q' : QueryMap)
    (h : ∀ k ∈ recognised, Uri.mapGet o.query k = Uri.mapGet q' k) :
    sqliteOptions dmax { o with query := q' } = sqliteOptions dmax o :=
  sqliteOptions_congr dmax o q' h

/-- A recognised parameter with a value its parser refuses: `Input` (shown for the first one checked; `param_garbage` is the
    step for each of the others). -/
theorem sqlite_options_garbage_busy_timeout (dmax : Nat) (o : Options) (v : Str) (h : Uri.mapGet o.query kBusy = some v)
    (hp : parseUnsigned 64 v = none) : sqliteOptions dmax o = .error .input :=
  sqliteOptions_bad_busy dmax o v h hp

theorem sqlite_param_garbage {α : Type} (q : QueryMap) (k v : Str) (d : α) (parse : Str → Option α)
    (h : Uri.mapGet q k = some v) (hp : parse v = none) : param q k d parse = .error .input :=
  param_garbage d parse h hp

/-- `from_path(p)` — hence `in_memory()` and `default()` — is the default option set for `p`, never an error
    (the `unwrap()` in `from_path` and the `expect` in `default` cannot fire). -/
theorem sqlite_from_path (dmax : Nat) (p : Str) : fromPath dmax p = .ok (defaultOpts dmax p) := fromPath_eq dmax p

/-- Rust's unsigned `FromStr` as the numeric parameters use it: an accepted text denotes a value of the type; a minus sign,
    or any non-digit after an optional single leading `+`, or the empty text, is refused. -/
theorem unsigned_parse_in_range (bits : Nat) (s : Str) (n : Nat) (h : parseUnsigned bits s = some n) : n < 2 ^ bits :=
  parseUnsigned_lt h

theorem unsigned_parse_rejects (bits : Nat) (c0 : UInt8) (rest : Str) :
    parseUnsigned bits [] = none ∧ parseUnsigned bits (0x2D :: rest) = none ∧
    (∀ c ∈ rest, isDigit c = false → parseUnsigned bits (c0 :: rest) = none) :=
  ⟨parseUnsigned_empty bits, parseUnsigned_minus bits rest, fun c hc hd => parseUnsigned_nondigit bits c0 rest c hc hd⟩

/-! Non-vacuity: a URI with every kind of parameter, computed; garbage refused. -/
example : sqliteOptionsOfUri 8 (lit "sqlite:///tmp/x.db?busy_timeout=250&journal_mode=Delete&cache=SHARED&x=1&max_connections=%2B3") =
    .ok { inMemory := false, path := lit "/tmp/x.db", busyMs := 250, maxConn := 3, minConn := 1, journal := .delete,
          locking := .normal, sharedCache := true, sync := .full } := by
  rw [lit_ofList, lit_ofList]
  decide +kernel
example : sqliteOptionsOfUri 8 (lit "sqlite://:memory:") = .ok (defaultOpts 8 sMemory) := by
  rw [lit_ofList]
  decide +kernel
example : sqliteOptionsOfUri 8 (lit "sqlite://x.db?max_connections=-1") = .error .input := by
  rw [lit_ofList]
  decide +kernel
example : sqliteOptionsOfUri 8 (lit "sqlite://x.db?synchronous=2") = .error .input := by
  rw [lit_ofList]
  decide +kernel
example : parseUnsigned 32 (lit "4294967295") = some 4294967295 ∧ parseUnsigned 32 (lit "4294967296") = none := by
  rw [lit_ofList, lit_ofList]
  decide +kernel

end Askar.C08
