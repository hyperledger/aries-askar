/-
C04SPg — the TEXT the WQL encoder hands to POSTGRES (the Postgres dialect of the text-level engine C04S).
Property theorems and non-vacuity examples; the lemmas are in Lemmas/WqlText.lean (what holds
for either dialect) and Lemmas/WqlTextPg.lean (the two dialects against each other).

`trait QueryPrepare` lets a backend override two things: the spelling of a placeholder (`?n` / `$n`) and
`limit_query` (the text AND the order / shape of the two bound values).  `Model/WqlTextPg.lean` carries both as a
`Dialect` parameter; the first three theorems show that its `.sqlite` instance is the model of `Model/WqlText.lean`
(the one Props/C04S.lean speaks of), and the rest is what holds for `$n` — compared byte for byte with the real
`replace_arg_placeholders::<PostgresBackend>` / `extend_query::<PostgresBackend>` by the correspondence run (kinds
`c04s:encode_pg`, `c04s:extend_pg`).

What is BOUND by `limit_query` (values, NULL) is read off the code and is not observable through the hooks: the last
group of theorems records it on the model and claims nothing about what the server does with it.
-/
import AskarModel.Model.WqlTextPg
import AskarModel.Lemmas.WqlTextPg

namespace Askar.Wql

/-! #### the `.sqlite` dialect is `Model/WqlText.lean` -/

theorem sqlite_dialect_is_replaceArgs (s : List Char) (start : Int) :
    replaceArgsD .sqlite s start = replaceArgs s start :=
  Lemmas.replaceArgsD_sqlite s start

theorem sqlite_dialect_is_finalString (xs : List (String ⊕ Nat)) : finalStringD .sqlite xs = finalString xs :=
  Lemmas.finalStringD_sqlite xs

/-- forgetting the recorded bindings, `extendQueryD .sqlite` is `extendQuery` -/
theorem sqlite_dialect_is_extendQuery (base : List Char) (nparams : Nat) (filter : Option (List Char × Nat))
    (offset limit : Option Int) (orderBy descending : Bool) :
    (extendQueryD .sqlite base nparams filter offset limit orderBy descending).map (fun r => (r.1, r.2.1))
      = extendQuery base nparams filter offset limit orderBy descending := by
  rw [Lemmas.extendQueryD_eq, Lemmas.extendQuery_eq]
  by_cases hs : startsWithSelect (withFilter base filter) = true
  · rw [if_pos hs, if_pos hs]
    by_cases hw : (offset.isSome || limit.isSome) = true
    · rw [if_pos hw, if_pos hw]
      exact Lemmas.limitQueryD_sqlite _ _ _ _
    · rw [if_neg hw, if_neg hw]
      rfl
  · rw [if_neg hs, if_neg hs]
    rfl

/-! #### the encoder's text, Postgres spelling -/

/-- `replaceArgs_tokens` for every dialect: on well-formed token text, without `i64` overflow, the character-level
    `replace_arg_placeholders::<Q>` is the token-level account spelled with the dialect's sigil; no panic. -/
theorem pg_replaceArgs_tokens (d : Dialect) (ts : List Tok) (start : Nat) (hs : 1 ≤ start) (hwf : wfToks ts = true)
    (hno : NoOverflow start ts) :
    replaceArgsStrD d (toksString ts) start = some (finalStringD d (replaceToks start 0 ts)) :=
  Lemmas.replaceArgsD_tokens d ts start hs hwf hno

/-- End to end, as `encode_text_exact`: for every filter, tag crypto and start index the text
    `encode_tag_filter::<PostgresBackend>` produces is the token-level final string with `$n` — no panic. -/
theorem pg_encode_text_exact (E : TagCrypto) (q : Query TagName) (c : Clause) (start : Nat) (hs : 1 ≤ start)
    (h : (encodeQuery E q).1 = some c) (hlen : (start : Int) + (encodeQuery E q).2.length ≤ i64Max) :
    replaceArgsStrD .postgres (toksString (render c)) start
      = some (finalStringD .postgres (replaceToks start 0 (render c))) :=
  Lemmas.encode_text_exactD .postgres E q c start hs h hlen

/-- As `encode_text_numbered`, and for BOTH dialects at once: there is ONE piece list `xs` such that the Postgres text is
    `xs` spelled with `$`, the SQLite text is `xs` spelled with `?`, and the parameter numbers of `xs` are, in textual
    order, `start, start+1, …` — one per pushed argument (the k-th placeholder ↔ the k-th filter argument). -/
theorem pg_encode_text_numbered (E : TagCrypto) (q : Query TagName) (c : Clause) (start : Nat) (hs : 1 ≤ start)
    (h : (encodeQuery E q).1 = some c) (hlen : (start : Int) + (encodeQuery E q).2.length ≤ i64Max) :
    ∃ xs, replaceArgsStrD .postgres (toksString (render c)) start = some (finalStringD .postgres xs) ∧
      replaceArgsStr (toksString (render c)) start = some (finalString xs) ∧
      Lemmas.phs xs = (List.range (encodeQuery E q).2.length).map (· + start) :=
  ⟨replaceToks start 0 (render c), Lemmas.encode_text_exactD .postgres E q c start hs h hlen,
    Lemmas.encode_text_exact E q c start hs h hlen, Lemmas.phs_render E q c start h⟩

/-- In that piece list no TEXT piece contains a `$` or a `?`: every `$` of the Postgres text (every `?` of the SQLite
    text) is the sigil of a placeholder — nothing is left unreplaced (`$$`) and nothing else looks like a parameter. -/
theorem pg_sigils_only_at_placeholders (c : Clause) (start k : Nat) (s : String)
    (h : Sum.inl s ∈ replaceToks start k (render c)) :
    s.toList.contains '$' = false ∧ s.toList.contains '?' = false := by
  have hm := Lemmas.inl_mem_replaceToks start k (render c) s h
  refine ⟨Lemmas.wfToks_text_mem _ (Lemmas.render_wellformed c) s hm, ?_⟩
  have := Lemmas.render_noQ c _ hm
  simpa [Lemmas.tokNoQ] using this

/-! #### the two dialects differ only in the spelling of the placeholders -/

/-- On ANY text without a `?` — any start index, panics included — the Postgres result is the SQLite result with
    every `?` re-spelled `$`. -/
theorem pg_is_sqlite_respelled (s : List Char) (start : Int) (h : s.contains '?' = false) :
    replaceArgsD .postgres s start = (replaceArgs s start).map respell :=
  Lemmas.replaceArgsD_respell s start h

/-- `render` never writes a `?` (for all clause trees, encoded or not). -/
theorem render_no_qmark (c : Clause) : (toksChars (render c)).contains '?' = false :=
  Lemmas.render_no_qmark c

/-- For the rendered text of ANY clause tree and ANY start index: mapping `?n ↦ $n` on the SQLite text gives the
    Postgres text (and one panics iff the other does). -/
theorem pg_and_sqlite_texts_differ_only_in_placeholder_spelling (c : Clause) (start : Int) :
    replaceArgsD .postgres (toksChars (render c)) start = (replaceArgs (toksChars (render c)) start).map respell :=
  Lemmas.replaceArgsD_respell _ start (Lemmas.render_no_qmark c)

/-- the same on `String`s, as the driver computes it -/
theorem pg_and_sqlite_strings_differ_only_in_placeholder_spelling (c : Clause) (start : Int) :
    replaceArgsStrD .postgres (toksString (render c)) start
      = (replaceArgsStr (toksString (render c)) start).map fun t => String.ofList (respell t.toList) := by
  rw [replaceArgsStrD, replaceArgsStr, Lemmas.toksString_toList,
    Lemmas.replaceArgsD_respell _ start (Lemmas.render_no_qmark c), Option.map_map, Option.map_map]
  -- (`congr` would first try to decide the equation by unfolding the scanner)
  refine congrArg (Option.map · _) (funext fun l => ?_)
  simp only [Function.comp, String.toList_ofList]

/-- no `?` placeholder is left in the Postgres text of a clause -/
theorem pg_text_has_no_qmark (c : Clause) (start : Int) (t : List Char)
    (h : replaceArgsD .postgres (toksChars (render c)) start = some t) : t.contains '?' = false := by
  rw [pg_and_sqlite_texts_differ_only_in_placeholder_spelling] at h
  cases hr : replaceArgs (toksChars (render c)) start with
  | none => rw [hr] at h; cases h
  | some t' =>
    rw [hr] at h
    simp only [Option.map_some, Option.some.injEq] at h
    rw [← h]
    exact Lemmas.respell_no_qmark t'

/-! #### the output of the Postgres dialect is placeholder text again

`replace_arg_placeholders` looks for `$` in its INPUT.  With `?n` the output is a fixed point (`replaceArgs_no_dollar`);
with `$n` it is not: a second pass with start index `s` adds `s − 1` to every number (and is the identity only for
`s = 1`).  The code makes exactly one pass over the clause (`encode_tag_filter`) and one over the constant LIMIT text
(`limit_query`); `extend_query` appends the clause verbatim (`extendQueryD` has this structure). -/

theorem pg_second_pass_shifts (xs : List (String ⊕ Nat)) (s : Nat) (hs : 1 ≤ s)
    (hwf : wfToks (xs.map pieceTok) = true) (hno : NoOverflow s (xs.map pieceTok)) :
    replaceArgsD .postgres (finalCharsD .postgres xs) s
      = some (finalCharsD .postgres (xs.map (shiftPiece s))) := by
  rw [Lemmas.finalCharsD_pg_toksChars, Lemmas.replaceArgsD_tokens_chars .postgres _ s hs hwf hno,
    Lemmas.replaceToks_pieceTok]

-- In the test vectors of this file `String.toList_ofList` (once per distinct literal) hands the kernel the characters of a
-- literal instead of the literal to decode, as explained above `valueOp_tame` in Lemmas/WqlText.lean.
example : replaceArgsD .postgres "x = $4 AND y IN ($5, $6)".toList 4 = some "x = $7 AND y IN ($8, $9)".toList := by
  rw [String.toList_ofList, String.toList_ofList]
  decide +kernel
example : replaceArgsD .postgres "x = $4 AND y IN ($5, $6)".toList 1 = some "x = $4 AND y IN ($5, $6)".toList := by
  rw [String.toList_ofList]
  decide +kernel
example : replaceArgs "x = ?4 AND y IN (?5, ?6)".toList 4 = some "x = ?4 AND y IN (?5, ?6)".toList := by
  rw [String.toList_ofList]
  decide +kernel

/-! #### `limit_query` and `extend_query` -/

/-- Postgres `limit_query`: ` LIMIT $k OFFSET $k+1` with `k = args.len() + 1`, TWO parameters pushed — the limit
    (NULL when absent), then the offset (0 when absent). -/
theorem pg_limit_clause_shape (q : List Char) (nargs : Nat) (offset limit : Option Int)
    (h : (offset.isSome || limit.isSome) = true) (hn : (nargs : Int) + 3 ≤ i64Max) :
    limitQueryD .postgres q nargs offset limit
      = some (q ++ (" LIMIT $" ++ toString (nargs + 1) ++ " OFFSET $" ++ toString (nargs + 2)).toList, nargs + 2,
          [Bind.ofOpt limit, .int (offset.getD 0)]) := by
  rw [Lemmas.limitQueryD_shape _ _ _ _ _ h hn]
  simp only [String.toList_append, Lemmas.toString_toList_nat, finalCharsD, finalPieceD, List.flatMap_cons, List.flatMap_nil,
    Dialect.sigil, Lemmas.limitSep, Dialect.limitBinds]
  rw [String.toList_ofList, String.toList_ofList, String.toList_ofList, String.toList_ofList]
  simp only [List.append_assoc, List.cons_append, List.nil_append, List.append_nil]

/-- SQLite `limit_query` with its bindings: ` LIMIT ?k, ?k+1`, the offset (0 when absent) pushed first, then the
    limit (−1 when absent). -/
theorem sqlite_limit_clause_shape (q : List Char) (nargs : Nat) (offset limit : Option Int)
    (h : (offset.isSome || limit.isSome) = true) (hn : (nargs : Int) + 3 ≤ i64Max) :
    limitQueryD .sqlite q nargs offset limit
      = some (q ++ (" LIMIT ?" ++ toString (nargs + 1) ++ ", ?" ++ toString (nargs + 2)).toList, nargs + 2,
          [.int (offset.getD 0), .int (limit.getD (-1))]) :=
  Lemmas.limitQueryD_sqlite_shape q nargs offset limit h hn

/-- neither given: nothing appended, nothing bound (either dialect) -/
theorem limit_clause_absent (d : Dialect) (q : List Char) (nargs : Nat) :
    limitQueryD d q nargs none none = some (q, nargs, []) :=
  rfl

/-- `extend_query`, either dialect: final parameter count = `nparams` + |filter arguments| + (2 if the statement is a
    SELECT and an offset or a limit is given, else 0); and exactly that many values are pushed for the window. -/
theorem pg_extend_param_count (d : Dialect) (base : List Char) (nparams : Nat) (filter : Option (List Char × Nat))
    (offset limit : Option Int) (orderBy descending : Bool) (q : List Char) (n : Nat) (bs : List Bind)
    (h : extendQueryD d base nparams filter offset limit orderBy descending = some (q, n, bs)) :
    n = nparams + filterArgs filter + (if windowAdded base filter offset limit then 2 else 0)
      ∧ bs.length = (if windowAdded base filter offset limit then 2 else 0) := by
  rw [Lemmas.extendQueryD_eq] at h
  unfold windowAdded
  by_cases hs : startsWithSelect (withFilter base filter) = true
  · rw [if_pos hs] at h
    simp only [hs, Bool.true_and]
    by_cases hw : (offset.isSome || limit.isSome) = true
    · rw [if_pos hw] at h
      exact Lemmas.limitQueryD_count d _ _ _ _ _ _ _ h
    · rw [if_neg hw] at h
      rw [if_neg hw]
      simp only [Option.some.injEq, Prod.mk.injEq] at h
      obtain ⟨_, rfl, rfl⟩ := h
      simp
  · rw [if_neg hs] at h
    simp only [Option.some.injEq, Prod.mk.injEq] at h
    obtain ⟨_, rfl, rfl⟩ := h
    simp [hs]

/-- `extend_query` does not panic as long as the parameter count stays inside `i64` -/
theorem pg_extend_total (d : Dialect) (base : List Char) (nparams : Nat) (filter : Option (List Char × Nat))
    (offset limit : Option Int) (orderBy descending : Bool)
    (hn : ((nparams + filterArgs filter : Nat) : Int) + 3 ≤ i64Max) :
    (extendQueryD d base nparams filter offset limit orderBy descending).isSome = true := by
  rw [Lemmas.extendQueryD_eq]
  by_cases hs : startsWithSelect (withFilter base filter) = true
  · rw [if_pos hs]
    by_cases hw : (offset.isSome || limit.isSome) = true
    · rw [if_pos hw, Lemmas.limitQueryD_shape _ _ _ _ _ hw hn]
      rfl
    · rw [if_neg hw]
      rfl
  · rw [if_neg hs]
    rfl

/-- The complete Postgres text of a windowed SELECT: base, the clause verbatim, ORDER BY, then the LIMIT / OFFSET pair
    numbered right after the filter's arguments. -/
theorem pg_extend_text (base : List Char) (nparams : Nat) (filter : Option (List Char × Nat))
    (offset limit : Option Int) (orderBy descending : Bool)
    (hsel : startsWithSelect (withFilter base filter) = true) (hw : (offset.isSome || limit.isSome) = true)
    (hn : ((nparams + filterArgs filter : Nat) : Int) + 3 ≤ i64Max) :
    extendQueryD .postgres base nparams filter offset limit orderBy descending
      = some ((if orderBy then orderByQuery (withFilter base filter) descending else withFilter base filter)
            ++ (" LIMIT $" ++ toString (nparams + filterArgs filter + 1)
                ++ " OFFSET $" ++ toString (nparams + filterArgs filter + 2)).toList,
          nparams + filterArgs filter + 2, [Bind.ofOpt limit, .int (offset.getD 0)]) := by
  rw [Lemmas.extendQueryD_eq, if_pos hsel, if_pos hw, pg_limit_clause_shape _ _ _ _ hw hn]

/-- a statement that is not a SELECT (DELETE_ALL) gets the clause and nothing else, whatever offset / limit say -/
theorem extend_non_select (d : Dialect) (base : List Char) (nparams : Nat) (filter : Option (List Char × Nat))
    (offset limit : Option Int) (orderBy descending : Bool) (hsel : startsWithSelect (withFilter base filter) = false) :
    extendQueryD d base nparams filter offset limit orderBy descending
      = some (withFilter base filter, nparams + filterArgs filter, []) := by
  rw [Lemmas.extendQueryD_eq, hsel]
  rfl

/-! #### what is bound for the window (model only: not observable through the hooks)

Textual order = push order in both dialects (first placeholder ↔ first pushed value), but the ROLES are swapped:
SQLite writes `LIMIT <offset>, <limit>` and pushes offset then limit; Postgres writes `LIMIT <limit> OFFSET <offset>`
and pushes limit then offset. -/

theorem window_binding_order (offset limit : Option Int) :
    Dialect.limitBinds .sqlite offset limit = [.int (offset.getD 0), .int (limit.getD (-1))]
      ∧ Dialect.limitBinds .postgres offset limit = [Bind.ofOpt limit, .int (offset.getD 0)] :=
  ⟨rfl, rfl⟩

/-- both given: the same two values, in opposite order -/
theorem window_binding_order_swapped (o l : Int) :
    Dialect.limitBinds .postgres (some o) (some l) = (Dialect.limitBinds .sqlite (some o) (some l)).reverse :=
  rfl

/-- The one difference in VALUES: an absent limit is bound as the integer −1 by the SQLite dialect and as NULL by the
    Postgres dialect (both mean "no limit" to their engine; the model records the binding, not the meaning). -/
theorem absent_limit_binding_differs (offset : Option Int) :
    Dialect.limitBinds .sqlite offset none = [.int (offset.getD 0), .int (-1)]
      ∧ Dialect.limitBinds .postgres offset none = [.null, .int (offset.getD 0)] :=
  ⟨rfl, rfl⟩

/-- A limit that IS given is bound as it is by both dialects — a negative one included: nothing clamps it.
    (SQLite reads a negative LIMIT as "no limit"; Postgres rejects `LIMIT -1` when the statement runs.  Neither is
    modelled or executed here.) -/
theorem given_limit_bound_as_is (offset : Option Int) (l : Int) :
    Dialect.limitBinds .sqlite offset (some l) = [.int (offset.getD 0), .int l]
      ∧ Dialect.limitBinds .postgres offset (some l) = [.int l, .int (offset.getD 0)] :=
  ⟨rfl, rfl⟩

/-- an absent offset is bound as 0 by both dialects -/
theorem absent_offset_bound_zero (d : Dialect) (limit : Option Int) :
    Bind.int 0 ∈ d.limitBinds none limit := by
  cases d <;> simp [Dialect.limitBinds]

/-! Non-vacuity and test vectors (each of these is also a case family of the correspondence run). -/

example : replaceArgsD .postgres "x = $1 AND y IN ($$, $$)".toList 4 = some "x = $4 AND y IN ($5, $6)".toList := by
  rw [String.toList_ofList, String.toList_ofList]
  decide +kernel
example : replaceArgs "x = $1 AND y IN ($$, $$)".toList 4 = some "x = ?4 AND y IN (?5, ?6)".toList := by
  rw [String.toList_ofList, String.toList_ofList]
  decide +kernel
example : respell "x = ?4 AND y IN (?5, ?6)".toList = "x = $4 AND y IN ($5, $6)".toList := by
  rw [String.toList_ofList, String.toList_ofList]
  decide +kernel
-- the unit test of postgres/mod.rs
example : replaceArgsD .postgres "This $$ is $10 a $$ string!".toList 3 = some "This $3 is $12 a $5 string!".toList := by
  rw [String.toList_ofList, String.toList_ofList]
  decide +kernel
example : replaceArgsD .postgres "$$$".toList 1 = some "$1$".toList := by decide +kernel
example : replaceArgsD .postgres "$9223372036854775807".toList 1 = none := by
  rw [String.toList_ofList]
  decide +kernel
-- with a `?` in the INPUT the two outputs are not related by `respell` (hence the hypothesis of `pg_is_sqlite_respelled`)
example : replaceArgsD .postgres "?$1".toList 1 = some "?$1".toList ∧ (replaceArgs "?$1".toList 1).map respell = some "$$1".toList := by decide +kernel
example : wfToks ([.inl "x = ", .inr 4, .inl " AND y = ", .inr 5].map pieceTok) = true := by decide +kernel
example : NoOverflow 4 ([.inl "x = ", .inr 4, .inl " AND y = ", .inr 5].map pieceTok) := by
  constructor
  · intro n hn
    simp only [List.map_cons, List.map_nil, pieceTok, List.mem_cons, Tok.ph.injEq, Ph.num.injEq, reduceCtorEq,
      List.not_mem_nil, or_false, false_or] at hn
    rcases hn with hn | hn <;> subst hn <;> decide
  · decide
example : limitQueryD .postgres "q".toList 3 none (some 5) = some ("q LIMIT $4 OFFSET $5".toList, 5, [.int 5, .int 0]) := by
  rw [String.toList_ofList, String.toList_ofList]
  decide +kernel
example : limitQueryD .postgres "q".toList 3 (some 7) none = some ("q LIMIT $4 OFFSET $5".toList, 5, [.null, .int 7]) := by
  rw [String.toList_ofList, String.toList_ofList]
  decide +kernel
example : limitQueryD .sqlite "q".toList 3 (some 7) none = some ("q LIMIT ?4, ?5".toList, 5, [.int 7, .int (-1)]) := by
  rw [String.toList_ofList, String.toList_ofList]
  decide +kernel
example : limitQueryD .postgres "q".toList 3 none (some (-1)) = some ("q LIMIT $4 OFFSET $5".toList, 5, [.int (-1), .int 0]) := by
  rw [String.toList_ofList, String.toList_ofList]
  decide +kernel
example : extendQueryD .postgres "SELECT 1 WHERE 1".toList 3 (some ("x = $4".toList, 1)) none (some 5) true true
    = some ("SELECT 1 WHERE 1 AND x = $4 ORDER BY id DESC LIMIT $5 OFFSET $6".toList, 6, [.int 5, .int 0]) := by
  rw [String.toList_ofList, String.toList_ofList, String.toList_ofList]
  decide +kernel
example : extendQueryD .postgres "DELETE FROM t WHERE 1".toList 3 (some ("x = $4".toList, 1)) (some 1) (some 5) true true
    = some ("DELETE FROM t WHERE 1 AND x = $4".toList, 4, []) := by
  rw [String.toList_ofList, String.toList_ofList, String.toList_ofList]
  decide +kernel
example : windowAdded "SELECT 1 WHERE 1".toList (some ("x = $4".toList, 1)) none (some 5) = true := by
  rw [String.toList_ofList, String.toList_ofList]
  decide +kernel
example : windowAdded "DELETE FROM t WHERE 1".toList none (some 1) (some 5) = false := by
  rw [String.toList_ofList]
  decide +kernel

end Askar.Wql
