/-
C02 — nothing secret is stored in the clear (encryption at rest).
ONLY property theorems and non-vacuity examples; the model is Model/Provenance.lean, helper lemmas are in
Lemmas/Provenance.lean.

What is proved: the DATA FLOW.  For every history of insert / replace / remove / remove_all / fetch / count / scan /
insert_key / create_profile / remove_profile / set_default / rekey / copy / reopen, of any length, every byte string
handed to SQLite as a statement parameter — including the arguments of tag filters — is a ciphertext, a declared-
public plaintext-tag value, a profile name or store metadata; the tables hold exactly what was bound.
What is NOT proved here (PARTIAL): that ChaCha20-Poly1305 output does not contain its plaintext and that SQLite
writes to the file / WAL / journal nothing but what it is given — the file scan of the correspondence run looks at
the bytes (harness/src/c02.rs).
-/
import AskarModel.Lemmas.Provenance

namespace Askar.Provenance
open Askar.Wql Askar.Store

/-- In a store that is and stays protected by a raw or derived key, no bound argument is a plaintext secret:
    not a category, name, value, tag name, encrypted-tag value, and not an unwrapped profile key. -/
theorem no_plain_secret_bound (C : Crypto) (rng : Nat → Nonce) (like : Bytes → Bytes → Bool) (m : Method) (p : String)
    (ops : List Op) (hm : m ≠ .none) (hops : ∀ op ∈ ops, op.keepsProtected = true) :
    ∀ a ∈ boundArgs (run C rng like (init C rng m p) ops).1, a.prov.isSecretPlain = false :=
  Lemmas.no_plain_secret_bound C rng like m p ops hm hops

/-- The same statement over ALL key methods is false on the code as it is (and as documented): with key method
    `none` the profile key is bound — and stored — unwrapped (`StoreKey::wrap_data` is the identity). -/
def NoPlainSecretBoundAllMethods : Prop :=
  ∀ (C : Crypto) (rng : Nat → Nonce) (like : Bytes → Bytes → Bool) (m : Method) (p : String) (ops : List Op),
    ∀ a ∈ boundArgs (run C rng like (init C rng m p) ops).1, a.prov.isSecretPlain = false

theorem no_plain_secret_bound_all_methods_false : ¬ NoPlainSecretBoundAllMethods := by
  intro h
  have := h Crypto.toy toyNonce (fun _ _ => false) .none "p" [] (Src.profileKey Crypto.toy 1)
    (by simp [boundArgs, run, init, provision, newStoreKey, wrapProfileKey, Crypto.wrap, Ctx.bind])
  simp [Src.profileKey, Prov.isSecretPlain] at this

/-- …and so is re-keying a protected store to `none`: witness with one `rekey`. -/
theorem rekey_to_none_binds_unwrapped_key :
    ∃ a ∈ boundArgs (run Crypto.toy toyNonce (fun _ _ => false) (init Crypto.toy toyNonce .raw "p") [.rekey .none]).1,
      a.prov = .secretPlain .profileKey :=
  ⟨Src.profileKey Crypto.toy 2, by
    simp [boundArgs, run, step, rekey, rewrapAll, init, provision, newStoreKey, wrapProfileKey, Crypto.wrap, Ctx.bind,
      sqlUpdateProfileKey], rfl⟩

/-- Record fields stay encrypted whatever the store key method is, `none` included, and whatever re-keys and copies
    the history contains: the ONLY plaintext secret ever bound is the unwrapped profile key. -/
theorem record_fields_encrypted_even_if_store_key_none (C : Crypto) (rng : Nat → Nonce) (like : Bytes → Bytes → Bool)
    (m : Method) (p : String) (ops : List Op) :
    ∀ a ∈ boundArgs (run C rng like (init C rng m p) ops).1, ∀ f, a.prov = .secretPlain f → f = .profileKey :=
  fun a ha f hf => ((Lemmas.reachable rng C like m p ops).1.bound a ha f hf).2

/-- What the tables hold, in every store of the history (the store itself and the target of `copy_to`), under every
    key method: `items.category / name / value` are ciphertexts of that field under a profile key; `items_tags.name`
    is a ciphertext; `items_tags.value` is a ciphertext for an encrypted tag and the declared-public value for a
    plaintext tag; `profiles.name` is a profile name; `profiles.profile_key` is wrapped under the CURRENT store key
    whenever there is one (after any number of re-keys). -/
theorem stored_columns_are_ciphertexts (C : Crypto) (rng : Nat → Nonce) (like : Bytes → Bytes → Bool) (m : Method)
    (p : String) (ops : List Op) :
    ∀ s ∈ stores (run C rng like (init C rng m p) ops).1,
      (∀ it ∈ s.db.items, it.cat.prov.profileCipher = some .category ∧ it.name.prov.profileCipher = some .name ∧
        it.value.prov.profileCipher = some .value) ∧
      (∀ t ∈ s.db.tags, t.name.prov.profileCipher = some .tagName ∧
        (if t.plain then t.value.prov = .plainTagValue else t.value.prov.profileCipher = some .tagValue)) ∧
      (∀ q ∈ s.db.profiles, q.name.prov = .profileName ∧
        ∀ k, s.storeKey = some k → q.key.prov = .cipher (.store k) .profileKey) := by
  intro s hs
  obtain ⟨hr, hp⟩ := Lemmas.stOk_stores (Lemmas.reachable rng C like m p ops) s hs
  refine ⟨hr.1, hr.2, fun q hq => ⟨(hp q hq).1, fun k hk => ?_⟩⟩
  have := (hp q hq).2
  rw [hk] at this
  exact this

/-- The arguments of a tag filter, with their provenance, are byte for byte and in order the argument vector of the
    WQL encoder model that C04 verifies (`encode_tag_filter`): names and encrypted-tag values encrypted, plaintext-tag
    values as given. -/
theorem filter_arguments_are_the_encoder's (C : Crypto) (k : Nat) (q : Query String) :
    (encodeFilter C k (some q)).2.map (·.bytes) = (encodeQuery (tagCrypto C k) (tagQuery q)).2 := by
  simp only [encodeFilter, encodeQuery]
  rw [Lemmas.filterArgs_bytes]; simp

/-- No value nonce is ever repeated: the nonces of all value encryptions of a history (stored or not, in the store
    or in a copy target) are pairwise distinct, provided the random stream does not repeat among the draws the
    history consumes.  (`Function.Injective rng` cannot be the hypothesis: a 96-bit nonce space has no injection
    from ℕ; `InjBelow rng n` is satisfiable, see the example below.) -/
theorem value_nonces_fresh (C : Crypto) (rng : Nat → Nonce) (like : Bytes → Bytes → Bool) (m : Method) (p : String)
    (ops : List Op) (hinj : Lemmas.InjBelow rng (run C rng like (init C rng m p) ops).1.ctx.ctr) :
    (valueNonces rng (run C rng like (init C rng m p) ops).1).Nodup :=
  Lemmas.value_nonces_fresh C rng like m p ops hinj

/-- Two writes of the same value produce different stored bytes: ALL value ciphertexts produced during a history are
    pairwise different byte strings — whether or not their plaintexts, categories or names coincide. -/
theorem same_value_twice_differs (C : Crypto) (rng : Nat → Nonce) (like : Bytes → Bytes → Bool) (m : Method) (p : String)
    (ops : List Op) (hinj : Lemmas.InjBelow rng (run C rng like (init C rng m p) ops).1.ctx.ctr) :
    (sealedValues (run C rng like (init C rng m p) ops).1).Nodup :=
  Lemmas.sealed_values_nodup (Lemmas.reachable rng C like m p ops).1.sealed hinj

/-! ### Non-vacuity -/

/-- the hypothesis of the nonce theorems is satisfiable -/
example : Lemmas.InjBelow toyNonce 256 := Lemmas.toyNonce_injBelow

/-- protected histories exist, and re-keys / copies between protected methods are allowed in them -/
example : ∀ op ∈ [Op.rekey (.kdf "13:int"), .copy .raw, .update "p" 2 true "c" "n" [1] none], op.keepsProtected = true := by
  simp [Op.keepsProtected]

/-- a write really logs an encryption and binds arguments (the quantified lists are not empty) -/
example : (sealedValues (run Crypto.toy toyNonce (fun _ _ => false) (init Crypto.toy toyNonce .raw "p")
    [.update "p" 2 true "c" "n" [1] none]).1).length = 1 ∧
    6 ≤ (boundArgs (run Crypto.toy toyNonce (fun _ _ => false) (init Crypto.toy toyNonce .raw "p")
    [.update "p" 2 true "c" "n" [1] none]).1).length := by
  decide +kernel

/-! ### Live rows -/

/-- Every `items.value` column of every store of a reachable state (the store and the target of `copy_to`) is one of
    the value encryptions logged in the history — nothing else is ever written into that column. -/
theorem stored_values_are_logged (C : Crypto) (rng : Nat → Nonce) (like : Bytes → Bytes → Bool) (m : Method) (p : String)
    (ops : List Op) :
    ∀ s ∈ stores (run C rng like (init C rng m p) ops).1, ∀ it ∈ s.db.items,
      it.value ∈ (run C rng like (init C rng m p) ops).1.ctx.sealed.map (·.2) :=
  fun s hs it hit => List.mem_map.mpr ⟨_, Lemmas.values_logged_at C rng like m p ops s hs it hit, rfl⟩

/-- Two live rows never hold the same value bytes: list the `items.value` column of ALL rows of ALL stores of a
    reachable state (the store, then the target of `copy_to`; rows in table order); no byte string occurs twice —
    whether or not plaintexts, categories, names, profiles or stores coincide — provided the random stream does not
    repeat among the draws the history consumed (the hypothesis of `value_nonces_fresh`). -/
theorem live_rows_hold_distinct_value_bytes (C : Crypto) (rng : Nat → Nonce) (like : Bytes → Bytes → Bool) (m : Method)
    (p : String) (ops : List Op) (hinj : Lemmas.InjBelow rng (run C rng like (init C rng m p) ops).1.ctx.ctr) :
    (((stores (run C rng like (init C rng m p) ops).1).flatMap (·.db.items)).map (·.value.bytes)).Nodup := by
  have h := (Lemmas.reachable rng C like m p ops).1
  rw [Lemmas.stores_items]
  exact Lemmas.live_values_nodup h.sealed h.live hinj

/-- non-vacuity: a history with two live rows of the SAME category, name and plaintext value (they differ in kind),
    for which the hypothesis on the random stream holds -/
example :
    (((stores (run Crypto.toy toyNonce (fun _ _ => false) (init Crypto.toy toyNonce .raw "p")
      [.update "p" 2 true "c" "n" [1] none, .update "p" 3 true "c" "n" [1] none]).1).flatMap (·.db.items)).map
        (·.value.bytes)).length = 2 ∧
    Lemmas.InjBelow toyNonce (run Crypto.toy toyNonce (fun _ _ => false) (init Crypto.toy toyNonce .raw "p")
      [.update "p" 2 true "c" "n" [1] none, .update "p" 3 true "c" "n" [1] none]).1.ctx.ctr := by
  exact ⟨by decide +kernel, Lemmas.injBelow_mono Lemmas.toyNonce_injBelow (by decide +kernel)⟩

end Askar.Provenance
