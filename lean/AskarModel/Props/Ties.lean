/-
Ties between models of the same code written for different engines.  Each pair of models is validated against the Rust
implementation separately (differential runs); the theorems here state that the two models AGREE WITH EACH OTHER, so that what
is proved about one transfers to the other.  Lemmas in Lemmas/TieProfiles.lean and Lemmas/TieRekey.lean (re-key facts of one
model alone: Lemmas/StoreFault.lean, Lemmas/Keys.lean).

Tie 1  `Askar.Store` (engine C07, one handle)  ~  `Askar.TwoHandles` (engine C07H, one cache per handle), one handle acting.
Tie 2  `Askar.Keys.rekeyG` (engine C08)        ~  `Askar.StoreFault` `Call.rekey` (engine C06S).

The two models differ in ONE place (Tie 1): `Store.step` acknowledges an insert through a session pair whose profile row has been
removed and leaves a row without owner; `TwoHandles.insert` refuses it with Backend, as SQLite does (FOREIGN KEY, enforced:
sqlx sets `PRAGMA foreign_keys = ON`).  The real code follows TwoHandles.  See `insert_without_parent_row_differs`; every tie
below carries the exact side condition (none for histories in which each call opens its session: the ping guarantees the row).
-/
import AskarModel.Lemmas.TieProfiles
import AskarModel.Lemmas.TieRekey
import AskarModel.Props.C07H

namespace Askar.Ties
open Askar Askar.Ties.Profiles

/-! # Tie 1 — profiles and the key cache -/

/-- the abstraction map lands in the simulation relation, for every increasing assignment of item row ids … -/
theorem abstraction_is_related (E : Enc) (h : TwoHandles.Handle) (db : TwoHandles.Db) (ids : List Nat)
    (hl : ids.length = db.items.length) (hs : ids.Pairwise (· < ·)) : Sim E h db (absDb E ids db) (absHandle h db) where
  profiles := rfl
  items := all₂_zipWith E ids db.items hl
  sorted := by unfold Store.Sorted absDb; rw [ids_zipWith E ids db.items hl]; exact hs
  handle := rfl

/-- … and the relation is nothing but the map: a related Store state IS the image, under its own row ids -/
theorem related_is_abstraction (E : Enc) {h : TwoHandles.Handle} {db : TwoHandles.Db} {sdb : Store.Db} {sh : Store.Handle}
    (hs : Sim E h db sdb sh) : sdb = absDb E (sdb.items.map (·.id)) db ∧ sh = absHandle h db := by
  refine ⟨?_, hs.handle⟩
  have : ∀ (l₁ : List TwoHandles.Item) (l₂ : List Store.Item), All₂ (ItemRel E) l₁ l₂ →
      l₂ = List.zipWith (liftItem E) (l₂.map (·.id)) l₁ := by
    intro l₁ l₂ hr
    induction hr with
    | nil => rfl
    | cons hab _ ih =>
      simp only [List.map_cons, List.zipWith_cons_cons, ← ih]
      rw [← show _ = liftItem E _ _ from hab]
  cases sdb with
  | mk items profiles =>
    simp only [absDb, Store.Db.mk.injEq]
    exact ⟨this _ _ hs.items, hs.profiles⟩

/-- ONE CALL of the single handle (create / remove / re-create / session open / scan / every item call through a session opened
    for it): the Store model gives the same output and its state is again the image of the TwoHandles state. -/
theorem single_handle_step_refines_store (E : Enc) (like : Bytes → Bytes → Bool) (page : Nat) (now : Int)
    {h : TwoHandles.Handle} {db : TwoHandles.Db} {sdb : Store.Db} {sh : Store.Handle} (hs : Sim E h db sdb sh) (c : Call) :
    Sim E (thStep (h, db) c).1.1 (thStep (h, db) c).1.2
      (storeStep E like page now h.active (sdb, sh) c).1.1 (storeStep E like page now h.active (sdb, sh) c).1.2 ∧
    (storeStep E like page now h.active (sdb, sh) c).2 = liftOut E page (thStep (h, db) c).2 :=
  step_refines E like page now hs c

/-- A TwoHandles HISTORY in which only one handle ever acts is simulated step for step by the Store model:
    same outputs in order, and the final Store state is the image of the final TwoHandles state. -/
theorem single_handle_refines_store (E : Enc) (like : Bytes → Bytes → Bool) (page : Nat) (now : Int) (cs : List Call)
    {h : TwoHandles.Handle} {db : TwoHandles.Db} {sdb : Store.Db} {sh : Store.Handle} (hs : Sim E h db sdb sh) :
    Sim E (thRun (h, db) cs).1.1 (thRun (h, db) cs).1.2
      (storeRun E like page now h.active (sdb, sh) cs).1.1 (storeRun E like page now h.active (sdb, sh) cs).1.2 ∧
    (storeRun E like page now h.active (sdb, sh) cs).2 = (thRun (h, db) cs).2.map (liftOut E page) :=
  run_refines E like page now cs hs

/-- A call through a pair HELD for however long (not re-opened): same output, related states — provided, for `insert` only, that
    the profile row of the pair's id still exists. -/
theorem held_session_call_refines_store (E : Enc) (like : Bytes → Bytes → Bool) (page : Nat) (now : Int) (s : TwoHandles.Sess)
    {h : TwoHandles.Handle} {db : TwoHandles.Db} {sdb : Store.Db} {sh : Store.Handle} (hs : Sim E h db sdb sh)
    (c : ItemCall) (hfk : c.needsParent = true → db.hasId s.pid = true) :
    Sim E h (thItem s db c).1 (Store.step like page now (liftSess s) sdb (toOp E c)).1 sh ∧
    SOut.out (Store.step like page now (liftSess s) sdb (toOp E c)).2 = liftOut E page (thItem s db c).2 :=
  item_refines E like page now s hs c hfk

/-- THE DIFFERENCE between the two models, exactly where that side condition fails: no profile row has the pair's id (and the
    identity is new).  TwoHandles: Backend, nothing written (what SQLite does).  Store: acknowledged, a row is appended, and the
    Store model's own foreign-key invariant `FkInv` is broken. -/
theorem insert_without_parent_row_differs (E : Enc) (like : Bytes → Bytes → Bool) (page : Nat) (now : Int) (s : TwoHandles.Sess)
    {h : TwoHandles.Handle} {db : TwoHandles.Db} {sdb : Store.Db} {sh : Store.Handle} (hs : Sim E h db sdb sh)
    (r : TwoHandles.Rec) (hfk : db.hasId s.pid = false) (hnew : db.items.any (TwoHandles.hits s r.cat r.name) = false) :
    thItem s db (.insert r) = (db, .err .backend) ∧
    (Store.step like page now (liftSess s) sdb (toOp E (.insert r))).2 = .ok ∧
    (Store.step like page now (liftSess s) sdb (toOp E (.insert r))).1.items =
      sdb.items ++ [liftItem E (Store.nextId (sdb.items.map (·.id))) ⟨s.pid, s.key, r⟩] ∧
    ¬ Store.FkInv (Store.step like page now (liftSess s) sdb (toOp E (.insert r))).1 := by
  simp only [toOp, Store.step, Store.Lemmas.doInsert_none, liftSess, ← any_hits E s hs.items r.cat r.name, thItem,
    TwoHandles.insert, hfk, hnew, Bool.false_eq_true, if_false, true_and]
  refine ⟨rfl, ?_⟩
  -- the appended row is owned by no profile row: one with its id would be a row of `db` with the pair's id
  intro hfkinv
  obtain ⟨p, hp, hpid⟩ := hfkinv _ (List.mem_append_right _ (List.mem_singleton.mpr rfl))
  simp only [hs.profiles, List.mem_map] at hp
  obtain ⟨row, hrow, rfl⟩ := hp
  have : db.hasId s.pid = true := TwoHandles.hasId_iff.mpr ⟨row, hrow, hpid⟩
  rw [hfk] at this; cases this

/-- COROLLARY: in every single-handle history the handle's cache agrees with the database (C07H's `CacheFresh`), names and row
    ids are unique, and every item row carries the key of the profile row that owns it. -/
theorem single_handle_cache_fresh (cs : List Call) {h : TwoHandles.Handle} {db : TwoHandles.Db} (hg : Good h db) :
    TwoHandles.CacheFresh (thRun (h, db) cs).1.1 (thRun (h, db) cs).1.2 ∧ Good (thRun (h, db) cs).1.1 (thRun (h, db) cs).1.2 :=
  ⟨(good_run cs hg).fresh, good_run cs hg⟩

/-- … in particular from a freshly provisioned store opened by the handle -/
theorem single_handle_cache_fresh_from_provision (p : String) (cs : List Call) :
    TwoHandles.openHandle (TwoHandles.Db.provisioned p) none = .ok ⟨p, [⟨p, 1, 0⟩]⟩ ∧
    TwoHandles.CacheFresh (thRun (⟨p, [⟨p, 1, 0⟩]⟩, TwoHandles.Db.provisioned p) cs).1.1
      (thRun (⟨p, [⟨p, 1, 0⟩]⟩, TwoHandles.Db.provisioned p) cs).1.2 :=
  ⟨by simp [TwoHandles.openHandle, TwoHandles.Db.provisioned, TwoHandles.Db.rowByName], (good_run cs (good_init p)).fresh⟩

/-- … and on the Store side this is C07's set of invariants: `CacheCoherent`, `ProfilesWF`, `FkInv` hold on the image, and every
    session the handle then opens is `KeyCoherent` (the hypothesis of C07's `isolation`) and works on the row its name has now. -/
theorem single_handle_store_invariants (E : Enc) {h : TwoHandles.Handle} {db : TwoHandles.Db} {sdb : Store.Db} {sh : Store.Handle}
    (hs : Sim E h db sdb sh) (hg : Good h db) :
    Store.CacheCoherent sdb sh ∧ Store.ProfilesWF sdb ∧ Store.FkInv sdb ∧
    ∀ (p : Option String) (h' : TwoHandles.Handle) (s : TwoHandles.Sess), TwoHandles.openSession false h db p = (h', .ok s) →
      Store.KeyCoherent (liftSess s) sdb ∧ db.rowByName (p.getD h.active) = some ⟨s.pid, p.getD h.active, s.key⟩ := by
  refine ⟨?_, ?_, ?_, ?_⟩
  · intro name pid key hc
    rw [hs.handle] at hc
    simp only [absHandle, cacheGet_eq] at hc
    cases hce : TwoHandles.cacheGet h.cache name with
    | none => rw [hce] at hc; simp at hc
    | some e =>
      rw [hce] at hc
      simp only [Option.map_some, Option.some.injEq, Prod.mk.injEq] at hc
      obtain ⟨hmem, hname⟩ := TwoHandles.cacheGet_some hce
      have := (TwoHandles.rowByName_some (hg.fresh e hmem)).1
      rw [hs.profiles, List.mem_map]
      exact ⟨_, this, by simp [liftProf, hc.1, hc.2, hname]⟩
  · unfold Store.ProfilesWF
    rw [hs.profiles, List.pairwise_map]
    exact hg.unique
  · intro it hit
    obtain ⟨a, ha, hab⟩ := hs.items.mem_right hit
    obtain ⟨r, hrm, h1, _⟩ := hg.keyed a ha
    refine ⟨liftProf r, by rw [hs.profiles]; exact List.mem_map_of_mem hrm, ?_⟩
    rw [hab]; exact h1
  · intro p h' s ho
    have hrow := TwoHandles.session_sees_named_profile_of_fresh_cache h h' db p s hg.fresh ho
    exact ⟨store_keyCoherent E hs (keyCoherent_of_good hg ⟨_, (TwoHandles.rowByName_some hrow).1, rfl, rfl⟩), hrow⟩

/-- the two corollaries along a whole history: whatever the single handle has done, the Store model's state satisfies C07's
    invariants and every session opened next is key-coherent -/
theorem single_handle_history_store_invariants (E : Enc) (like : Bytes → Bytes → Bool) (page : Nat) (now : Int) (cs : List Call)
    {h : TwoHandles.Handle} {db : TwoHandles.Db} {sdb : Store.Db} {sh : Store.Handle} (hs : Sim E h db sdb sh) (hg : Good h db) :
    Store.CacheCoherent (storeRun E like page now h.active (sdb, sh) cs).1.1 (storeRun E like page now h.active (sdb, sh) cs).1.2 ∧
    Store.ProfilesWF (storeRun E like page now h.active (sdb, sh) cs).1.1 ∧
    Store.FkInv (storeRun E like page now h.active (sdb, sh) cs).1.1 ∧
    ∀ (p : Option String) (h' : TwoHandles.Handle) (s : TwoHandles.Sess),
      TwoHandles.openSession false (thRun (h, db) cs).1.1 (thRun (h, db) cs).1.2 p = (h', .ok s) →
      Store.KeyCoherent (liftSess s) (storeRun E like page now h.active (sdb, sh) cs).1.1 := by
  obtain ⟨h1, h2, h3, h4⟩ := single_handle_store_invariants E (run_refines E like page now cs hs).1 (good_run cs hg)
  exact ⟨h1, h2, h3, fun p h' s ho => (h4 p h' s ho).1⟩

/-- C07H's `…_of_fresh_cache` theorems, instantiated: after ANY single-handle history from a provisioned store, a session opened on
    a name works on the row the database holds under that name now, and a name without a row can be neither opened nor scanned. -/
theorem single_handle_sessions_see_named_profile (p0 : String) (cs : List Call) (p : Option String)
    (h' : TwoHandles.Handle) (s : TwoHandles.Sess)
    (ho : TwoHandles.openSession false (thRun (⟨p0, [⟨p0, 1, 0⟩]⟩, TwoHandles.Db.provisioned p0) cs).1.1
      (thRun (⟨p0, [⟨p0, 1, 0⟩]⟩, TwoHandles.Db.provisioned p0) cs).1.2 p = (h', .ok s)) :
    (thRun (⟨p0, [⟨p0, 1, 0⟩]⟩, TwoHandles.Db.provisioned p0) cs).1.2.rowByName (p.getD p0) = some ⟨s.pid, p.getD p0, s.key⟩ := by
  have := TwoHandles.session_sees_named_profile_of_fresh_cache _ h' _ p s (good_run cs (good_init p0)).fresh ho
  rw [thRun_active] at this
  exact this

theorem single_handle_removed_profile_cannot_be_opened (p0 : String) (cs : List Call) (p : Option String)
    (hn : (thRun (⟨p0, [⟨p0, 1, 0⟩]⟩, TwoHandles.Db.provisioned p0) cs).1.2.rowByName
      (p.getD (thRun (⟨p0, [⟨p0, 1, 0⟩]⟩, TwoHandles.Db.provisioned p0) cs).1.1.active) = none) :
    (TwoHandles.openSession false (thRun (⟨p0, [⟨p0, 1, 0⟩]⟩, TwoHandles.Db.provisioned p0) cs).1.1
      (thRun (⟨p0, [⟨p0, 1, 0⟩]⟩, TwoHandles.Db.provisioned p0) cs).1.2 p).2 = .error .notFound ∧
    ∀ cat, (TwoHandles.scan false (thRun (⟨p0, [⟨p0, 1, 0⟩]⟩, TwoHandles.Db.provisioned p0) cs).1.1
      (thRun (⟨p0, [⟨p0, 1, 0⟩]⟩, TwoHandles.Db.provisioned p0) cs).1.2 p cat).2 = .error .notFound :=
  TwoHandles.removed_profile_cannot_be_opened_of_fresh_cache _ _ p (good_run cs (good_init p0)).fresh hn

/-! ### why `Call.item` opens its session: a pair HELD across remove + re-create breaks key coherence with ONE handle -/

namespace Witness
open TwoHandles
def h0 : Handle := ⟨"p0", [⟨"p0", 1, 0⟩]⟩
def db0 : Db := Db.provisioned "p0"
def r1 : Rec := ⟨"c1", "n1", "aa", [(1, "t", "v")]⟩
def r2 : Rec := ⟨"c1", "n2", "bb", []⟩
/-- create p1 (id 2, key 1), write r1 into it, open a session on it (and keep the pair), remove p1, create p2 (id 2 again, key 2),
    write r1 into p2 -/
def hist : List Call :=
  [.create "p1", .item (some "p1") (.insert r1), .openSession (some "p1"), .remove "p1", .create "p2", .item (some "p2") (.insert r1),
   .item (some "p2") (.count none), .item none (.fetch "c1" "n1"), .scan (some "p2") (some "c1"), .openSession (some "p1")]
/-- the pair the third call returned -/
def held : Sess := ⟨2, 1⟩
end Witness

open Witness in
/-- the history runs as described (two profiles besides the default one, the id 2 handed out twice) -/
example : (thRun (h0, db0) hist).2 =
    [.ok, .ok, .sess held, .removed true, .ok, .ok, .count 1, .one none, .scanned [r1], .err .notFound] ∧
    (thRun (h0, db0) hist).1.2.profiles = [⟨1, "p0", 0⟩, ⟨2, "p2", 2⟩] ∧
    (thRun (h0, db0) hist).1.2.items = [⟨2, 2, r1⟩] := by decide +kernel

open Witness in
/-- one handle, yet: the held pair's insert is acknowledged (its id is in use again), lands in p2 under p1's key, and the session
    the handle opens on p2 afterwards is NOT key-coherent — the refinement still holds for this call (`held_session_call_refines_store`),
    the invariant `Good` does not survive it.  Hence the histories of `single_handle_cache_fresh` open a session per call. -/
theorem held_session_breaks_key_coherence :
    (thRun (h0, db0) hist).1.2.hasId held.pid = true ∧
    (thItem held (thRun (h0, db0) hist).1.2 (.insert r2)).2 = .ok ∧
    (thItem held (thRun (h0, db0) hist).1.2 (.insert r2)).1.items = [⟨2, 2, r1⟩, ⟨2, 1, r2⟩] ∧
    TwoHandles.openSession false (thRun (h0, db0) hist).1.1 (thItem held (thRun (h0, db0) hist).1.2 (.insert r2)).1 (some "p2") =
      ((thRun (h0, db0) hist).1.1, .ok ⟨2, 2⟩) ∧
    ¬ (∀ it ∈ (thItem held (thRun (h0, db0) hist).1.2 (.insert r2)).1.items, it.pid = 2 → it.key = 2) := by
  decide +kernel

/-! ### non-vacuity of Tie 1 -/

/-- a payload encoding: kind 2 (Item), UTF-8 values, tag `(1, n, v)` = plaintext tag -/
def exEnc : Enc := ⟨2, utf8, fun t => ⟨t.1 == 1, t.2.1, t.2.2⟩⟩

open Witness in
example : Sim exEnc h0 db0 (absDb exEnc [] db0) (absHandle h0 db0) := abstraction_is_related exEnc h0 db0 [] rfl List.Pairwise.nil

open Witness in
example : Good h0 db0 := good_init "p0"

open Witness in
/-- the image of the initial state is the Store driver's initial state -/
example : absDb exEnc [] db0 = { profiles := [⟨1, "p0", 0⟩] } ∧ absHandle h0 db0 = { cache := [("p0", 1, 0)], nextKey := 1 } :=
  ⟨rfl, rfl⟩

open Witness in
/-- the Store model's run of the same history, obtained from the tie: the same ten outputs -/
example (like : Bytes → Bytes → Bool) :
    (storeRun exEnc like 32 0 "p0" (absDb exEnc [] db0, absHandle h0 db0) hist).2 =
      [TOut.ok, .ok, .sess held, .removed true, .ok, .ok, .count 1, .one none, .scanned [r1], .err .notFound].map (liftOut exEnc 32) := by
  have h := (single_handle_refines_store exEnc like 32 0 hist (abstraction_is_related exEnc h0 db0 [] rfl List.Pairwise.nil)).2
  have e : (thRun (h0, db0) hist).2 =
      [.ok, .ok, .sess held, .removed true, .ok, .ok, .count 1, .one none, .scanned [r1], .err .notFound] := by decide +kernel
  rw [e] at h
  exact h

open Witness in
/-- the side condition of `insert_without_parent_row_differs` is reachable with one handle: after `remove p1` the held pair's id is
    unused -/
example : (thRun (h0, db0) (hist.take 4)).1.2.hasId held.pid = false ∧
    (thRun (h0, db0) (hist.take 4)).1.2.items.any (TwoHandles.hits held r2.cat r2.name) = false := by decide +kernel

/-! # Tie 2 — re-key -/

open Askar.Ties.Rekey

variable {C : Keys.Crypto} {I : Type}

/-- NO FAULT: StoreFault's re-key (all its statements, COMMIT, then the cache swap) has the effect of `Keys.rekeyG` under the
    relation `Rel` — same profiles in the same order, every profile key (the same list `pks` before and after) re-wrapped under the
    key the identity `new` stands for, config key entry = the reference of `new`, handle on the new key; items, active profile and
    profile key of the handle untouched.  For every `Crypto` with `Crypto.Laws`, every guard setting `g` (`Keys.rekey` is
    `rekeyG Keys.rekeyRefusesBlankRaw`), every method / pass key / randomness that resolves to (the key of `new`, the reference of
    `new`).  Side condition `hload`: every profile key is wrapped with the handle's identity (else see `rekey_unloadable_agree`). -/
theorem rekey_nofault_is_keys_rekey (g : Bool) (L : C.Laws) (ι : Interp C) (pks : List C.PK) (st : StoreFault.St)
    (kst : Keys.Store C I) (h : StoreFault.Handle) (kh : Keys.Handle C) (hR : Rel ι pks st kst) (hH : HRel ι h kh)
    (m : Keys.Method) (pass : Keys.PassKey) (rnd : Keys.Rnd C) (new : StoreFault.KeyId)
    (hguard : ¬ (g = true ∧ m = .raw ∧ pass.str.isEmpty = true))
    (hnew : m.resolve C pass rnd = .ok (ι.key new, ι.ref new))
    (hload : ∀ p ∈ st.profiles, p.wrap = h.cacheKey) :
    ∃ kst' kh', Keys.rekeyG g C kst kh m pass rnd = (kst', .ok kh') ∧
      StoreFault.runCall none h (.rekey new) st = (StoreFault.Lemmas.rekeyed new st, ⟨new⟩, .ok) ∧
      Rel ι pks (StoreFault.runCall none h (.rekey new) st).1 kst' ∧
      HRel ι (StoreFault.runCall none h (.rekey new) st).2.1 kh' ∧
      kst'.items = kst.items ∧ StoreFault.content (StoreFault.runCall none h (.rekey new) st).1 = StoreFault.content st ∧
      kh'.profile = kh.profile ∧ kh'.pk = kh.pk := by
  obtain ⟨es', h1, h2⟩ := rewrap_rel L ι h.cacheKey new rnd.nonce st.profiles kst.profiles pks 0 hR.profiles hload
  have hH' : kh.storeKey = ι.key h.cacheKey := hH
  have hc := StoreFault.Lemmas.runCall_rekey_ok h new st hload
  refine ⟨{ kst with profiles := es', keyRef := (ι.ref new).toUri }, { kh with storeKey := ι.key new }, ?_, hc, ?_, ?_, rfl, ?_,
    rfl, rfl⟩
  · unfold Keys.rekeyG
    rw [if_neg hguard]
    simp only [hnew, hH', h1]
  · rw [hc]; exact ⟨rfl, hR.default, h2⟩
  · rw [hc]; rfl
  · rw [hc]; exact StoreFault.Lemmas.content_rekeyed new st

/-- the same for the current tree's `Keys.rekey` -/
theorem rekey_nofault_is_keys_rekey_current (L : C.Laws) (ι : Interp C) (pks : List C.PK) (st : StoreFault.St)
    (kst : Keys.Store C I) (h : StoreFault.Handle) (kh : Keys.Handle C) (hR : Rel ι pks st kst) (hH : HRel ι h kh)
    (m : Keys.Method) (pass : Keys.PassKey) (rnd : Keys.Rnd C) (new : StoreFault.KeyId)
    (hguard : ¬ (Keys.rekeyRefusesBlankRaw = true ∧ m = .raw ∧ pass.str.isEmpty = true))
    (hnew : m.resolve C pass rnd = .ok (ι.key new, ι.ref new))
    (hload : ∀ p ∈ st.profiles, p.wrap = h.cacheKey) :
    ∃ kst' kh', Keys.rekey C kst kh m pass rnd = (kst', .ok kh') ∧
      Rel ι pks (StoreFault.runCall none h (.rekey new) st).1 kst' ∧
      HRel ι (StoreFault.runCall none h (.rekey new) st).2.1 kh' := by
  obtain ⟨kst', kh', h1, _, h3, h4, _⟩ :=
    rekey_nofault_is_keys_rekey Keys.rekeyRefusesBlankRaw L ι pks st kst h kh hR hH m pass rnd new hguard hnew hload
  exact ⟨kst', kh', h1, h3, h4⟩

/-- A FAULT at any statement (`k` < profiles + 2 = the number of statements of the re-key): StoreFault's call reports an error with
    the database and the handle unchanged, so the related Keys store and Keys handle are THE SAME ones — the call is the identity
    on the Keys model, which is also the only non-committing outcome `Keys.rekeyG` has (`Keys.rekey_failed_no_change`). -/
theorem rekey_fault_is_identity_on_keys (ι : Interp C) (pks : List C.PK) (st : StoreFault.St) (kst : Keys.Store C I)
    (h : StoreFault.Handle) (kh : Keys.Handle C) (hR : Rel ι pks st kst) (hH : HRel ι h kh)
    (new : StoreFault.KeyId) (k : Nat) (hk : k < st.profiles.length + 2) :
    (∃ e, StoreFault.runCall (some k) h (.rekey new) st = (st, h, .err e)) ∧
    Rel ι pks (StoreFault.runCall (some k) h (.rekey new) st).1 kst ∧
    HRel ι (StoreFault.runCall (some k) h (.rekey new) st).2.1 kh := by
  rcases StoreFault.Lemmas.runCall_all_or_nothing k h (.rekey new) st with ⟨e, he⟩ | ⟨hge, _⟩
  · exact ⟨⟨e, he⟩, by rw [he]; exact hR, by rw [he]; exact hH⟩
  · rw [StoreFault.Lemmas.stmts_rekey_length] at hge; omega

/-- the statement count is exact, and a fault number beyond it never fires (the call is the fault-free one) -/
theorem rekey_late_fault_is_no_fault (h : StoreFault.Handle) (new : StoreFault.KeyId) (st : StoreFault.St) (k : Nat)
    (hk : st.profiles.length + 2 ≤ k) :
    (StoreFault.stmts h (.rekey new) st).length = st.profiles.length + 2 ∧
    StoreFault.runCall (some k) h (.rekey new) st = StoreFault.runCall none h (.rekey new) st :=
  ⟨StoreFault.Lemmas.stmts_rekey_length h new st, StoreFault.Lemmas.runCall_late k h _ st (by rw [StoreFault.Lemmas.stmts_rekey_length]; exact hk)⟩

/-- no fault, but some profile key is wrapped with an identity that stands for ANOTHER key than the handle's: both models refuse
    and change nothing (StoreFault: Encryption; Keys: the error of its `loadPk`, Encryption for the toy and the real loader) -/
theorem rekey_unloadable_agree (g : Bool) (L : C.Laws) (ι : Interp C) (pks : List C.PK) (st : StoreFault.St) (kst : Keys.Store C I)
    (h : StoreFault.Handle) (kh : Keys.Handle C) (hR : Rel ι pks st kst) (hH : HRel ι h kh)
    (m : Keys.Method) (pass : Keys.PassKey) (rnd : Keys.Rnd C) (new : StoreFault.KeyId)
    (hex : ∃ p ∈ st.profiles, ι.key p.wrap ≠ ι.key h.cacheKey) :
    (∃ e, Keys.rekeyG g C kst kh m pass rnd = (kst, .error e)) ∧
    StoreFault.runCall none h (.rekey new) st = (st, h, .err .encryption) := by
  constructor
  · -- `rekeyG` refuses, or its `rewrap` under the handle's key succeeded: which the foreign row excludes
    rcases Keys.rekeyG_cases g kst kh m pass rnd with he | ⟨sk', _, _, _, hw, _⟩
    · exact he
    · obtain ⟨e, he⟩ := rewrap_fails L ι h.cacheKey sk' rnd.nonce st.profiles kst.profiles pks 0 hR.profiles hex
      rw [show kh.storeKey = ι.key h.cacheKey from hH, he] at hw
      cases hw
  · obtain ⟨p, hp, hne⟩ := hex
    exact StoreFault.Lemmas.runCall_rekey_unloadable h new st ⟨p, hp, fun e => hne (by rw [e])⟩

/-- the two no-fault cases are exhaustive when distinct identities stand for distinct keys (for an interpretation that maps two
    identities to ONE key the models differ on a row wrapped with the other identity: StoreFault refuses, Keys commits — an
    artefact of reading identities non-injectively, excluded here) -/
theorem rekey_cases_exhaustive (ι : Interp C) (hinj : ∀ a b, ι.key a = ι.key b → a = b) (st : StoreFault.St) (h : StoreFault.Handle) :
    (∀ p ∈ st.profiles, p.wrap = h.cacheKey) ∨ (∃ p ∈ st.profiles, ι.key p.wrap ≠ ι.key h.cacheKey) := by
  cases hall : st.profiles.all (·.wrap == h.cacheKey) with
  | true => exact Or.inl fun p hp => by simpa using List.all_eq_true.mp hall p hp
  | false =>
    obtain ⟨p, hp, hne⟩ := List.all_eq_false.mp hall
    exact Or.inr ⟨p, hp, fun e => hne (by simp [hinj _ _ e])⟩

/-- what `Keys.rekeyG` refuses before reading anything is StoreFault's `Call.refused .input` -/
theorem rekey_refused_agree (g : Bool) (st : StoreFault.St) (kst : Keys.Store C I) (h : StoreFault.Handle) (kh : Keys.Handle C)
    (m : Keys.Method) (pass : Keys.PassKey) (rnd : Keys.Rnd C)
    (href : (g = true ∧ m = .raw ∧ pass.str.isEmpty = true) ∨ ∃ e, m.resolve C pass rnd = .error e) :
    Keys.rekeyG g C kst kh m pass rnd = (kst, .error .input) ∧
    StoreFault.runCall none h (.refused .input) st = (st, h, .err .input) := by
  refine ⟨?_, by simp [StoreFault.runCall, StoreFault.stmts, StoreFault.runTxn]⟩
  unfold Keys.rekeyG
  by_cases hg : g = true ∧ m = .raw ∧ pass.str.isEmpty = true
  · rw [if_pos hg]
  · rw [if_neg hg]
    rcases href with hg' | ⟨e, he⟩
    · exact absurd hg' hg
    · have := resolve_err_input m pass rnd e he
      subst this
      simp only [he]

/-- which key opens afterwards, in both models -/
theorem rekey_opens_agree (g : Bool) (L : C.Laws) (ι : Interp C) (pks : List C.PK) (st : StoreFault.St) (kst kst' : Keys.Store C I)
    (kh kh' : Keys.Handle C) (m : Keys.Method) (pass : Keys.PassKey) (rnd : Keys.Rnd C) (new : StoreFault.KeyId)
    (hnew : m.resolve C pass rnd = .ok (ι.key new, ι.ref new))
    (hr : Keys.rekeyG g C kst kh m pass rnd = (kst', .ok kh'))
    (hR' : Rel ι pks (StoreFault.Lemmas.rekeyed new st) kst')
    (active : String) (ha : st.has active = true) (hsalt : rnd.salt.length = 16) (hraw : m = .raw → pass.str ≠ []) :
    (∀ k, StoreFault.opens k active (StoreFault.Lemmas.rekeyed new st) = true ↔ k = new) ∧
    (∃ hh, Keys.openDb C kst' (some m) pass (some (ι.name active)) = .ok hh ∧ hh.storeKey = ι.key new) ∧
    (∀ m0 pass0 p hh, Keys.openDb C kst' m0 pass0 p = .ok hh → hh.storeKey = ι.key new) := by
  have hkey : kh'.storeKey = ι.key new := by
    obtain ⟨ref, hres, -, -⟩ := Keys.rekey_ok_ref g kst kst' kh kh' m pass rnd hr
    rw [hnew] at hres
    simp only [Except.ok.injEq, Prod.mk.injEq] at hres
    exact hres.1.symm
  have ha' : (StoreFault.Lemmas.rekeyed new st).has active = true := by rw [StoreFault.Lemmas.has_rekeyed]; exact ha
  refine ⟨?_, ?_, ?_⟩
  · intro k
    exact StoreFault.Lemmas.opens_iff k active _ (StoreFault.Lemmas.consistent_rekeyed new st) ha'
  · have hex : (Keys.lookup ((some (ι.name active)).getD kst'.defaultProfile) kst'.profiles).isSome = true :=
      lookup_of_rel ι active _ _ _ hR'.profiles ha'
    obtain ⟨hh, ho, hk⟩ := Keys.rekey_then_open g L kst kst' kh kh' m pass rnd hsalt hraw hr (some (ι.name active)) hex
    exact ⟨hh, ho, hk.trans hkey⟩
  · intro m0 pass0 p hh ho
    exact (Keys.rekey_then_open_only_new g L kst kst' kh kh' m pass rnd hr m0 pass0 p hh ho).1.trans hkey

/-- identity-style crypto (`Crypto.toy`: a blob = the key it is sealed under + the profile key): the relation is the FUNCTION
    `absToy` and the tie is a commuting square -/
theorem rekey_toy_square (g : Bool) (ι : Interp Keys.Crypto.toy) (pk : String → Nat) (st : StoreFault.St)
    (h : StoreFault.Handle) (prof : Uri.Str) (pk0 : Nat)
    (m : Keys.Method) (pass : Keys.PassKey) (rnd : Keys.Rnd Keys.Crypto.toy) (new : StoreFault.KeyId)
    (hguard : ¬ (g = true ∧ m = .raw ∧ pass.str.isEmpty = true))
    (hnew : m.resolve Keys.Crypto.toy pass rnd = .ok (ι.key new, ι.ref new))
    (hload : ∀ p ∈ st.profiles, p.wrap = h.cacheKey) :
    Rel ι (st.profiles.map fun p => pk p.name) st (absToy ι pk st) ∧
    Keys.rekeyG g Keys.Crypto.toy (absToy ι pk st) ⟨ι.key h.cacheKey, prof, pk0⟩ m pass rnd =
      (absToy ι pk (StoreFault.runCall none h (.rekey new) st).1,
       .ok ⟨ι.key (StoreFault.runCall none h (.rekey new) st).2.1.cacheKey, prof, pk0⟩) := by
  refine ⟨absToy_rel ι pk st, ?_⟩
  rw [StoreFault.Lemmas.runCall_rekey_ok h new st hload]
  unfold Keys.rekeyG
  rw [if_neg hguard]
  simp only [hnew, absToy, rewrap_toy ι pk h.cacheKey new rnd.nonce st.profiles 0 hload]
  simp [StoreFault.Lemmas.rekeyed, StoreFault.content, List.map_map, Function.comp_def]

/-! ### non-vacuity of Tie 2: a store with two profiles under key 7, re-keyed to a raw key -/

/-- identities are the toy keys themselves; every reference is `raw`; names as UTF-8 -/
def exInterp : Interp Keys.Crypto.toy := ⟨fun k => some k, fun _ => .raw, fun s => Uri.utf8 s.toList⟩

def exSt : StoreFault.St := ⟨[⟨"p0", 7, [⟨"c", "n", "aa", [(0, "t", "v")]⟩]⟩, ⟨"p1", 7, []⟩], 7, "p0"⟩

/-- the profile keys of the two profiles -/
def exPk : String → Nat := fun n => if n = "p0" then 11 else 12

/-- a 44-character raw pass key: the toy `rawKey` maps it to the key 44 -/
def exPass : Keys.PassKey := some (List.replicate 44 0x31)

example : Keys.Crypto.toy.Laws := Keys.Crypto.toy_laws
example : Keys.Method.resolve Keys.Crypto.toy .raw exPass Keys.Crypto.toyRnd = .ok (exInterp.key 44, exInterp.ref 44) := by decide +kernel
example : ¬ (true = true ∧ Keys.Method.raw = .raw ∧ (Keys.PassKey.str exPass).isEmpty = true) := by decide +kernel
example : ∀ p ∈ exSt.profiles, p.wrap = (⟨7⟩ : StoreFault.Handle).cacheKey := by decide +kernel
theorem exRel : Rel exInterp [11, 12] exSt (absToy exInterp exPk exSt) := by
  have e : (exSt.profiles.map fun p => exPk p.name) = [11, 12] := by decide +kernel
  rw [← e]
  exact absToy_rel exInterp exPk exSt
example : HRel exInterp ⟨7⟩ (⟨some 7, Uri.utf8 "p0".toList, 11⟩ : Keys.Handle Keys.Crypto.toy) := rfl

/-- the square, concretely: both profiles end up sealed under key 44, the config text is "raw", key 44 opens and key 7 does not -/
example :
    (StoreFault.runCall none ⟨7⟩ (.rekey 44) exSt).1.profiles.map (·.wrap) = [44, 44] ∧
    (StoreFault.runCall none ⟨7⟩ (.rekey 44) exSt).1.storeKey = 44 ∧
    StoreFault.opens 44 "p0" (StoreFault.runCall none ⟨7⟩ (.rekey 44) exSt).1 = true ∧
    StoreFault.opens 7 "p0" (StoreFault.runCall none ⟨7⟩ (.rekey 44) exSt).1 = false ∧
    (Keys.rekeyG true Keys.Crypto.toy (absToy exInterp exPk exSt)
        ⟨some 7, Uri.utf8 "p0".toList, 11⟩ .raw exPass Keys.Crypto.toyRnd).1.profiles.map (·.2) = [(some 44, 11), (some 44, 12)] := by
  refine ⟨by decide +kernel, by decide +kernel, by decide +kernel, by decide +kernel, ?_⟩
  have sq : Keys.rekeyG true Keys.Crypto.toy (absToy exInterp exPk exSt) ⟨some 7, Uri.utf8 "p0".toList, 11⟩ .raw exPass
      Keys.Crypto.toyRnd = _ :=
    (rekey_toy_square true exInterp exPk exSt ⟨7⟩ (Uri.utf8 "p0".toList) 11 .raw exPass Keys.Crypto.toyRnd 44
      (by decide +kernel) (by decide +kernel) (by decide +kernel)).2
  rw [sq]
  decide +kernel

/-- every fault position of this re-key (statements 0 … 3) leaves `exSt`, and with it its image, as it was -/
example : ∀ k < 4, (StoreFault.runCall (some k) ⟨7⟩ (.rekey 44) exSt).1 = exSt ∧
    absToy exInterp exPk (StoreFault.runCall (some k) ⟨7⟩ (.rekey 44) exSt).1 =
      absToy exInterp exPk exSt := by
  intro k hk
  obtain ⟨⟨e, he⟩, _⟩ := rekey_fault_is_identity_on_keys exInterp [11, 12] exSt _ ⟨7⟩
    (⟨some 7, Uri.utf8 "p0".toList, 11⟩ : Keys.Handle Keys.Crypto.toy) exRel rfl 44 k hk
  rw [he]
  exact ⟨rfl, rfl⟩

/-- the unloadable case is reachable: one profile wrapped with another identity -/
example : ∃ p ∈ (⟨[⟨"p0", 7, []⟩, ⟨"p1", 9, []⟩], 7, "p0"⟩ : StoreFault.St).profiles,
    exInterp.key p.wrap ≠ exInterp.key (⟨7⟩ : StoreFault.Handle).cacheKey := ⟨⟨"p1", 9, []⟩, by decide +kernel, by decide +kernel⟩

end Askar.Ties
