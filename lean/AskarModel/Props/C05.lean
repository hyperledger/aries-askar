/-
C05 — transactions are atomic and isolated; plain sessions apply immediately.
ONLY property theorems and non-vacuity examples; helper lemmas in Lemmas/Session.lean.
The model is Model/Session.lean (`TxStore`): committed state + at most one open write transaction
with a private working copy.  Schedules are arbitrary lists of calls (any length, any interleaving).
-/
import AskarModel.Model.Session
import AskarModel.Lemmas.Session

namespace Askar.Store

/-- While session `i`'s transaction is open, no call of any session other than `commit i` and `rollback i` changes
    what other sessions can read: its writes stay private, foreign writes are refused. -/
theorem txn_invisible_until_commit (like : Bytes → Bytes → Bool) (page : Nat) (now : Int) (st : TxStore) (i : Nat)
    (h : st.ownedBy i = true) (cs : List Call) (hc : noEnd i cs = true) :
    (TxStore.run like page now st cs).1.db = st.db ∧ (TxStore.run like page now st cs).1.ownedBy i = true := by
  obtain ⟨c, hw⟩ := (Lemmas.ownedBy_iff st i).1 h
  have := Lemmas.run_owned like page now st i c hw cs hc
  exact ⟨this.1, (Lemmas.ownedBy_iff _ i).2 this.2⟩

/-- Rollback, drop or close(false) after any schedule: the published state is exactly the one before. -/
theorem rollback_discards (like : Bytes → Bytes → Bool) (page : Nat) (now : Int) (st : TxStore) (i : Nat)
    (h : st.ownedBy i = true) (cs : List Call) (hc : noEnd i cs = true) :
    (TxStore.run like page now st (cs ++ [.rollback i])).1.db = st.db ∧
    (TxStore.run like page now st (cs ++ [.rollback i])).1.wtxn = none := by
  obtain ⟨c, hw⟩ := (Lemmas.ownedBy_iff st i).1 h
  obtain ⟨hdb, c', hw'⟩ := Lemmas.run_owned like page now st i c hw cs hc
  rw [Lemmas.run_append_fst, Lemmas.run_single_fst]
  constructor
  · rw [← hdb]
    simp [TxStore.step, hw']
  · simp [TxStore.step, hw']

/-- Inside the transaction, whatever other sessions do in between, the transaction's calls return
    what they would return run alone, one after the other, on the state the transaction started
    from (so each read observes all of its own earlier writes), and its working copy is that
    sequential result. -/
theorem txn_sequential (like : Bytes → Bytes → Bool) (page : Nat) (now : Int) (st : TxStore) (i : Nat) (s : Sess) (c : Db)
    (h : st.wtxn = some (i, c)) (cs : List Call) (hc : noEnd i cs = true) (ht : txnOf i s cs = true) :
    outsOf i cs (TxStore.run like page now st cs).2 = (run like page now s c (opsOf i cs)).2 ∧
    (TxStore.run like page now st cs).1.wtxn = some (i, (run like page now s c (opsOf i cs)).1) := by
  induction cs generalizing st c with
  | nil => exact ⟨rfl, h⟩
  | cons cl cs ih =>
    rw [Lemmas.run_cons_fst, Lemmas.run_cons_snd]
    cases cl with
    | stmt j t s' op =>
      have hc' : noEnd i cs = true := hc
      by_cases hij : i = j
      · subst hij
        have ht2 : (t = true ∧ s'.pid = s.pid ∧ s'.key = s.key) ∧ txnOf i s cs = true := by
          simpa [txnOf, and_assoc] using ht
        obtain ⟨⟨rfl, hp, hk⟩, ht'⟩ := ht2
        obtain rfl := Lemmas.sess_eq_of s' s hp hk
        rw [Lemmas.step_owner like page now st i c h]
        have := ih { st with wtxn := some (i, (step like page now s' c op).1) } _ rfl hc' ht'
        simp only [opsOf, outsOf, beq_self_eq_true, if_true, this.1]
        exact ⟨rfl, this.2⟩
      · have ht' : txnOf i s cs = true := by
          simpa [txnOf, hij] using ht
        rw [Lemmas.step_other like page now st i c h j t s' op (fun e => hij e.2.symm)]
        simp only [opsOf, outsOf, beq_iff_eq, hij, if_false]
        exact ih st c h hc' ht'
    | commit j =>
      have hc2 : i ≠ j ∧ noEnd i cs = true := by simpa [noEnd] using hc
      have ht' : txnOf i s cs = true := ht
      rw [Lemmas.step_commit_other like page now st i c h j hc2.1]
      exact ih st c h hc2.2 ht'
    | rollback j =>
      have hc2 : i ≠ j ∧ noEnd i cs = true := by simpa [noEnd] using hc
      have ht' : txnOf i s cs = true := ht
      rw [Lemmas.step_rollback_other like page now st i c h j hc2.1]
      exact ih st c h hc2.2 ht'

/-- Commit publishes all of the transaction's changes together: afterwards the published state is
    exactly the sequential result of its calls on its starting state. -/
theorem commit_publishes_all (like : Bytes → Bytes → Bool) (page : Nat) (now : Int) (st : TxStore) (i : Nat) (s : Sess) (c : Db)
    (h : st.wtxn = some (i, c)) (cs : List Call) (hc : noEnd i cs = true) (ht : txnOf i s cs = true) :
    (TxStore.run like page now st (cs ++ [.commit i])).1.db = (run like page now s c (opsOf i cs)).1 ∧
    (TxStore.run like page now st (cs ++ [.commit i])).1.wtxn = none := by
  have hw := (txn_sequential like page now st i s c h cs hc ht).2
  rw [Lemmas.run_append_fst, Lemmas.run_single_fst]
  constructor <;> simp [TxStore.step, hw]

/-- The first call of a transactional session takes the write lock when it is free, starting from
    the published state. -/
theorem begin_takes_lock (like : Bytes → Bytes → Bool) (page : Nat) (now : Int) (st : TxStore) (i : Nat) (s : Sess) (op : Op)
    (h : st.wtxn = none) :
    (TxStore.step like page now st (.stmt i true s op)).1.wtxn = some (i, (step like page now s st.db op).1) ∧
    (TxStore.step like page now st (.stmt i true s op)).2 = (step like page now s st.db op).2 ∧
    (TxStore.step like page now st (.stmt i true s op)).1.db = st.db :=
  Lemmas.begin_takes_lock like page now st i s op h

/-- A plain session's call, when no transaction holds the lock, is applied to the published state
    at once, and ending the session in any way keeps it. -/
theorem plain_call_immediate (like : Bytes → Bytes → Bool) (page : Nat) (now : Int) (st : TxStore) (j : Nat) (s : Sess) (op : Op)
    (h : st.wtxn = none) :
    (TxStore.step like page now st (.stmt j false s op)).1.db = (step like page now s st.db op).1 ∧
    (TxStore.step like page now st (.stmt j false s op)).2 = (step like page now s st.db op).2 ∧
    ∀ e, e = Call.commit j ∨ e = Call.rollback j →
      (TxStore.step like page now (TxStore.step like page now st (.stmt j false s op)).1 e).1.db = (step like page now s st.db op).1 :=
  Lemmas.plain_call_immediate like page now st j s op h

/-- A plain session's read never blocks and sees exactly the published state, also while a
    transaction is open. -/
theorem plain_read_sees_committed (like : Bytes → Bytes → Bool) (page : Nat) (now : Int) (st : TxStore) (j : Nat) (s : Sess) (op : Op)
    (hr : op.isWrite = false) :
    (TxStore.step like page now st (.stmt j false s op)).2 = (step like page now s st.db op).2 ∧
    (TxStore.step like page now st (.stmt j false s op)).1.wtxn = st.wtxn := by
  simp [TxStore.step, hr]

/-- A call refused because another session holds the write lock has no effect at all. -/
theorem blocked_call_no_effect (like : Bytes → Bytes → Bool) (page : Nat) (now : Int) (st : TxStore) (j : Nat) (t : Bool) (s : Sess) (op : Op)
    (h : st.lockedByOther j = true) (hw : t = true ∨ op.isWrite = true) :
    TxStore.step like page now st (.stmt j t s op) = (st, .err .backend) :=
  Lemmas.blocked_call_no_effect like page now st j t s op h hw

/-! non-vacuity: an insert inside a transaction is invisible to a plain reader, visible to the
    transaction itself, and visible to everyone after commit -/
example :
    let ins : Call := .stmt 0 true ⟨1, 0⟩ (.insert 2 "c" "n" [7] none none)
    let rd (i : Nat) (t : Bool) : Call := .stmt i t ⟨1, 0⟩ (.count none none none)
    (TxStore.run (fun _ _ => false) 32 0 { db := {} } [ins, rd 1 false, rd 0 true, .commit 0, rd 1 false]).2
      = [.ok, .count 0, .count 1, .ok, .count 1] := by
  decide +kernel

end Askar.Store
