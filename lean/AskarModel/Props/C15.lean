/-
C15 — ECDH, ECDH-ES / ECDH-1PU and crypto_box agree on both sides and with the specs.
ONLY property theorems, one refutation with its witness, and non-vacuity examples.  Model: `Model/Ecdh.lean` (follows the
current /repo); lemmas: `Lemmas/Ecdh.lean`, which also defines `tagPart`, `xfull` / `xpub` and the toy instances used in the
statements below.  Curve arithmetic, SHA-256 and the secret box are parameters (`DhOps`/`DhLaws`,
`hash` with `hlen`, `BoxOps`/`BoxLaws`); `BoxIdeal` is an idealisation and is used by `box_open_only_sealed` alone.

The size of the `pub_info` stack buffer of `Ecdh1PU::derive_key_bytes` is DATA of the source: it reaches the model as
`Generated.ecdh1puPubInfoCap` (tools/extract.py).  Every theorem about ECDH-1PU is proved for ANY capacity `cap`
(`…Cap` functions); the current tree is the instance `cap = ecdh1puPubInfoCap`.  The explicit guard `cc_tag.len() > 128` promises
that every tag of at most 128 bytes is accepted; that promise (`TagGuardCompleteFor cap`) holds IFF `136 ≤ cap`
(`tag_guard_complete_iff`): false for `[0u8; 132]` (`tag_guard_complete_refuted_132`, defect D30), true for the generated constant
(`tag_guard_complete`, an obligation that fails if the buffer is smaller than 136).
Never a panic, never an overrun, for any capacity (`guards_*`).

"Changing any input changes the derived key" = `kdfInput_injective_*` + collision resistance of SHA-256 (assumed, not stated);
"fails for any other key / nonce / altered ciphertext" = `box_open_only_sealed` + unforgeability (assumed); both are exercised by
the correspondence run.
-/
import AskarModel.Model.Ecdh
import AskarModel.Lemmas.Ecdh

namespace Askar.C15
open Askar.Ecdh
open Askar.Bytes (be32)
open Askar.Generated (ecdh1puPubInfoCap)

/-! ### sender and recipient derive the same key -/

/-- ECDH-ES through `derive_key_ecdh_es`: sender (ephemeral key pair, recipient's public key, `receive = false`) and recipient
    (ephemeral public key, own key pair, `receive = true`) get the same result — key or error — for every target algorithm,
    curve, key pair and identifier strings -/
theorem es_agree (D : DhOps) (L : DhLaws D) (hash : Bytes → Bytes) (t : Target) (c : Curve) (e r : Bytes)
    (he : L.valid c e) (hr : L.valid c r) (alg apu apv : Bytes) :
    deriveKeyEcdhEs D hash t (Key.full D c e) (Key.public D c r) alg apu apv false =
      deriveKeyEcdhEs D hash t (Key.public D c e) (Key.full D c r) alg apu apv true :=
  Ecdh.es_agree D L hash t c e r he hr alg apu apv

/-- ECDH-1PU through `derive_key_ecdh_1pu`, for any size of the `pub_info` buffer … -/
theorem pu_agree_cap (cap : Nat) (D : DhOps) (L : DhLaws D) (hash : Bytes → Bytes) (t : Target) (c : Curve) (e s r : Bytes)
    (he : L.valid c e) (hs : L.valid c s) (hr : L.valid c r) (alg apu apv tag : Bytes) :
    deriveKeyEcdh1puCap cap D hash t (Key.full D c e) (Key.full D c s) (Key.public D c r) alg apu apv tag false =
      deriveKeyEcdh1puCap cap D hash t (Key.public D c e) (Key.public D c s) (Key.full D c r) alg apu apv tag true :=
  Ecdh.pu_agree cap D L hash t c e s r he hs hr alg apu apv tag

/-- … in particular on the current tree -/
theorem pu_agree (D : DhOps) (L : DhLaws D) (hash : Bytes → Bytes) (t : Target) (c : Curve) (e s r : Bytes)
    (he : L.valid c e) (hs : L.valid c s) (hr : L.valid c r) (alg apu apv tag : Bytes) :
    deriveKeyEcdh1pu D hash t (Key.full D c e) (Key.full D c s) (Key.public D c r) alg apu apv tag false =
      deriveKeyEcdh1pu D hash t (Key.public D c e) (Key.public D c s) (Key.full D c r) alg apu apv tag true :=
  Ecdh.pu_agree ecdh1puPubInfoCap D L hash t c e s r he hs hr alg apu apv tag

/-! ### every input matters: the hashed string determines all of them -/

/-- ECDH-ES: for shared secrets of one length and fields shorter than 2³² bytes, the string fed to SHA-256 determines
    (Z, alg, apu, apv, key length) -/
theorem kdfInput_injective_es {z z' alg alg' apu apu' apv apv' : Bytes} {n n' : Nat}
    (hz : z.length = z'.length)
    (h1 : alg.length < 2 ^ 32) (h1' : alg'.length < 2 ^ 32) (h2 : apu.length < 2 ^ 32) (h2' : apu'.length < 2 ^ 32)
    (h3 : apv.length < 2 ^ 32) (h3' : apv'.length < 2 ^ 32) (hn : n * 8 < 2 ^ 32) (hn' : n' * 8 < 2 ^ 32)
    (h : esInput z alg apu apv n = esInput z' alg' apu' apv' n') :
    z = z' ∧ alg = alg' ∧ apu = apu' ∧ apv = apv' ∧ n = n' := by
  rw [esInput_eq_puInput, esInput_eq_puInput] at h
  obtain ⟨e1, _, e2, e3, e4, e5⟩ := puInput_inj hz rfl h1 h1' h2 h2' h3 h3' h
  exact ⟨e1, e2, e3, e4, Nat.eq_of_mul_eq_mul_right (by decide) (Bytes.be32_inj hn hn' e5)⟩

/-- ECDH-1PU: likewise (Ze, Zs, alg, apu, apv, key length, tag); the tag field is absent for the empty tag -/
theorem kdfInput_injective_1pu {ze ze' zs zs' alg alg' apu apu' apv apv' tag tag' : Bytes} {n n' : Nat}
    (hze : ze.length = ze'.length) (hzs : zs.length = zs'.length)
    (h1 : alg.length < 2 ^ 32) (h1' : alg'.length < 2 ^ 32) (h2 : apu.length < 2 ^ 32) (h2' : apu'.length < 2 ^ 32)
    (h3 : apv.length < 2 ^ 32) (h3' : apv'.length < 2 ^ 32) (h4 : tag.length < 2 ^ 32) (h4' : tag'.length < 2 ^ 32)
    (hn : n * 8 < 2 ^ 32) (hn' : n' * 8 < 2 ^ 32)
    (h : puInput ze zs alg apu apv (be32 (n * 8) ++ tagPart tag) = puInput ze' zs' alg' apu' apv' (be32 (n' * 8) ++ tagPart tag')) :
    ze = ze' ∧ zs = zs' ∧ alg = alg' ∧ apu = apu' ∧ apv = apv' ∧ n = n' ∧ tag = tag' := by
  obtain ⟨e0, e1, e2, e3, e4, e5⟩ := puInput_inj hze hzs h1 h1' h2 h2' h3 h3' h
  obtain ⟨e5, e6⟩ := Bytes.be32_append_inj hn hn' e5
  exact ⟨e0, e1, e2, e3, e4, Nat.eq_of_mul_eq_mul_right (by decide) e5, tagPart_inj h4 h4' e6⟩

/-- the length prefixes are what makes it so: without them `("ab","c")` and `("a","bc")` would collide; with them they do not -/
example : esInput [1] [97, 98] [99] [] 16 ≠ esInput [1] [97] [98, 99] [] 16 := by decide

/-! ### the derived key is the one the standards define -/

/-- whenever the key exchange succeeds with shared secret `z`, `EcdhEs::derive_key_bytes` returns the RFC 7518 §4.6.2 Concat-KDF
    output: leftmost `n` bytes of H(be32 1 ‖ Z ‖ AlgorithmID ‖ PartyUInfo ‖ PartyVInfo ‖ SuppPubInfo = be32 (8n) ‖ SuppPrivInfo = ∅) -/
theorem es_matches_rfc7518 (D : DhOps) (hash : Bytes → Bytes) (hlen : ∀ x, (hash x).length = 32) (eph rcp : Key)
    (alg apu apv : Bytes) (receive : Bool) (n : Nat) (hn : n ≤ 32) (z : Bytes) (hz : exchange D eph rcp receive = .ok z) :
    deriveEsBytes D hash eph rcp alg apu apv receive n = .ok (Spec.esKey hash z alg apu apv n) := by
  rw [deriveEsBytes_eq D hash hlen, if_neg (Nat.not_lt_of_le hn), hz, Res.ok_bind, esInput_eq]
  simp [Spec.esKey, Spec.round, Spec.esOtherInfo, Spec.otherInfo, Spec.datalenData, lp, Nat.mul_comm, List.append_assoc]

/-- ECDH-1PU draft §2.3 (Z = Ze ‖ Zs, the non-empty tag appended to SuppPubInfo as Datalen ‖ Data): for any buffer size `cap`,
    every tag that passes the guard and fits (`|tag| + 8 ≤ cap`) gives the draft's key -/
theorem pu_matches_draft_cap (cap : Nat) (D : DhOps) (hash : Bytes → Bytes) (hlen : ∀ x, (hash x).length = 32) (eph snd rcp : Key)
    (alg apu apv tag : Bytes) (receive : Bool) (n : Nat) (hn : n ≤ 32) (ht : tag.length ≤ 128) (hcap : tag.length + 8 ≤ cap)
    (ze zs : Bytes) (hze : exchange D eph rcp receive = .ok ze) (hzs : exchange D snd rcp receive = .ok zs) :
    derive1puBytesCap cap D hash eph snd rcp alg apu apv tag receive n = .ok (Spec.puKey hash ze zs alg apu apv tag n) := by
  rw [derive1puBytesCap_eq cap D hash hlen, if_neg (Nat.not_lt_of_le hn), if_neg (Nat.not_lt_of_le ht), hze, hzs]
  simp only [Res.ok_bind]
  rw [if_pos (by rw [tagPart_length]; split <;> omega), puInput_eq]
  simp [Spec.puKey, Spec.round, Spec.puOtherInfo, Spec.otherInfo, Spec.datalenData, tagPart, lp, Nat.mul_comm, List.append_assoc]

/-- the current tree: EVERY tag of at most 128 bytes (obligation over the generated constant: `136 ≤ ecdh1puPubInfoCap`) -/
theorem pu_matches_draft (D : DhOps) (hash : Bytes → Bytes) (hlen : ∀ x, (hash x).length = 32) (eph snd rcp : Key)
    (alg apu apv tag : Bytes) (receive : Bool) (n : Nat) (hn : n ≤ 32) (ht : tag.length ≤ 128) (ze zs : Bytes)
    (hze : exchange D eph rcp receive = .ok ze) (hzs : exchange D snd rcp receive = .ok zs) :
    derive1puBytes D hash eph snd rcp alg apu apv tag receive n = .ok (Spec.puKey hash ze zs alg apu apv tag n) :=
  pu_matches_draft_cap ecdh1puPubInfoCap D hash hlen eph snd rcp alg apu apv tag receive n hn ht
    (Nat.le_trans (Nat.add_le_add_right ht 8) (by decide)) ze zs hze hzs

/-- on the sender's side the secret that enters is the sender's view of the exchange (the flag picks the right pair) -/
theorem es_sender_secret (D : DhOps) (c : Curve) (e r : Bytes) :
    exchange D (Key.full D c e) (Key.public D c r) false = .ok (D.dh c e (D.pub c r)) := Ecdh.exchange_full_public D c e r
theorem es_recipient_secret (D : DhOps) (c : Curve) (e r : Bytes) :
    exchange D (Key.public D c e) (Key.full D c r) true = .ok (D.dh c r (D.pub c e)) := Ecdh.exchange_public_full D c e r

/-! ### guards: which lengths are rejected, and never a panic -/

theorem guards_es_output_length (D : DhOps) (hash : Bytes → Bytes) (eph rcp : Key) (alg apu apv : Bytes) (receive : Bool) (n : Nat)
    (hn : n > 32) : deriveEsBytes D hash eph rcp alg apu apv receive n = .err .unsupported := by
  unfold deriveEsBytes; rw [if_pos hn]

theorem guards_1pu_output_length (cap : Nat) (D : DhOps) (hash : Bytes → Bytes) (eph snd rcp : Key) (alg apu apv tag : Bytes)
    (receive : Bool) (n : Nat) (hn : n > 32) :
    derive1puBytesCap cap D hash eph snd rcp alg apu apv tag receive n = .err .unsupported := by
  unfold derive1puBytesCap; rw [if_pos hn]

theorem guards_1pu_tag_length (cap : Nat) (D : DhOps) (hash : Bytes → Bytes) (eph snd rcp : Key) (alg apu apv tag : Bytes)
    (receive : Bool) (n : Nat) (ht : tag.length > 128) :
    derive1puBytesCap cap D hash eph snd rcp alg apu apv tag receive n = .err .unsupported := by
  unfold derive1puBytesCap
  by_cases hn : n > 32
  · rw [if_pos hn]
  · rw [if_neg hn, if_pos ht]

/-- no input whatsoever — keys of any kind, identifiers and tags of any length, any requested length — reaches a slice-bounds
    panic (digest slice, `Writer` slice, `as_ref`) -/
theorem guards_es_no_panic (D : DhOps) (hash : Bytes → Bytes) (hlen : ∀ x, (hash x).length = 32) (eph rcp : Key)
    (alg apu apv : Bytes) (receive : Bool) (n : Nat) : deriveEsBytes D hash eph rcp alg apu apv receive n ≠ .panic := by
  rw [deriveEsBytes_eq D hash hlen]
  by_cases hn : n > 32
  · rw [if_pos hn]; nofun
  · rw [if_neg hn]
    exact Res.bind_ne_panic (exchange_ne_panic _ _ _ _) (fun _ => nofun)

theorem guards_1pu_no_panic (cap : Nat) (D : DhOps) (hash : Bytes → Bytes) (hlen : ∀ x, (hash x).length = 32) (eph snd rcp : Key)
    (alg apu apv tag : Bytes) (receive : Bool) (n : Nat) :
    derive1puBytesCap cap D hash eph snd rcp alg apu apv tag receive n ≠ .panic := by
  rw [derive1puBytesCap_eq cap D hash hlen]
  by_cases hn : n > 32
  · rw [if_pos hn]; nofun
  · rw [if_neg hn]
    by_cases ht : tag.length > 128
    · rw [if_pos ht]; nofun
    · rw [if_neg ht]
      refine Res.bind_ne_panic (exchange_ne_panic _ _ _ _) fun ze => Res.bind_ne_panic (exchange_ne_panic _ _ _ _) fun zs => ?_
      by_cases hc : 4 + (tagPart tag).length ≤ cap
      · rw [if_pos hc]; nofun
      · rw [if_neg hc]; nofun

/-- the `pub_info` buffer is never overrun, whatever its size: what `as_ref` hands to the hash has at most `cap` bytes -/
theorem guards_pub_info_bounded {cap n : Nat} {tag b : Bytes} (h : pubInfo1puCap cap n tag = .ok b) : b.length ≤ cap := by
  rw [pubInfo1puCap_eq] at h
  by_cases hl : 4 + (tagPart tag).length ≤ cap
  · rw [if_pos hl] at h
    cases h
    rw [List.length_append, be32_length]
    exact hl
  · rw [if_neg hl] at h; cases h

/-- Full strength (what the guard `cc_tag.len() > 128` announces) for a buffer of `cap` bytes: every tag of at most 128 bytes
    is accepted. -/
def TagGuardCompleteFor (cap : Nat) : Prop :=
  ∀ (D : DhOps) (hash : Bytes → Bytes), (∀ x, (hash x).length = 32) → ∀ (c : Curve) (e s r alg apu apv tag : Bytes) (n : Nat),
    n ≤ 32 → tag.length ≤ 128 →
    ∃ k, derive1puBytesCap cap D hash (Key.full D c e) (Key.full D c s) (Key.public D c r) alg apu apv tag false n = .ok k

/-- the statement about the current tree -/
def TagGuardComplete : Prop := TagGuardCompleteFor ecdh1puPubInfoCap

/-- what happens to a non-empty tag that passes the guard but does not fit: `ExceededBuffer`, on either side -/
theorem pu_tag_exceeds_cap_rejected (cap : Nat) (D : DhOps) (hash : Bytes → Bytes) (hlen : ∀ x, (hash x).length = 32) (c : Curve)
    (e s r alg apu apv tag : Bytes) (n : Nat) (hn : n ≤ 32) (hne : tag ≠ []) (ht : cap < tag.length + 8) (ht' : tag.length ≤ 128) :
    derive1puBytesCap cap D hash (Key.full D c e) (Key.full D c s) (Key.public D c r) alg apu apv tag false n =
      .err .exceededBuffer :=
  Ecdh.derive1puBytesCap_tag_exceeds cap D hash hlen _ _ _ alg apu apv tag false n hn hne ht ht' _ _
    (Ecdh.exchange_full_public D c e r) (Ecdh.exchange_full_public D c s r)

/-- the part that holds for every capacity: every tag with `|tag| + 8 ≤ cap` (and ≤ 128) is accepted -/
theorem tag_guard_partial (cap : Nat) (D : DhOps) (hash : Bytes → Bytes) (hlen : ∀ x, (hash x).length = 32) (c : Curve)
    (e s r alg apu apv tag : Bytes) (n : Nat) (hn : n ≤ 32) (ht : tag.length ≤ 128) (hcap : tag.length + 8 ≤ cap) :
    ∃ k, derive1puBytesCap cap D hash (Key.full D c e) (Key.full D c s) (Key.public D c r) alg apu apv tag false n = .ok k :=
  ⟨_, pu_matches_draft_cap cap D hash hlen _ _ _ alg apu apv tag false n hn ht hcap _ _
    (Ecdh.exchange_full_public D c e r) (Ecdh.exchange_full_public D c s r)⟩

/-- the guard is complete exactly when the buffer has room for 4 + 4 + 128 bytes -/
theorem tag_guard_complete_iff (cap : Nat) : TagGuardCompleteFor cap ↔ 136 ≤ cap := by
  constructor
  · intro h
    -- a tag of exactly 128 bytes is accepted only if it fits behind the two length words
    have hl : (List.replicate 128 (0 : UInt8)).length = 128 := List.length_replicate
    obtain ⟨k, hk⟩ := h toyDh toyHash pad32_length .x25519 [1] [2] [3] [] [] [] (List.replicate 128 0) 16 (by decide) (Nat.le_of_eq hl)
    refine Nat.le_of_not_lt fun hc => ?_
    rw [pu_tag_exceeds_cap_rejected cap toyDh toyHash pad32_length .x25519 [1] [2] [3] [] [] [] (List.replicate 128 0) 16
      (by decide) (by decide) (by rw [hl]; exact hc) (Nat.le_of_eq hl)] at hk
    cases hk
  · intro hc D hash hlen c e s r alg apu apv tag n hn ht
    exact tag_guard_partial cap D hash hlen c e s r alg apu apv tag n hn ht (Nat.le_trans (Nat.add_le_add_right ht 8) hc)

/-- FALSE for `[0u8; 132]` (a tag of 125 to 128 bytes does not fit) — defect D30 -/
theorem tag_guard_complete_refuted_132 : ¬ TagGuardCompleteFor 132 :=
  fun h => absurd ((tag_guard_complete_iff 132).mp h) (by decide)

/-- TRUE on every tree whose buffer has at least 136 bytes … -/
theorem tag_guard_complete_current (h : 136 ≤ ecdh1puPubInfoCap) : TagGuardComplete :=
  (tag_guard_complete_iff ecdh1puPubInfoCap).mpr h

/-- … which the current source satisfies (obligation over the generated constant) -/
theorem tag_guard_complete : TagGuardComplete := tag_guard_complete_current (by decide)

/-! ### crypto_box -/

/-- a box opens to the message with the right keys; it is `tag ‖ ciphertext` (tag in front), 16 bytes longer than the message -/
theorem box_roundtrip (B : BoxOps) (L : BoxLaws B) (r s m nonce : Bytes) (hn : nonce.length = 24) :
    ∃ b, envCryptoBox B (xpub B r) (xfull B s) m nonce = .ok b ∧ b.length = m.length + 16 ∧
      b = (B.sealBox (B.beforenm s (B.pub r)) nonce m).2 ++ (B.sealBox (B.beforenm s (B.pub r)) nonce m).1 ∧
      envCryptoBoxOpen B (xfull B r) (xpub B s) b nonce = .ok m :=
  Ecdh.box_roundtrip B L r s m nonce hn

/-- the layout for any sender key pair and recipient key -/
theorem box_layout (B : BoxOps) (rp ss : Key) (sk : Bytes) (hs : ss.secret = some sk) (m nonce : Bytes) (hn : nonce.length = 24) :
    cryptoBox B rp ss m nonce =
      .ok ((B.sealBox (B.beforenm sk rp.pub) nonce m).2 ++ (B.sealBox (B.beforenm sk rp.pub) nonce m).1) :=
  Ecdh.cryptoBox_eq B rp ss sk hs m nonce hn

/-- a sealed box is `epk ‖ tag ‖ ciphertext` with nonce = BLAKE2b-24(epk ‖ rpk), 48 bytes longer than the message, and opens -/
theorem seal_roundtrip (B : BoxOps) (L : BoxLaws B) (e r m : Bytes) :
    ∃ s, envCryptoBoxSeal B e (xpub B r) m = .ok s ∧ s.length = m.length + 48 ∧
      s = B.pub e ++ ((B.sealBox (B.beforenm e (B.pub r)) (sealNonce B (B.pub e) (B.pub r)) m).2 ++
                      (B.sealBox (B.beforenm e (B.pub r)) (sealNonce B (B.pub e) (B.pub r)) m).1) ∧
      envCryptoBoxSealOpen B (xfull B r) s = .ok m :=
  Ecdh.seal_roundtrip B L e r m

/-- inputs shorter than a tag / than key + tag are errors, and NO input of any length, with any keys and nonce, panics -/
theorem short_input_errors_box (B : BoxOps) (rs sp : Key) (b nonce : Bytes) (hb : b.length < 16) :
    ∃ e, cryptoBoxOpen B rs sp b nonce = .err e := Ecdh.cryptoBoxOpen_short B rs sp b nonce hb
theorem short_input_errors_seal (B : BoxOps) (rs : Key) (c : Bytes) (hc : c.length < 48) :
    cryptoBoxSealOpen B rs c = .err .encryption := by
  unfold cryptoBoxSealOpen
  rw [if_pos hc]
theorem box_open_no_panic (B : BoxOps) (rs sp : Key) (b nonce : Bytes) : cryptoBoxOpen B rs sp b nonce ≠ .panic :=
  Ecdh.cryptoBoxOpen_ne_panic B rs sp b nonce
theorem seal_open_no_panic (B : BoxOps) (rs : Key) (c : Bytes) : cryptoBoxSealOpen B rs c ≠ .panic := by
  by_cases hc : c.length < 48
  · rw [short_input_errors_seal B rs c hc]; nofun
  · rw [cryptoBoxSealOpen_eq B rs c (Nat.le_of_not_lt hc)]
    exact cryptoBoxOpen_ne_panic _ _ _ _ _

/-- under the idealised secret box: whatever opens is exactly `tag ‖ ciphertext` of a sealing of the result under the SAME shared
    key and nonce — so nothing else (other key, other nonce, altered bytes) opens unless it is itself such a sealing -/
theorem box_open_only_sealed (B : BoxOps) (I : BoxIdeal B) (rs sp : Key) (sk : Bytes) (hs : rs.secret = some sk)
    (b nonce m : Bytes) (h : cryptoBoxOpen B rs sp b nonce = .ok m) :
    16 ≤ b.length ∧ nonce.length = 24 ∧ B.sealBox (B.beforenm sk sp.pub) nonce m = (b.drop 16, b.take 16) := by
  obtain ⟨hb, hn, hm⟩ := cryptoBoxOpen_ok_elim hs h
  exact ⟨hb, hn, I.auth _ _ _ _ _ hm⟩

/-! ### the hypotheses are satisfiable -/

example : DhLaws toyDh := toyDhLaws
example : ∀ x, (toyHash x).length = 32 := pad32_length
example : BoxLaws toyBox := toyBoxLaws
example : BoxIdeal toyBox := toyBoxIdeal
example : deriveEsBytes toyDh toyHash (Key.full toyDh .p256 [1]) (Key.public toyDh .p256 [2]) [65] [] [] false 16 =
    .ok (Spec.esKey toyHash (toyDh.dh .p256 [1] [2]) [65] [] [] 16) :=
  es_matches_rfc7518 toyDh toyHash pad32_length _ _ _ _ _ false 16 (by omega) _ (es_sender_secret toyDh .p256 [1] [2])

end Askar.C15
