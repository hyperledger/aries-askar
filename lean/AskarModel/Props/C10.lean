/-
C10 — concurrent sessions behave like some serial order; no lost updates.
ONLY property theorems and non-vacuity examples; helper lemmas in Lemmas/Session.lean (the lock protocol), Lemmas/History.lean
(schedules, the checker) and Lemmas/KeyCacheConc.lean (the key cache).
Three layers: (1) the lock-protocol model (`TxStore`) is serializable for every schedule;
(2) the history checker that judges what real threads did is sound; (3) the protocol between the `profiles` table and the
handle's key cache keeps the cache coherent in every interleaving.  What proof cannot reach —
which interleavings real threads produce, SQLite's actual locking — is sampled by the
concurrency campaign and stated as such in the evidence (partial).
-/
import AskarModel.Model.History
import AskarModel.Lemmas.History
import AskarModel.Lemmas.KeyCacheConc

namespace Askar.Store

/-- Serializability of the lock-protocol model, for every schedule of every length: the published
    state always equals the result of running, one after the other with no interleaving, the
    committed transactions in commit order (each as the block of its statements) and the
    plain-session calls as singleton transactions; an open transaction's working copy is its
    statements run on that state.  Refused calls and rolled-back transactions contribute nothing. -/
theorem model_serializable (like : Bytes → Bytes → Bool) (page : Nat) (now : Int) (st : TxStore)
    (pend : Option (Nat × List (Sess × Op))) (h : pendOk like page now st pend) (cs : List Call) :
    (TxStore.run like page now st cs).1.db = (runMulti like page now st.db (linearize pend cs)).1 :=
  Lemmas.model_serializable like page now st pend h cs

/-- the usual case: started with no open transaction -/
theorem model_serializable_closed (like : Bytes → Bytes → Bool) (page : Nat) (now : Int) (db : Db) (cs : List Call) :
    (TxStore.run like page now { db := db } cs).1.db = (runMulti like page now db (linearize none cs)).1 :=
  model_serializable like page now { db := db } none rfl cs

/-- a call that fails under contention has no effect (`blocked_call_no_effect` of C05, state part) -/
theorem failed_call_no_effect (like : Bytes → Bytes → Bool) (page : Nat) (now : Int) (st : TxStore) (j : Nat) (t : Bool) (s : Sess) (op : Op)
    (h : st.lockedByOther j = true) (hw : t = true ∨ op.isWrite = true) :
    (TxStore.step like page now st (.stmt j t s op)).1 = st :=
  Lemmas.failed_call_no_effect like page now st j t s op h hw

end Askar.Store

namespace Askar.History

/-- Soundness of the history checker: if it accepts, the observed final state is the outcome of a
    serial execution of the committed transactions in which every transaction read exactly what
    its predecessors wrote. -/
theorem checker_sound (keys : List String) (init : State) (txns : List Txn) (final : State)
    (h : accept keys init txns final = true) : Serializable keys init txns final :=
  Lemmas.checker_sound keys init txns final h

/-- Soundness of the snapshot check: an accepted snapshot is exactly the state after a prefix of
    the serial order (one consistent snapshot, never a mixture). -/
theorem snapshot_sound (keys : List String) (init : State) (txns : List Txn) (snap : State)
    (h : snapshotOk keys init txns snap = true) :
    ∃ n st, replay init (txns.take n) = some st ∧ sameOn keys st snap = true :=
  Lemmas.snapshot_sound keys init txns snap h

/-- No lost update: if every committed transaction increments `k` (read-modify-write) and the
    history replays, the final value is the initial value plus the number of commits. -/
theorem no_lost_update (k : String) (init st : State) (txns : List Txn) (v0 : Int)
    (hinc : ∀ t ∈ txns, t.Increments k) (h0 : get init k = some v0) (hr : replay init txns = some st) :
    get st k = some (v0 + txns.length) :=
  Lemmas.no_lost_update k init st txns v0 hinc h0 hr

/-- and a lost update is rejected: two transactions that both read the same value of `k` and both
    write it cannot be replayed in either order -/
theorem lost_update_rejected (k : String) (r : Int) (init : State) (t1 t2 : Txn)
    (h1 : (k, r) ∈ t1.reads) (h2 : (k, r) ∈ t2.reads)
    (w1 : ∀ st, get (t1.apply st) k = some (r + 1)) (w2 : ∀ st, get (t2.apply st) k = some (r + 1)) :
    replay init [t1, t2] = none ∧ replay init [t2, t1] = none := by
  have key : ∀ (a b : Txn), (k, r) ∈ b.reads → (∀ st, get (a.apply st) k = some (r + 1)) →
      replay init [a, b] = none := by
    intro a b hb wa
    cases hrp : replay init [a, b] with
    | none => rfl
    | some st =>
      obtain ⟨_, hrest⟩ := Lemmas.replay_cons_some hrp
      obtain ⟨hokb, _⟩ := Lemmas.replay_cons_some hrest
      have hget := Lemmas.readsOk_mem hokb hb
      rw [wa init] at hget
      have : r + 1 = r := Option.some.inj hget
      omega
  exact ⟨key t1 t2 h2 w1, key t2 t1 h1 w2⟩

/-! non-vacuity: two increments replay and are accepted; the same two with a lost update are not -/
example : accept ["k"] [("k", 0)] [⟨[("k", 0)], [("k", 1)]⟩, ⟨[("k", 1)], [("k", 2)]⟩] [("k", 2)] = true := by decide +kernel
example : accept ["k"] [("k", 0)] [⟨[("k", 0)], [("k", 1)]⟩, ⟨[("k", 0)], [("k", 1)]⟩] [("k", 1)] = false := by decide +kernel

end Askar.History

/-! ## Profile operations through the shared key cache (D35)

Third layer: the protocol between the `profiles` table and the store handle's `KeyCache`
(`resolve_profile_key`, `create_profile`, `remove_profile` of the SQLite backend), modelled at the
granularity of its atomic actions (`Model/KeyCacheConc.lean`).  With the removal guard the cache is
coherent with the table in EVERY interleaving, so that at quiescence opening a profile gives exactly what
the serial semantics gives; without it two concrete schedules leave a removed profile open for ever. -/
namespace Askar.KeyCacheConc

/-- The invariant holds in every state reachable, by ANY schedule of the protocol with the removal guard, from any
    admissible initial state (nothing in flight, cache ⊆ table, names unique):
    (a) every cache entry is a row of the table, or a remove of its name is between DELETE and evict;
    (b) every insert-to-be whose captured counter value is still current is such an entry;
    (c) names in the table are unique;  plus: one call per thread, captured counter values ≤ the counter. -/
theorem keycache_inv_guarded (s0 : St) (h0 : Init s0) (σs : List Step) : Inv (run true s0 σs).1 :=
  run_inv h0.inv σs

/-- in particular from the empty store -/
theorem keycache_inv_guarded_init (σs : List Step) : Inv (run true init σs).1 :=
  run_inv init_Init.inv σs

/-- At quiescence the cache holds only rows of the table (same name, same id, same key). -/
theorem keycache_quiescent_coherent (s0 : St) (h0 : Init s0) (σs : List Step)
    (hq : quiescent (run true s0 σs).1 = true) :
    ∀ e, e ∈ (run true s0 σs).1.cache → e ∈ (run true s0 σs).1.db :=
  (run_inv h0.inv σs).cache_sub_db hq

/-- At quiescence a profile can be opened iff it is listed, and with the id and key of its row: a removed
    profile can no longer be opened, a listed one can — what the serial semantics gives. -/
theorem open_iff_listed_at_quiescence (s0 : St) (h0 : Init s0) (σs : List Step)
    (hq : quiescent (run true s0 σs).1 = true) (p : Name) :
    (∀ pid key, openResult (run true s0 σs).1 p = .resolved p pid key ↔ (p, pid, key) ∈ (run true s0 σs).1.db) ∧
    (openResult (run true s0 σs).1 p = .notFound p ↔ ∀ pid key, (p, pid, key) ∉ (run true s0 σs).1.db) :=
  ⟨fun pid key => (run_inv h0.inv σs).open_resolved_iff hq p pid key, (run_inv h0.inv σs).open_notFound_iff hq p⟩

/-- `openResult` is what `resolve_profile_key` returns when its four steps run with nothing in between
    (for either variant of the protocol). -/
theorem openResult_is_resolve_alone (guard : Bool) (s : St) (hq : quiescent s = true) (t : Tid) (p : Name) :
    (run guard s (resolveAlone t p)).2.filterMap id = [openResult s p] := by
  obtain ⟨db, nk, cache, rem, pend⟩ := s
  have hp : pend = [] := quiescent_iff.1 hq
  subst hp
  cases hc : lookupRow cache p with
  | some v => simp [resolveAlone, run, step, getPend, setPend, erasePend, openResult, hc]
  | none =>
    cases hd : lookupRow db p with
    | some v => simp [resolveAlone, run, step, getPend, setPend, erasePend, openResult, hc, hd]
    | none => simp [resolveAlone, run, step, getPend, setPend, erasePend, openResult, hc, hd]

/-- Without the guard (defect D35) both races end, from the empty store,
    in a quiescent state whose cache holds a profile that is not in the table, and opening it succeeds:
    the create/remove race and the resolve/remove race. -/
theorem keycache_unguarded_stale :
    (let s := (run false init raceCreateRemove).1
     quiescent s = true ∧ (7, 1, 0) ∈ s.cache ∧ s.db = [] ∧ openResult s 7 = .resolved 7 1 0) ∧
    (let s := (run false init raceResolveRemove).1
     quiescent s = true ∧ (7, 1, 0) ∈ s.cache ∧ s.db = [] ∧ openResult s 7 = .resolved 7 1 0) := by
  decide +kernel

/-- Hence the coherence statement is false for the protocol without the guard. -/
theorem keycache_unguarded_incoherent :
    ¬ ∀ (σs : List Step), quiescent (run false init σs).1 = true →
        ∀ e, e ∈ (run false init σs).1.cache → e ∈ (run false init σs).1.db := by
  intro h
  obtain ⟨hq, hc, hdb, _⟩ := keycache_unguarded_stale.1
  have := h raceCreateRemove hq (7, 1, 0) hc
  rw [hdb] at this
  cases this

/-- The same two schedules under the guard: both inserts are refused. -/
theorem keycache_guarded_races :
    (run true init raceCreateRemove).1.cache = [] ∧ openResult (run true init raceCreateRemove).1 7 = .notFound 7 ∧
    (run true init raceResolveRemove).1.cache = [] ∧ openResult (run true init raceResolveRemove).1 7 = .notFound 7 := by
  decide +kernel

/-- The guard does not disable the cache: in a schedule without any remove step, a resolve or create that
    completes successfully leaves its profile cached — with the id and key it returned — in the final state. -/
theorem keycache_guarded_progress (s0 : St) (h0 : Init s0) (pre post : List Step) (σ : Step)
    (hnr : ∀ x ∈ pre ++ σ :: post, x.isRemove = false) (p : Name) (pid : Pid) (key : KeyId)
    (hret : (step true (run true s0 pre).1 σ).2 = some (.resolved p pid key) ∨
            (step true (run true s0 pre).1 σ).2 = some (.created p pid key)) :
    lookupRow (run true s0 (pre ++ σ :: post)).1.cache p = some (pid, key) := by
  have hpre := run_noRem h0.inv h0.noRem pre (fun x hx => hnr x (List.mem_append_left _ hx))
  have hi1 := run_inv h0.inv pre
  have hσ := step_progress hi1 hpre.1 σ
  have hpost := run_noRem (step_inv hi1 σ) (step_noRem hpre.1 σ (hnr σ (by simp))) post
    (fun x hx => hnr x (by simp [hx]))
  rw [run_append]
  exact hpost.2 p _ (hσ.2 p pid key hret)

/-- `open_iff_listed_at_quiescence` on the current tree, if the flag read from the source says that the guard is there. -/
theorem keycache_current (h : currentGuard = true) (s0 : St) (h0 : Init s0) (σs : List Step)
    (hq : quiescent (run currentGuard s0 σs).1 = true) (p : Name) :
    (∀ pid key, openResult (run currentGuard s0 σs).1 p = .resolved p pid key ↔
      (p, pid, key) ∈ (run currentGuard s0 σs).1.db) ∧
    (openResult (run currentGuard s0 σs).1 p = .notFound p ↔ ∀ pid key, (p, pid, key) ∉ (run currentGuard s0 σs).1.db) := by
  rw [h] at hq ⊢
  exact open_iff_listed_at_quiescence s0 h0 σs hq p

/-- Either way the verdict on the current tree is decided by the flag. -/
theorem keycache_status :
    (currentGuard = true ∧ ∀ σs, quiescent (run currentGuard init σs).1 = true →
        ∀ e, e ∈ (run currentGuard init σs).1.cache → e ∈ (run currentGuard init σs).1.db) ∨
    (currentGuard = false ∧ ¬ ∀ σs, quiescent (run currentGuard init σs).1 = true →
        ∀ e, e ∈ (run currentGuard init σs).1.cache → e ∈ (run currentGuard init σs).1.db) := by
  cases hg : currentGuard with
  | true => exact Or.inl ⟨rfl, fun σs hq => keycache_quiescent_coherent init init_Init σs hq⟩
  | false => exact Or.inr ⟨rfl, keycache_unguarded_incoherent⟩

/-! Non-vacuity. -/
/-- the hypotheses are satisfiable: the empty store and a re-opened one are admissible -/
example : Init init := init_Init
example : Init reopened := ⟨rfl, nofun, by decide +kernel⟩
/-- four threads, two creates, a remove, two resolves — the racing inserts of the removed profile are
    refused, the later ones accepted; the run ends quiescent with a non-empty, coherent cache -/
example :
    (let r := run true init busySchedule
     quiescent r.1 = true ∧ r.1.cache = [(8, 1, 1)] ∧ r.1.db = [(8, 1, 1)] ∧ r.1.removals = 1 ∧
     r.2.filterMap id = [.removed 7 true, .created 7 1 0, .resolved 7 1 0, .created 8 1 1, .resolved 8 1 1]) := by
  decide +kernel
/-- the resolve/remove race on a re-opened store, unguarded and guarded -/
example : (7, 1, 0) ∈ (run false reopened raceResolveRemoveReopened).1.cache ∧
    (run false reopened raceResolveRemoveReopened).1.db = [] ∧
    (run true reopened raceResolveRemoveReopened).1.cache = [] := by decide +kernel
/-- what the stale entry is worth: ids are reused (no AUTOINCREMENT), so after the race the next profile
    created (8) gets the id of the removed one (7), and 7 still opens — onto the rows of 8 -/
example :
    (let s := (run false init (raceCreateRemove ++ thenCreateOther)).1
     quiescent s = true ∧ s.db = [(8, 1, 1)] ∧ openResult s 7 = .resolved 7 1 0 ∧ openResult s 8 = .resolved 8 1 1) := by
  decide +kernel
/-- the progress theorem's hypotheses are satisfiable: a create and a resolve, no remove -/
example : (step true (run true init [.createStart 0 7, .createInsert 0]).1 (.createCache 0)).2 = some (.created 7 1 0) := by
  decide +kernel

end Askar.KeyCacheConc
