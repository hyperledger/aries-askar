/-
SqlSem — the Store model's statement functions ARE the semantics of the statements of the current source.
Property theorems and non-vacuity examples; definitions are in Model/SqlExec.lean, lemmas in Lemmas/SqlExec.lean.

Chain of evidence:  sqlite/mod.rs, postgres/mod.rs  --tools/extract.py, every run-->  `Sql.Generated.*`, `Sql.GeneratedPg.*`
  --`shapeOk … = true` by `decide` (here and in Props/C01, C07, C17)-->  `Expected.*` / `ExpectedPg.*`
  --the reflection theorems below, for EVERY statement passing the check-->  `Store.doFetch`, `doCount`, `selectRows`,
  `doRemove`, `doRemoveAll`, `doInsert`, `doReplace`.
All theorems hold for every database, every session, every interpretation `other` of the atoms the extractor does not
recognise and every `now`.  SQLite and Postgres are the two instances `Backend.sqlite` / `Backend.postgres` of one theorem;
they differ only in the expiry conjunct (`Store.live` / `livePg`).
-/
import AskarModel.Lemmas.SqlExec
import AskarModel.Generated.Stmts
import AskarModel.Generated.StmtsPg

namespace Askar.Sql
open Askar.Store (Item Db Sess Kind Err Entry)
open Askar.Wql (Tag)

/-! ### (a) a WHERE clause is a SET of conjuncts -/

/-- order and multiplicity of the conjuncts are irrelevant: `sameSet` (what `shapeOk` compares) preserves the meaning -/
theorem matches_congr (other : String → Params → Item → Bool) (now : Int) (p : Params) (a b : Stmt)
    (h : sameSet a.whereAtoms b.whereAtoms = true) : Stmt.matches other now p a = Stmt.matches other now p b :=
  Lemmas.matches_congr other now p a b h

/-! ### (b) reflection: a statement whose shape passes the check means what the Store function does.
    Read statements and the insert are stated once for both backends (`b : Backend`); `doFetchB .sqlite`, `doCountB .sqlite`,
    `selectRowsB .sqlite` are `Store.doFetch`, `Store.doCount`, `Store.selectRows` (`store_read_functions_are_sqlite_instance`). -/

theorem store_read_functions_are_sqlite_instance :
    doFetchB .sqlite = Store.doFetch ∧ doCountB .sqlite = Store.doCount ∧ selectRowsB .sqlite = Store.selectRows :=
  ⟨rfl, rfl, rfl⟩

/-- FETCH: the rows selected under the identity binding are the live rows with that identity; the first one, as an entry,
    is what the model's fetch returns (what is bound to ?5, ?6 is irrelevant). -/
theorem fetch_reflects (b : Backend) (other : String → Params → Item → Bool) (now : Int) (s : Stmt)
    (h : shapeOk s b.fetchQuery = true)
    (db : Db) (sess : Sess) (kind : Kind) (cat name : String) (value : Bytes) (expiry : Option Int) :
    execSelect other now s (identParams sess kind cat name value expiry) noExtra db
        = (db.items.filter fun it => it.sameIdent sess.pid sess.key kind cat name && b.live now it) ∧
    (execSelect other now s (identParams sess kind cat name value expiry) noExtra db).head?.map toEntry
        = doFetchB b db now sess kind cat name :=
  ⟨Lemmas.select_ident b other now _ s sess.pid sess.key kind cat name rfl rfl rfl rfl (Lemmas.where_of_fetch h) db,
   Lemmas.fetch_reflect b other now s (Lemmas.where_of_fetch h) db sess kind cat name value expiry⟩

/-- COUNT (with the compiled tag filter appended): the number of rows selected is the model's count -/
theorem count_reflects (b : Backend) (other : String → Params → Item → Bool) (now : Int) (s : Stmt)
    (h : shapeOk s b.countQuery = true)
    (like : Bytes → Bytes → Bool) (db : Db) (sess : Sess) (kind : Option Kind) (cat : Option String) (f : Option (Wql.Query String)) :
    (execSelect other now s (scopeParams sess kind cat) (Store.matchFilter like f) db).length
      = doCountB b like db now sess kind cat f := by
  rw [Lemmas.select_scope b other now _ s _ sess.pid sess.key kind cat rfl rfl rfl (Lemmas.where_of_count h)]
  rfl

/-- SCAN: the rows selected are the filter inside `selectRows`; sorted and windowed they are `selectRows` -/
theorem scan_reflects (b : Backend) (other : String → Params → Item → Bool) (now : Int) (s : Stmt)
    (h : shapeOk s b.scanQuery = true)
    (like : Bytes → Bytes → Bool) (db : Db) (sess : Sess) (kind : Option Kind) (cat : Option String) (f : Option (Wql.Query String))
    (off lim : Option Int) (desc : Bool) :
    execSelect other now s (scopeParams sess kind cat) (Store.matchFilter like f) db
        = (db.items.filter fun it => it.inScope sess.pid sess.key kind cat && b.live now it && Store.matchFilter like f it) ∧
    (let rows := Store.sortById (execSelect other now s (scopeParams sess kind cat) (Store.matchFilter like f) db)
     Store.window off lim (if desc then rows.reverse else rows))
        = selectRowsB b like db now sess.pid sess.key kind cat f off lim desc := by
  rw [Lemmas.select_scope b other now _ s _ sess.pid sess.key kind cat rfl rfl rfl (Lemmas.where_of_scan h)]
  exact ⟨rfl, rfl⟩

/-- DELETE (shape shared by both backends): `perform_remove` around the statement is `Store.doRemove`
    (NotFound iff 0 rows affected) -/
theorem delete_reflects (other : String → Params → Item → Bool) (now : Int) (s : Stmt)
    (h : shapeOk s Expected.deleteQuery = true)
    (db : Db) (sess : Sess) (kind : Kind) (cat name : String) (value : Bytes) (expiry : Option Int) :
    removeOutcome (execDelete other now s (identParams sess kind cat name value expiry) noExtra db)
      = Store.doRemove db sess kind cat name :=
  Lemmas.delete_reflect other now s (Lemmas.shapeOk_where h) db sess kind cat name value expiry

/-- DELETE ALL (with the compiled tag filter appended): new database and row count are `Store.doRemoveAll` -/
theorem delete_all_reflects (other : String → Params → Item → Bool) (now : Int) (s : Stmt)
    (h : shapeOk s Expected.deleteAllQuery = true)
    (like : Bytes → Bytes → Bool) (db : Db) (sess : Sess) (kind : Option Kind) (cat : Option String) (f : Option (Wql.Query String)) :
    execDelete other now s (scopeParams sess kind cat) (Store.matchFilter like f) db
      = Store.doRemoveAll like db sess kind cat f :=
  Lemmas.delete_all_reflect other now s (Lemmas.shapeOk_where h) like db sess kind cat f

/-- INSERT (OR IGNORE / ON CONFLICT DO NOTHING): `perform_insert` (new row) around the statement is `Store.doInsert`:
    the expiry is computed first, Duplicate iff 0 rows affected.  The tag list is the one the tag statements of the same
    call store for the new id (`tags.getD []`). -/
theorem insert_reflects (b : Backend) (s : Stmt) (h : shapeOk s b.insertQuery = true)
    (db : Db) (now : Int) (sess : Sess) (kind : Kind) (cat name : String) (value : Bytes) (tags : Option (List Tag))
    (expiryMs : Option Int) :
    (match expiryBind now expiryMs with
     | .error e => .error e
     | .ok exp => insertOutcome (execInsert s (identParams sess kind cat name value exp) (tags.getD []) db))
      = Store.doInsert db now sess kind cat name value tags expiryMs := by
  simp only [Lemmas.insert_core s (Lemmas.cols_of_insert h).1 (Lemmas.cols_of_insert h).2]
  rfl

/-- … and the statement itself: 0 rows and an unchanged database iff a row with the same stored identity exists -/
theorem insert_exec_explicit (b : Backend) (s : Stmt) (h : shapeOk s b.insertQuery = true)
    (db : Db) (sess : Sess) (kind : Kind) (cat name : String) (value : Bytes) (exp : Option Int) (tags : List Tag) :
    execInsert s (identParams sess kind cat name value exp) tags db
      = some (if db.items.any (·.sameIdent sess.pid sess.key kind cat name) then (db, 0)
              else ({ db with items := db.items ++
                        [{ id := Store.nextId (db.items.map (·.id)), pid := sess.pid, key := sess.key, kind := kind, cat := cat,
                           name := name, value := value, tags := tags, expiry := exp }] }, 1)) :=
  Lemmas.insert_exec s (Lemmas.cols_of_insert h).1 (Lemmas.cols_of_insert h).2 db sess kind cat name value exp tags

/-- UPDATE … RETURNING id (shape shared by both backends): `perform_insert` (existing row) around the statement is
    `Store.doReplace`: NotFound iff no id is returned. -/
theorem update_reflects (other : String → Params → Item → Bool) (now : Int) (s : Stmt)
    (h : shapeOk s Expected.updateQuery = true)
    (db : Db) (sess : Sess) (kind : Kind) (cat name : String) (value : Bytes) (tags : Option (List Tag)) (expiryMs : Option Int) :
    (match expiryBind now expiryMs with
     | .error e => .error e
     | .ok exp => updateOutcome (execUpdate other now s (identParams sess kind cat name value exp) noExtra (tags.getD []) db))
      = Store.doReplace db now sess kind cat name value tags expiryMs := by
  simp only [Lemmas.update_core other now s (Lemmas.shapeOk_cols h) (Lemmas.shapeOk_where h)]
  rfl

/-- … and the statement itself: the rows written and the ids returned -/
theorem update_exec_explicit (other : String → Params → Item → Bool) (now : Int) (s : Stmt)
    (h : shapeOk s Expected.updateQuery = true)
    (db : Db) (sess : Sess) (kind : Kind) (cat name : String) (value : Bytes) (exp : Option Int) (tags : List Tag) :
    execUpdate other now s (identParams sess kind cat name value exp) noExtra tags db
      = some ({ db with items := db.items.map fun it =>
                  if it.sameIdent sess.pid sess.key kind cat name then { it with value := value, tags := tags, expiry := exp } else it },
              (db.items.filter fun it => it.sameIdent sess.pid sess.key kind cat name).map (·.id)) :=
  Lemmas.update_exec other now s (Lemmas.shapeOk_cols h) (Lemmas.shapeOk_where h) db sess kind cat name value exp tags

/-- "up to the tags field": the tag-list argument of the two writing executors reaches nothing but `Item.tags` -/
theorem write_executors_use_tags_for_tags_only (other : String → Params → Item → Bool) (now : Int) (s : Stmt) (p : Params)
    (extra : Item → Bool) (t1 t2 : List Tag) (db : Db) :
    (execInsert s p t1 db).map (fun r => (r.1.items.map clearTags, r.1.profiles, r.2))
      = (execInsert s p t2 db).map (fun r => (r.1.items.map clearTags, r.1.profiles, r.2)) ∧
    (execUpdate other now s p extra t1 db).map (fun r => (r.1.items.map clearTags, r.1.profiles, r.2))
      = (execUpdate other now s p extra t2 db).map (fun r => (r.1.items.map clearTags, r.1.profiles, r.2)) :=
  ⟨Lemmas.execInsert_tags_only s p t1 t2 db, Lemmas.execUpdate_tags_only other now s p extra t1 t2 db⟩

/-! ### (c) the CURRENT source, SQLite: the seven `items` statements of sqlite/mod.rs (re-extracted on every run) -/

theorem store_model_is_semantics_of_source_statements
    (other : String → Params → Item → Bool) (like : Bytes → Bytes → Bool) (now : Int) (db : Db) (sess : Sess) :
    -- FETCH_QUERY
    (∀ kind cat name value expiry,
      (execSelect other now Generated.fetchQuery (identParams sess kind cat name value expiry) noExtra db).head?.map toEntry
        = Store.doFetch db now sess kind cat name) ∧
    -- COUNT_QUERY
    (∀ kind cat f,
      (execSelect other now Generated.countQuery (scopeParams sess kind cat) (Store.matchFilter like f) db).length
        = Store.doCount like db now sess kind cat f) ∧
    -- SCAN_QUERY
    (∀ kind cat f off lim desc,
      (let rows := Store.sortById (execSelect other now Generated.scanQuery (scopeParams sess kind cat) (Store.matchFilter like f) db)
       Store.window off lim (if desc then rows.reverse else rows))
        = Store.selectRows like db now sess.pid sess.key kind cat f off lim desc) ∧
    -- DELETE_QUERY
    (∀ kind cat name value expiry,
      removeOutcome (execDelete other now Generated.deleteQuery (identParams sess kind cat name value expiry) noExtra db)
        = Store.doRemove db sess kind cat name) ∧
    -- DELETE_ALL_QUERY
    (∀ kind cat f,
      execDelete other now Generated.deleteAllQuery (scopeParams sess kind cat) (Store.matchFilter like f) db
        = Store.doRemoveAll like db sess kind cat f) ∧
    -- INSERT_QUERY
    (∀ kind cat name value tags expiryMs,
      (match expiryBind now expiryMs with
       | .error e => .error e
       | .ok exp => insertOutcome (execInsert Generated.insertQuery (identParams sess kind cat name value exp) (Option.getD tags []) db))
        = Store.doInsert db now sess kind cat name value tags expiryMs) ∧
    -- UPDATE_QUERY
    (∀ kind cat name value tags expiryMs,
      (match expiryBind now expiryMs with
       | .error e => .error e
       | .ok exp => updateOutcome (execUpdate other now Generated.updateQuery (identParams sess kind cat name value exp) noExtra (Option.getD tags []) db))
        = Store.doReplace db now sess kind cat name value tags expiryMs) :=
  ⟨fun kind cat name value expiry =>
      (fetch_reflects .sqlite other now Generated.fetchQuery (by decide) db sess kind cat name value expiry).2,
   fun kind cat f => count_reflects .sqlite other now Generated.countQuery (by decide) like db sess kind cat f,
   fun kind cat f off lim desc =>
      (scan_reflects .sqlite other now Generated.scanQuery (by decide) like db sess kind cat f off lim desc).2,
   fun kind cat name value expiry => delete_reflects other now Generated.deleteQuery (by decide) db sess kind cat name value expiry,
   fun kind cat f => delete_all_reflects other now Generated.deleteAllQuery (by decide) like db sess kind cat f,
   fun kind cat name value tags expiryMs =>
      insert_reflects .sqlite Generated.insertQuery (by decide) db now sess kind cat name value tags expiryMs,
   fun kind cat name value tags expiryMs =>
      update_reflects other now Generated.updateQuery (by decide) db sess kind cat name value tags expiryMs⟩

/-! ### (d) Postgres: the same functions with `livePg` for `Store.live`; the eight `items` statements of postgres/mod.rs -/

/-- the row-locking fetch selects the same rows as the plain fetch (for ANY two statements with these shapes) -/
theorem fetch_for_update_same_rows (other : String → Params → Item → Bool) (now : Int) (s s' : Stmt)
    (h : shapeOk s ExpectedPg.fetchQueryUpdate = true) (h' : shapeOk s' ExpectedPg.fetchQuery = true) (p : Params) (extra : Item → Bool) (db : Db) :
    execSelect other now s p extra db = execSelect other now s' p extra db :=
  Lemmas.execSelect_congr other now s s'
    (Lemmas.sameSet_trans (Lemmas.where_of_fetchUpdate h) (Lemmas.sameSet_symm (Lemmas.where_of_fetch (b := .postgres) h')))
    p extra db

theorem pg_model_is_semantics_of_source_statements
    (other : String → Params → Item → Bool) (like : Bytes → Bytes → Bool) (now : Int) (db : Db) (sess : Sess) :
    (∀ kind cat name value expiry,
      (execSelect other now GeneratedPg.fetchQuery (identParams sess kind cat name value expiry) noExtra db).head?.map toEntry
        = doFetchB .postgres db now sess kind cat name) ∧
    (∀ kind cat name value expiry,
      (execSelect other now GeneratedPg.fetchQueryUpdate (identParams sess kind cat name value expiry) noExtra db).head?.map toEntry
        = doFetchB .postgres db now sess kind cat name) ∧
    (∀ kind cat f,
      (execSelect other now GeneratedPg.countQuery (scopeParams sess kind cat) (Store.matchFilter like f) db).length
        = doCountB .postgres like db now sess kind cat f) ∧
    (∀ kind cat f off lim desc,
      (let rows := Store.sortById (execSelect other now GeneratedPg.scanQuery (scopeParams sess kind cat) (Store.matchFilter like f) db)
       Store.window off lim (if desc then rows.reverse else rows))
        = selectRowsB .postgres like db now sess.pid sess.key kind cat f off lim desc) ∧
    (∀ kind cat name value expiry,
      removeOutcome (execDelete other now GeneratedPg.deleteQuery (identParams sess kind cat name value expiry) noExtra db)
        = Store.doRemove db sess kind cat name) ∧
    (∀ kind cat f,
      execDelete other now GeneratedPg.deleteAllQuery (scopeParams sess kind cat) (Store.matchFilter like f) db
        = Store.doRemoveAll like db sess kind cat f) ∧
    (∀ kind cat name value tags expiryMs,
      (match expiryBind now expiryMs with
       | .error e => .error e
       | .ok exp => insertOutcome (execInsert GeneratedPg.insertQuery (identParams sess kind cat name value exp) (Option.getD tags []) db))
        = Store.doInsert db now sess kind cat name value tags expiryMs) ∧
    (∀ kind cat name value tags expiryMs,
      (match expiryBind now expiryMs with
       | .error e => .error e
       | .ok exp => updateOutcome (execUpdate other now GeneratedPg.updateQuery (identParams sess kind cat name value exp) noExtra (Option.getD tags []) db))
        = Store.doReplace db now sess kind cat name value tags expiryMs) :=
  ⟨fun kind cat name value expiry =>
      (fetch_reflects .postgres other now GeneratedPg.fetchQuery (by decide) db sess kind cat name value expiry).2,
   fun kind cat name value expiry =>
      Lemmas.fetch_reflect .postgres other now GeneratedPg.fetchQueryUpdate
        (Lemmas.where_of_fetchUpdate (by decide)) db sess kind cat name value expiry,
   fun kind cat f => count_reflects .postgres other now GeneratedPg.countQuery (by decide) like db sess kind cat f,
   fun kind cat f off lim desc =>
      (scan_reflects .postgres other now GeneratedPg.scanQuery (by decide) like db sess kind cat f off lim desc).2,
   fun kind cat name value expiry => delete_reflects other now GeneratedPg.deleteQuery (by decide) db sess kind cat name value expiry,
   fun kind cat f => delete_all_reflects other now GeneratedPg.deleteAllQuery (by decide) like db sess kind cat f,
   fun kind cat name value tags expiryMs =>
      insert_reflects .postgres GeneratedPg.insertQuery (by decide) db now sess kind cat name value tags expiryMs,
   fun kind cat name value tags expiryMs =>
      update_reflects other now GeneratedPg.updateQuery (by decide) db sess kind cat name value tags expiryMs⟩

/-- Where the two backends' expiry conjuncts agree: on a row without expiry, and on a row whose expiry is a whole number
    of seconds within years 0000–9999 — for EVERY `now` (it need not be a whole second). -/
theorem pg_and_sqlite_agree_within_range (now : Int) (it : Item)
    (h : ∀ e, it.expiry = some e → e % 1000 = 0 ∧ -62167219200 ≤ e / 1000 ∧ e / 1000 ≤ Store.maxDatetimeSec) :
    livePg now it = Store.live now it := by
  rw [Lemmas.livePg_eq_live_iff]
  cases hE : it.expiry with
  | none => trivial
  | some e =>
    have := h e hE
    simp only [Store.maxDatetimeSec] at this ⊢
    omega

/-- EXACTLY where they agree: the row has no expiry, or is expired for both, or is live for SQLite
    (a later second than `now`'s, within years 0000–9999). -/
theorem pg_and_sqlite_agree_iff (now : Int) (it : Item) :
    livePg now it = Store.live now it ↔
      match it.expiry with
      | none => True
      | some e => e ≤ now ∨ (e / 1000 > now / 1000 ∧ e / 1000 ≤ Store.maxDatetimeSec ∧ -62167219200 ≤ e / 1000) :=
  Lemmas.livePg_eq_live_iff now it

/-- the difference is one-sided: whatever SQLite shows, Postgres shows -/
theorem sqlite_live_implies_pg_live (now : Int) (it : Item) (h : Store.live now it = true) : livePg now it = true := by
  unfold livePg; unfold Store.live at h
  cases hE : it.expiry with
  | none => rfl
  | some e =>
    simp only [hE, Bool.and_eq_true, decide_eq_true_eq] at h ⊢
    omega

/-- witnesses of a difference: an expiry later within the current second (SQLite truncates to seconds), and an expiry in
    year 10000 (SQLite's DATETIME yields NULL: known finding D13) — live for Postgres, hidden by SQLite -/
theorem pg_and_sqlite_differ_witnesses :
    (livePg 1000 { (default : Item) with expiry := some 1500 } = true ∧
      Store.live 1000 { (default : Item) with expiry := some 1500 } = false) ∧
    (livePg 0 { (default : Item) with expiry := some 253402300800000 } = true ∧
      Store.live 0 { (default : Item) with expiry := some 253402300800000 } = false) := by decide +kernel

/-! ### (e) generic isolation (C07): ANY statement with the conjunct `profile_id = ?1`, whatever other conjuncts
    (recognised or not) and whatever appended filter it has -/

/-- SELECT returns rows of the bound profile only -/
theorem select_isolated (other : String → Params → Item → Bool) (now : Int) (p : Params) (s : Stmt) (extra : Item → Bool)
    (pid : Nat) (hs : s.profileScoped = true) (hp : p 1 = .int pid) (db : Db) :
    ∀ it ∈ execSelect other now s p extra db, it.pid = pid :=
  Lemmas.select_isolated other now p s extra pid hs hp db

/-- DELETE removes rows of the bound profile only: every row that disappears has that profile id, the rows of all other
    profiles are still there, unchanged and in order, the profiles table is untouched, and `rows_affected` is bounded by
    the bound profile's row count -/
theorem delete_isolated (other : String → Params → Item → Bool) (now : Int) (p : Params) (s : Stmt) (extra : Item → Bool)
    (pid : Nat) (hs : s.profileScoped = true) (hp : p 1 = .int pid) (db : Db) :
    (∀ it ∈ db.items, it ∉ (execDelete other now s p extra db).1.items → it.pid = pid) ∧
    (execDelete other now s p extra db).1.items.filter (·.pid != pid) = db.items.filter (·.pid != pid) ∧
    (execDelete other now s p extra db).1.profiles = db.profiles ∧
    (execDelete other now s p extra db).2 ≤ (db.items.filter (·.pid == pid)).length :=
  Lemmas.delete_isolated other now p s extra pid hs hp db

/-- UPDATE changes rows of the bound profile only (the table is mapped by a function that is the identity on rows of other
    profiles and never changes a row's id or profile id); the ids returned are ids of rows of the bound profile -/
theorem update_isolated (other : String → Params → Item → Bool) (now : Int) (p : Params) (s : Stmt) (extra : Item → Bool)
    (pid : Nat) (hs : s.profileScoped = true) (hp : p 1 = .int pid) (tags : List Tag) (db db' : Db) (ids : List Nat)
    (h : execUpdate other now s p extra tags db = some (db', ids)) :
    (∃ g : Item → Item, db'.items = db.items.map g ∧ (∀ it, it.pid ≠ pid → g it = it) ∧
        (∀ it, (g it).id = it.id ∧ (g it).pid = it.pid)) ∧
    db'.items.filter (·.pid != pid) = db.items.filter (·.pid != pid) ∧
    db'.profiles = db.profiles ∧
    (∀ id ∈ ids, ∃ it ∈ db.items, it.id = id ∧ it.pid = pid) :=
  Lemmas.update_isolated other now p s extra pid hs hp tags db db' ids h

/-- INSERT (any statement whose column list binds `profile_id` to ?1) writes into the bound profile only and leaves every
    existing row where it is -/
theorem insert_isolated (s : Stmt) (p : Params) (pid : Nat) (hs : s.cols.lookup "profile_id" = some 1) (hp : p 1 = .int pid)
    (tags : List Tag) (db db' : Db) (n : Nat) (h : execInsert s p tags db = some (db', n)) :
    db'.profiles = db.profiles ∧ ∃ rows, db'.items = db.items ++ rows ∧ rows.length = n ∧ ∀ r ∈ rows, r.pid = pid :=
  Lemmas.insert_isolated s p pid hs hp tags db db' n h

/-- the CURRENT source, both backends: every select / delete / update statement on `items` carries the conjunct, every
    insert binds the column to ?1 — so the four theorems above apply to each of them -/
theorem source_statements_profile_scoped :
    (∀ s ∈ [Generated.countQuery, Generated.scanQuery, Generated.fetchQuery, Generated.deleteQuery, Generated.deleteAllQuery,
            Generated.updateQuery,
            GeneratedPg.countQuery, GeneratedPg.scanQuery, GeneratedPg.fetchQuery, GeneratedPg.fetchQueryUpdate,
            GeneratedPg.deleteQuery, GeneratedPg.deleteAllQuery, GeneratedPg.updateQuery], s.profileScoped = true) ∧
    (∀ s ∈ [Generated.insertQuery, GeneratedPg.insertQuery], s.cols.lookup "profile_id" = some 1) := by decide +kernel

/-- … spelled out: executed under any binding with ?1 = the session's profile id, none of them reads, deletes or changes a
    row of another profile -/
theorem source_statements_isolated (other : String → Params → Item → Bool) (now : Int) (p : Params) (extra : Item → Bool)
    (pid : Nat) (hp : p 1 = .int pid) (db : Db) :
    ∀ s ∈ [Generated.countQuery, Generated.scanQuery, Generated.fetchQuery, Generated.deleteQuery, Generated.deleteAllQuery,
           Generated.updateQuery,
           GeneratedPg.countQuery, GeneratedPg.scanQuery, GeneratedPg.fetchQuery, GeneratedPg.fetchQueryUpdate,
           GeneratedPg.deleteQuery, GeneratedPg.deleteAllQuery, GeneratedPg.updateQuery],
      (∀ it ∈ execSelect other now s p extra db, it.pid = pid) ∧
      (execDelete other now s p extra db).1.items.filter (·.pid != pid) = db.items.filter (·.pid != pid) ∧
      (∀ tags db' ids, execUpdate other now s p extra tags db = some (db', ids) →
          db'.items.filter (·.pid != pid) = db.items.filter (·.pid != pid)) :=
  fun s hs =>
    have h := source_statements_profile_scoped.1 s hs
    ⟨select_isolated other now p s extra pid h hp db, (delete_isolated other now p s extra pid h hp db).2.1,
     fun tags db' ids hu => (update_isolated other now p s extra pid h hp tags db db' ids hu).2.1⟩

/-! ### (f) generic expiry hiding (C17) -/

/-- any statement with SQLite's expiry conjunct returns live rows only -/
theorem select_hides_expired (other : String → Params → Item → Bool) (now : Int) (p : Params) (s : Stmt) (extra : Item → Bool)
    (hs : s.hidesExpired = true) (db : Db) : ∀ it ∈ execSelect other now s p extra db, Store.live now it = true :=
  Lemmas.select_atom other now p s extra .expiryLive hs db

/-- any statement with Postgres' expiry conjunct returns rows live in Postgres' sense only -/
theorem select_hides_expired_pg (other : String → Params → Item → Bool) (now : Int) (p : Params) (s : Stmt) (extra : Item → Bool)
    (hs : s.hidesExpiredPg = true) (db : Db) : ∀ it ∈ execSelect other now s p extra db, livePg now it = true :=
  Lemmas.select_atom other now p s extra .expiryLivePg hs db

/-- the CURRENT source: the read statements of both backends -/
theorem source_reads_hide_expired (other : String → Params → Item → Bool) (now : Int) (p : Params) (extra : Item → Bool) (db : Db) :
    (∀ s ∈ [Generated.countQuery, Generated.scanQuery, Generated.fetchQuery],
        ∀ it ∈ execSelect other now s p extra db, Store.live now it = true) ∧
    (∀ s ∈ [GeneratedPg.countQuery, GeneratedPg.scanQuery, GeneratedPg.fetchQuery, GeneratedPg.fetchQueryUpdate],
        ∀ it ∈ execSelect other now s p extra db, livePg now it = true) :=
  ⟨fun s hs => select_hides_expired other now p s extra
      ((by decide : ∀ s ∈ [Generated.countQuery, Generated.scanQuery, Generated.fetchQuery], s.hidesExpired = true) s hs) db,
   fun s hs => select_hides_expired_pg other now p s extra
      ((by decide : ∀ s ∈ [GeneratedPg.countQuery, GeneratedPg.scanQuery, GeneratedPg.fetchQuery, GeneratedPg.fetchQueryUpdate],
          s.hidesExpiredPg = true) s hs) db⟩

/-- known finding D8 as a fact about the source text: no writing statement of either backend has an expiry conjunct … -/
theorem source_writes_have_no_expiry_atom :
    ∀ s ∈ [Generated.deleteQuery, Generated.deleteAllQuery, Generated.updateQuery,
           GeneratedPg.deleteQuery, GeneratedPg.deleteAllQuery, GeneratedPg.updateQuery],
      s.hidesExpired = false ∧ s.hidesExpiredPg = false := by decide +kernel

/-- … and as behaviour: the source's DELETE_QUERY removes (and counts) a row that its FETCH_QUERY does not return -/
theorem delete_removes_expired_row_witness :
    (execSelect (fun _ _ _ => false) 5000 Generated.fetchQuery (identParams ⟨1, 10⟩ 2 "c" "old" [] none) noExtra demoDb).map (·.id) = [] ∧
    ((execDelete (fun _ _ _ => false) 5000 Generated.deleteQuery (identParams ⟨1, 10⟩ 2 "c" "old" [] none) noExtra demoDb).1.items.map (·.id) = [1, 3] ∧
     (execDelete (fun _ _ _ => false) 5000 Generated.deleteQuery (identParams ⟨1, 10⟩ 2 "c" "old" [] none) noExtra demoDb).2 = 1) := by decide +kernel

/-! ### (g) non-vacuity: the executors run -/

/-- scan of profile 1 under its key: the live row only; count agrees -/
example : (execSelect (fun _ _ _ => false) 5000 Generated.scanQuery (scopeParams ⟨1, 10⟩ none none) noExtra demoDb).map (·.id) = [1] := by decide +kernel
example : (execSelect (fun _ _ _ => false) 5000 Generated.countQuery (scopeParams ⟨1, 10⟩ (some 2) (some "c")) noExtra demoDb).length = 1 := by decide +kernel
/-- before the expiry both rows are there; Postgres' statement agrees -/
example : (execSelect (fun _ _ _ => false) 500 Generated.scanQuery (scopeParams ⟨1, 10⟩ none none) noExtra demoDb).map (·.id) = [1, 2] := by decide +kernel
example : (execSelect (fun _ _ _ => false) 500 GeneratedPg.scanQuery (scopeParams ⟨1, 10⟩ none none) noExtra demoDb).map (·.id) = [1, 2] := by decide +kernel
/-- within the expiry's second the backends differ (1000 ms vs now = 999 ms … 1000 ms) -/
example : (execSelect (fun _ _ _ => false) 999 GeneratedPg.scanQuery (scopeParams ⟨1, 10⟩ none none) noExtra demoDb).map (·.id) = [1, 2] ∧
          (execSelect (fun _ _ _ => false) 999 Generated.scanQuery (scopeParams ⟨1, 10⟩ none none) noExtra demoDb).map (·.id) = [1, 2] ∧
          (execSelect (fun _ _ _ => false) 1000 GeneratedPg.scanQuery (scopeParams ⟨1, 10⟩ none none) noExtra demoDb).map (·.id) = [1] := by decide +kernel
/-- a category filter under a foreign key matches nothing (searchable encryption is keyed) -/
example : (execSelect (fun _ _ _ => false) 500 Generated.scanQuery (scopeParams ⟨1, 99⟩ none (some "c")) noExtra demoDb).map (·.id) = [] := by decide +kernel
/-- fetch in profile 2 sees profile 2's row, not profile 1's of the same name -/
example : (execSelect (fun _ _ _ => false) 500 Generated.fetchQuery (identParams ⟨2, 20⟩ 2 "c" "a" [] none) noExtra demoDb).map (·.value) = [[3]] := by decide +kernel
/-- remove_all in profile 1 deletes both of its rows — the expired one too (D8) — and leaves profile 2 alone -/
example : (execDelete (fun _ _ _ => false) 5000 Generated.deleteAllQuery (scopeParams ⟨1, 10⟩ none none) noExtra demoDb).1.items.map (·.id) = [3] ∧
          (execDelete (fun _ _ _ => false) 5000 Generated.deleteAllQuery (scopeParams ⟨1, 10⟩ none none) noExtra demoDb).2 = 2 := by decide +kernel
/-- insert: a duplicate reports 0 rows, a new name gets id 4 -/
example : (execInsert Generated.insertQuery (identParams ⟨1, 10⟩ 2 "c" "a" [9] none) [] demoDb).map (fun r => (r.1.items.map (·.id), r.2))
            = some ([1, 2, 3], 0) := by decide +kernel
example : (execInsert Generated.insertQuery (identParams ⟨1, 10⟩ 2 "c" "b" [9] (some 7000)) [] demoDb).map
            (fun r => (r.1.items.map (fun it => (it.id, it.pid, it.expiry)), r.2))
            = some ([(1, 1, none), (2, 1, some 1000), (3, 2, none), (4, 1, some 7000)], 1) := by decide +kernel
/-- the same plaintext identity in another profile is no duplicate -/
example : (execInsert GeneratedPg.insertQuery (identParams ⟨2, 20⟩ 2 "c" "old" [9] none) [] demoDb).map (·.2) = some 1 := by decide +kernel
/-- update of the expired row succeeds and revives it (D8); profile 2's row is untouched; a missing row returns no id -/
example : (execUpdate (fun _ _ _ => false) 5000 Generated.updateQuery (identParams ⟨1, 10⟩ 2 "c" "old" [7] none) noExtra [] demoDb).map
            (fun r => (r.1.items.map (fun it => (it.id, it.value, it.expiry)), r.2))
            = some ([(1, [1], none), (2, [7], none), (3, [3], none)], [2]) := by decide +kernel
example : (execUpdate (fun _ _ _ => false) 5000 Generated.updateQuery (identParams ⟨1, 10⟩ 2 "c" "zz" [7] none) noExtra [] demoDb).map (·.2)
            = some [] := by decide +kernel
/-- an uninterpreted conjunct is really consulted: interpreted as false it empties the result -/
example : (execSelect (fun _ _ _ => false) 500 { Generated.scanQuery with whereAtoms := .other "x" :: Generated.scanQuery.whereAtoms }
            (scopeParams ⟨1, 10⟩ none none) noExtra demoDb).map (·.id) = [] := by decide +kernel
/-- the hypotheses of the generic theorems are satisfiable and falsifiable -/
example : Generated.fetchQuery.profileScoped = true ∧ ({ Generated.fetchQuery with whereAtoms := [.expiryLive] } : Stmt).profileScoped = false := by decide +kernel
/-- `shapeOk` is not trivially true: the fetch statement without its expiry conjunct fails the check -/
example : shapeOk { Generated.fetchQuery with whereAtoms := Expected.ident } Expected.fetchQuery = false := by decide +kernel

end Askar.Sql
