/-
C20 — secret memory is wiped before release and never printed.
Property theorems, refutations with witnesses, and non-vacuity examples; the lemmas are in Lemmas/SecretBuf.lean and
Lemmas/SecretFmt.lean.

Part A (Model/SecretBuf.lean): `SecretBytes` over an explicit heap with an event log.  All theorems quantify over EVERY
operation sequence (any number of buffers, any sizes, any interleaving of constructors, append / insert / splice / remove /
resize / reserve / shrink / clear / zeroize / clone / drop / into_vec / into_boxed_slice) and over every pair of growth laws that
return at least the requested capacity (`Params.Sound`); the laws of the source, `Params.std`, are one instance (`std_sound`).

Part B (Model/SecretFmt.lean): `Debug` output as a function of the public part, parametrised by `FmtCfg` — six flags read from
the source on every run (Generated/Flags.lean) saying which `Debug` impls are the hand-written redacting ones.  Every theorem
below is true WHATEVER the flags are.  The full-strength statement `FmtNonInterfering cfg` is false for `FmtCfg.pinned` (D9
`Options`, D16 BLS keys, D17 `Argon2` / `BlsKeyGen`, and two further types: `PostgresStoreOptions`,
`JwkParts`): `fmt_noninterfering_refuted_pinned` with witnesses; it is the full theorem on the repaired tree
(`fmt_noninterfering_fixed`), and for the tree under check it holds iff all six flags are on (`fmt_noninterfering_current`).
-/
import AskarModel.Lemmas.SecretBuf
import AskarModel.Lemmas.SecretFmt

namespace Askar.C20
open Askar.SecretBuf

/-! ## Part A -/

/-- Every block released to the allocator — by `free` or by `realloc` — holds no content byte in ANY of its cells (the whole
    capacity, not just `len`), for every program.  Blocks that leave through `into_vec` / `into_boxed_slice` are `escape`
    events: ownership passes to the caller. -/
theorem free_only_zeroed (P : Params) (hP : P.Sound) (ops : List Op) :
    ∀ e ∈ (runAll P ops).log, e.Clean :=
  fun e he => (Lemmas.good_clean (Lemmas.runAll_good P hP ops) e he).1

/-- … and in fact the allocator's `realloc` is never invoked at all: `Vec` never grows (or shrinks) a block it owns by itself. -/
theorem no_hidden_realloc (P : Params) (hP : P.Sound) (ops : List Op) :
    ∀ e ∈ (runAll P ops).log, e.isRealloc = false :=
  fun e he => (Lemmas.good_clean (Lemmas.runAll_good P hP ops) e he).2

/-- The same holds at every intermediate point of the program, not only at its end. -/
theorem free_only_zeroed_prefix (P : Params) (hP : P.Sound) (ops : List Op) :
    ∀ e ∈ (run P St.init ops).heap.log, e.Clean ∧ e.isRealloc = false :=
  Lemmas.good_clean ((Lemmas.run_ext P hP ops St.init).good Lemmas.good_init)

/-- What excludes hidden reallocation: after `ensure_capacity min_cap` the capacity is at least `min_cap` and the bytes are
    unchanged. -/
theorem capacity_suffices (P : Params) (hP : P.Sound) (s : RVec) (minCap : Nat) (h : Heap) :
    minCap ≤ (ensureCapacity P s minCap h).1.cap ∧ (ensureCapacity P s minCap h).1.data = s.data :=
  ⟨(Lemmas.ensureCapacity_spec P hP s minCap h).2.2, (Lemmas.ensureCapacity_spec P hP s minCap h).2.1⟩

/-- Before every raw `Vec` write performed by `extend_from_slice` / `buffer_write` there is room for it. -/
theorem reserve_leaves_room (P : Params) (hP : P.Sound) (s : RVec) (extra : Nat) (h : Heap) (hg : Lemmas.Good h) :
    extra ≤ (reserve P s extra h).1.spare.length :=
  (Lemmas.reserve_spec P hP s extra h).2.2

/-- The visible bytes (and the panics) are those of the obvious list semantics, for every buffer of every program: wiping and
    re-allocation never corrupt data. -/
theorem contents_correct (P : Params) (hP : P.Sound) (ops : List Op) :
    (run P St.init ops).slots.map (·.data) = specRun [] ops :=
  Lemmas.run_data P hP ops St.init

/-- one step, including its outcome (ok / panic / skip), from any reachable state -/
theorem contents_correct_step (P : Params) (hP : P.Sound) (pre : List Op) (op : Op) :
    let st := run P St.init pre
    ((step P st op).1.slots.map (·.data), (step P st op).2) = specStep (st.slots.map (·.data)) op :=
  (Lemmas.step_spec P hP _ op).2

/-- the hypothesis of the theorems is satisfiable: the growth laws of the source are sound -/
theorem std_sound : Params.std.Sound :=
  ⟨fun c m => Nat.le_trans (Nat.le_max_left m (c * 2)) (Nat.le_max_left _ 32),
   fun c m => Nat.le_trans (Nat.le_max_right (c * 2) m) (Nat.le_max_right 8 _)⟩

/-- The growth law of the source: a buffer that owns a block is replaced by one of `max(min_cap, 2·cap, 32)` bytes exactly
    when `min_cap ≥ cap`, and is left alone otherwise (diagnostic channel: makes the model's allocation trace predictive). -/
theorem growth_law (s : RVec) (minCap : Nat) (h : Heap) (hc : 0 < s.cap) :
    (ensureCapacity Params.std s minCap h).1.cap = if minCap ≥ s.cap then max (max minCap (s.cap * 2)) 32 else s.cap :=
  Lemmas.ensureCapacity_cap Params.std std_sound s minCap h hc

/-! ### non-vacuity and sensitivity -/

/-- a concrete program that grows across two capacity boundaries, clones, shrinks and drops: it frees five blocks that held data -/
example :
    ((runAll Params.std [.new (.fromSlice [1, 2, 3] 0), .buf 0 (.extend (List.replicate 40 7)), .clone 0, .buf 0 (.insert 1 [9, 9]),
        .buf 1 .shrink, .buf 0 (.resize 100), .drop 1]).log.filter fun e => match e with | .free .. => true | _ => false).length = 5 := by
  decide +kernel

/-- the soundness hypothesis is needed: with a growth law that returns less than requested, `Vec` reallocates a block that
    holds data (the leak the buffer exists to prevent) -/
theorem unsound_growth_leaks :
    ∃ (P : Params) (ops : List Op), ∃ e ∈ (runAll P ops).log, ¬ e.Clean :=
  ⟨⟨fun cap _ => cap, Params.std.vecGrow⟩, [.new (.fromSlice [1, 2, 3] 0), .buf 0 (.extend [4, 5])], by decide⟩

/-- what the buffer avoids: the same append done by `Vec` itself on the inner vector releases an un-wiped copy -/
theorem raw_vec_append_leaks :
    ∃ (v : RVec) (d : List UInt8) (h : Heap), ∃ e ∈ (vecExtend Params.std v d h).2.log, ¬ e.Clean :=
  ⟨⟨1, [1, 2, 3], []⟩, [4], Heap.init, by decide⟩

/-- wiping `len` instead of the capacity would not do: after a truncation the spare capacity still holds content -/
example : ¬ clean ((bufferResize Params.std ⟨1, [1, 2, 3, 4], []⟩ 1 Heap.init).1.cells.drop 1) := by decide

/-! ### the C boundary (`src/ffi/secret.rs`): `SecretBuffer::from_secret`, `askar_buffer_free`, `EncryptedBuffer`

`Op.ffiFree` (export + release) is one of the operations of `Op`, so `free_only_zeroed`, `no_hidden_realloc`, `free_only_zeroed_prefix`
and `contents_correct` above already cover programs in which buffers cross the C boundary at any point.  The theorems below
say what happens to ONE buffer, from any state. -/

/-- For every secret buffer (any length, any capacity, any stale content in its spare capacity) and every heap whose log is good:
    exporting it with `from_secret` and releasing it with `askar_buffer_free` releases nothing un-wiped and never reallocates; the C
    caller sees exactly the secret bytes and `len` is their number; the block handed out has capacity = `len` (so the
    `Vec::from_raw_parts(data, len, len)` of `askar_buffer_free` describes the real block and its wipe covers all of it); and a
    non-empty buffer's block IS released, as `len` wiped cells. -/
theorem ffi_buffer_free_wipes (P : Params) (s : RVec) (h : Heap) (hg : Lemmas.Good h) :
    (∀ e ∈ (ffiRoundTrip P s h).log, e.Clean ∧ e.isRealloc = false) ∧
    (ffiFromSecret P s h).1.len = s.data.length ∧
    (∃ v, (ffiFromSecret P s h).1.block = some v ∧ v.data = s.data ∧ v.cap = (ffiFromSecret P s h).1.len) ∧
    (s.data ≠ [] → ∃ id, Event.free id (List.replicate s.data.length none) ∈ (ffiRoundTrip P s h).log) := by
  obtain ⟨_, hl, v, hv, hd, _, hc⟩ := Lemmas.ffiFromSecret_spec P s h
  exact ⟨Lemmas.good_clean ((Lemmas.ffiRoundTrip_ext P s h).good hg), hl, ⟨v, hv, hd, hc⟩, Lemmas.ffiRoundTrip_frees P s h⟩

/-- … whatever the C caller wrote into the buffer in between (`data` is `*mut u8`). -/
theorem ffi_buffer_free_wipes_after_caller_writes (P : Params) (s : RVec) (h : Heap) (hg : Lemmas.Good h) (d : List UInt8) :
    ∀ e ∈ (ffiBufferFree ((ffiFromSecret P s h).1.overwrite d) (ffiFromSecret P s h).2).log, e.Clean ∧ e.isRealloc = false := by
  -- the caller's bytes replace the data of a block of exactly `len` cells, which `askar_buffer_free` then wipes whole
  have hfree := Lemmas.ffiBufferFree_ext _ (ffiFromSecret P s h).2 (Lemmas.overwrite_cap _ d (Lemmas.ffiFromSecret_cap P s h))
  exact Lemmas.good_clean (((Lemmas.ffiFromSecret_spec P s h).1.trans hfree).good hg)

/-- `askar_buffer_free` of the default buffer (`data = NULL`) and of an exported empty buffer (dangling `data`, `len` 0) releases nothing. -/
theorem ffi_buffer_free_empty (P : Params) (h : Heap) :
    ffiBufferFree ⟨0, none⟩ h = h ∧ ffiRoundTrip P RVec.empty h = h := by
  constructor <;> rfl

/-- `EncryptedBuffer::from_encrypted`: its `buffer` is the `SecretBuffer` of the ciphertext; the positions are plain numbers. -/
theorem encrypted_buffer_is_secret_buffer (P : Params) (s : RVec) (t n : Nat) (h : Heap) :
    (ffiFromEncrypted P s t n h).1.1 = (ffiFromSecret P s h).1 ∧ (ffiFromEncrypted P s t n h).2 = (ffiFromSecret P s h).2 ∧
    (ffiFromEncrypted P s t n h).1.2 = (t, n) := by
  simp only [ffiFromEncrypted, and_self]

/-- sensitivity: it is the `shrink_to_fit` in `from_secret` that makes the wipe complete — without it a buffer with stale spare
    capacity goes back to the allocator with that content (and with a layout that is not the allocated one) -/
theorem ffi_without_shrink_leaks :
    ∃ (s : RVec) (h : Heap), ∃ e ∈ (ffiBufferFree (ffiFromSecretNoShrink s h).1 (ffiFromSecretNoShrink s h).2).log, ¬ e.Clean :=
  ⟨⟨1, [1], [some 2]⟩, Heap.init, by decide⟩

/-- non-vacuity: a program in which a grown, then truncated buffer crosses the C boundary: the block it outgrew, the block the
    `shrink_to_fit` of `from_secret` leaves behind and the exported block are released (3 frees), the last one after an `escape` -/
example :
    ((runAll Params.std [.new (.fromSlice [1, 2, 3] 0), .buf 0 (.extend (List.replicate 40 7)), .buf 0 (.resize 10), .ffiFree 0]).log.filter
      fun e => match e with | .free .. => true | _ => false).length = 3 ∧
    ((runAll Params.std [.new (.fromSlice [1, 2, 3] 0), .buf 0 (.extend (List.replicate 40 7)), .buf 0 (.resize 10), .ffiFree 0]).log.filter
      fun e => match e with | .escape .. => true | _ => false).length = 1 := by
  decide +kernel

/-! ## Part B -/
open Askar.SecretFmt

/-- Full strength (what the property demands), for the tree described by `cfg`: the `Debug` text of every secret-bearing type
    is a function of the public part. -/
def FmtNonInterfering (cfg : FmtCfg) : Prop :=
  ∀ (t : Ty) (pub : String) (s₁ s₂ : List UInt8), render (debugFmt cfg t) ⟨pub, s₁⟩ = render (debugFmt cfg t) ⟨pub, s₂⟩

/-- Whatever the tree: every type classified as not leaky ignores the secret component. -/
theorem fmt_noninterfering_partial (cfg : FmtCfg) (t : Ty) (ht : leaky cfg t = false) (pub : String) (s₁ s₂ : List UInt8) :
    render (debugFmt cfg t) ⟨pub, s₁⟩ = render (debugFmt cfg t) ⟨pub, s₂⟩ :=
  SecretFmt.Lemmas.render_ignores_secret _ ht pub s₁ s₂

/-- The classification, exactly, in terms of the flags read from the source: a type is leaky iff it is `Options` (D9),
    `PostgresStoreOptions`, `Argon2` / `BlsKeyGen` (D17), `JwkParts`, or a BLS key pair in one of its three wrappings (D16), AND the
    `Debug` of that type is still the derived one — and nothing else is leaky. -/
theorem leaky_types_exactly (cfg : FmtCfg) (t : Ty) :
    leaky cfg t = true ↔
      (cfg.optionsRedacts = false ∧ ∃ q, t = .options q) ∨ (cfg.pgOptionsRedacts = false ∧ ∃ q, t = .pgOptions q) ∨
      (cfg.argon2Redacts = false ∧ t = .argon2) ∨ (cfg.blsKeyGenRedacts = false ∧ t = .blsKeyGen) ∨
      (cfg.jwkPartsRedacts = false ∧ ∃ a, t = .jwkParts a) ∨
      (cfg.blsSecretRedacts = false ∧ ∃ a, a.isBls = true ∧ (t = .key a ∨ t = .anyKey a ∨ t = .localKey a)) := by
  rw [SecretFmt.Lemmas.leaky_eq]
  cases t <;> simp [SecretFmt.Lemmas.redacts, and_comm]

/-- Every leaky type really prints the secret: different secrets, different text. -/
theorem leaky_prints_secret (cfg : FmtCfg) (t : Ty) (ht : leaky cfg t = true) (pub : String) (s₁ s₂ : List UInt8) (hs : s₁ ≠ s₂) :
    render (debugFmt cfg t) ⟨pub, s₁⟩ ≠ render (debugFmt cfg t) ⟨pub, s₂⟩ :=
  SecretFmt.Lemmas.render_depends_on_secret _ ht pub s₁ s₂ hs

/-- The full statement holds exactly when no type is classified as leaky … -/
theorem fmt_noninterfering_iff (cfg : FmtCfg) : FmtNonInterfering cfg ↔ ∀ t, leaky cfg t = false := by
  constructor
  · exact fun h t => eq_false_of_ne_true fun ht => leaky_prints_secret cfg t ht "" [1] [2] (by decide) (h t "" [1] [2])
  · exact fun h t => fmt_noninterfering_partial cfg t (h t)

/-- … that is, exactly when all six `Debug` implementations are the redacting ones. -/
theorem fmt_noninterfering_iff_flags (cfg : FmtCfg) : FmtNonInterfering cfg ↔ cfg.allRedact = true :=
  (fmt_noninterfering_iff cfg).trans (SecretFmt.Lemmas.no_leaky_iff cfg)

/-- The full statement holds on the repaired tree. -/
theorem fmt_noninterfering_fixed : FmtNonInterfering FmtCfg.fixed :=
  (fmt_noninterfering_iff_flags FmtCfg.fixed).mpr rfl

/-- The tree the check runs against (flags regenerated from /repo on every run) satisfies the full statement iff all six
    source-derived flags are on; true whatever the flags are, so a regression of one `Debug` impl does not break the proof — it
    flips the model's prediction and is caught by the `c20:fmt` / `c20:log` oracle. -/
theorem fmt_noninterfering_current :
    FmtNonInterfering FmtCfg.current ↔
      (Askar.Generated.Flags.optionsDebugRedacts && Askar.Generated.Flags.blsSecretDebugRedacts &&
       Askar.Generated.Flags.blsKeyGenDebugRedacts && Askar.Generated.Flags.argon2DebugRedacts &&
       Askar.Generated.Flags.pgOptionsDebugRedacts && Askar.Generated.Flags.jwkPartsDebugRedacts) = true :=
  fmt_noninterfering_iff_flags FmtCfg.current

/-- The full statement is refuted on the model of the PINNED tree. -/
theorem fmt_noninterfering_refuted_pinned : ¬ FmtNonInterfering FmtCfg.pinned :=
  fun h => Bool.noConfusion ((fmt_noninterfering_iff_flags FmtCfg.pinned).mp h)

theorem options_debug_prints_password_witness :          -- D9
    ∃ pub s₁ s₂, render (debugFmt FmtCfg.pinned (.options false)) ⟨pub, s₁⟩ ≠ render (debugFmt FmtCfg.pinned (.options false)) ⟨pub, s₂⟩ :=
  ⟨"", [1], [2], leaky_prints_secret _ _ (by decide) _ _ _ (by decide)⟩

theorem bls_debug_prints_scalar_witness :                -- D16
    ∃ pub s₁ s₂, render (debugFmt FmtCfg.pinned (.localKey .bls12381g1)) ⟨pub, s₁⟩ ≠
      render (debugFmt FmtCfg.pinned (.localKey .bls12381g1)) ⟨pub, s₂⟩ :=
  ⟨"", [1], [2], leaky_prints_secret _ _ (by decide) _ _ _ (by decide)⟩

theorem argon2_debug_prints_password_witness :           -- D17
    ∃ pub s₁ s₂, render (debugFmt FmtCfg.pinned .argon2) ⟨pub, s₁⟩ ≠ render (debugFmt FmtCfg.pinned .argon2) ⟨pub, s₂⟩ :=
  ⟨"", [1], [2], leaky_prints_secret _ _ (by decide) _ _ _ (by decide)⟩

/-- Log records: a capture leaks iff `Options` still has the derived `Debug` (D9), the URI carried credentials and the `any.rs`
    "… store with options: {:?}" site fired; every other call site passes labels, handles and algorithm names only. -/
theorem log_leaks_exactly (cfg : FmtCfg) (s : Scenario) :
    s.leaks cfg = true ↔ cfg.optionsRedacts = false ∧ s.uriHasCredentials = true ∧ LogSite.anyOptions ∈ s.sites := by
  have hopt : LogSite.leaky cfg .anyOptions = true ↔ cfg.optionsRedacts = false := by
    simp [LogSite.leaky, SecretFmt.Lemmas.leaky_eq, SecretFmt.Lemmas.redacts]
  simp only [Scenario.leaks, Bool.and_eq_true, List.any_eq_true]
  constructor
  · rintro ⟨h1, x, hx, hl⟩
    cases x with
    | anyOptions => exact ⟨hopt.mp hl, h1, hx⟩
    | label | ffiLabel => cases hl
  · rintro ⟨h0, h1, h2⟩
    exact ⟨h1, .anyOptions, h2, hopt.mpr h0⟩

/-- on the repaired tree no log capture leaks -/
theorem log_never_leaks_fixed (s : Scenario) : s.leaks FmtCfg.fixed = false :=
  eq_false_of_ne_true fun h => Bool.noConfusion ((log_leaks_exactly FmtCfg.fixed s).mp h).1

/-! ### error TEXT (`Display`, `Debug`, the `source()` chain, the C API's JSON) and the C API's logger -/

/-- For every error of the three crates with a cause chain of ANY length: a token that carries secret bytes can occur in `{}` /
    `{:?}` of the error, in `{}` / `{:?}` of any error on its `source()` chain, or in the JSON of `askar_get_current_error`, only if
    it occurs in the MESSAGE of one of the links: the formatting code (kind text, "\nCaused by: ", the derived `Debug`) adds none. -/
theorem error_text_only_from_messages (c : List ErrLink) :
    ∀ t ∈ errTexts c ++ [errJson c], ∀ tok ∈ t, tok.isSecret = true → tok ∈ chainMessages c := by
  intro t hT
  rcases List.mem_append.mp hT with hT | hT
  · exact SecretFmt.Lemmas.errTexts_secret c t hT
  · cases List.mem_singleton.mp hT
    exact SecretFmt.Lemmas.errJson_secret c

/-- Hence: when every message of the chain is label text (string literals, algorithm / scheme / parameter names — every `err_msg!`
    site reached by the campaigns, and the foreign causes' own texts as observed), no rendering of the error carries a secret. -/
theorem error_text_clean (c : List ErrLink) (hm : ∀ tok ∈ chainMessages c, tok.isSecret = false) :
    ∀ t ∈ errTexts c ++ [errJson c], ∀ tok ∈ t, tok.isSecret = false :=
  fun t hT tok ht => eq_false_of_ne_true fun hs =>
    Bool.noConfusion (hs.symm.trans (hm tok (error_text_only_from_messages c t hT tok ht hs)))

/-- sensitivity: a message that embeds secret bytes is shown by `Display`, even from the bottom of a chain -/
theorem error_message_secret_shows :
    ∃ c : List ErrLink, ∃ tok ∈ errDisplay c, tok.isSecret = true :=
  ⟨[⟨"Backend", none⟩, ⟨"Input", some [.text "bad key ", .raw [1, 2]]⟩], .raw [1, 2], by decide, rfl⟩

/-- `CustomLogger::log` hands the C callback the record's own target / message / module path / file and nothing else; a disabled
    logger hands over nothing. -/
theorem custom_logger_forwards_record_only (en : Bool) (r : LogRecord) (fs : List (List Tok)) (h : customLoggerForward en r = some fs) :
    ∀ f ∈ fs, ∀ tok ∈ f, tok ∈ r.target ∨ tok ∈ r.message ∨ (∃ m, r.modulePath = some m ∧ tok ∈ m) ∨ (∃ m, r.file = some m ∧ tok ∈ m) := by
  unfold customLoggerForward at h
  split at h
  · cases h
    intro f hf tok ht
    simp only [List.mem_cons, List.not_mem_nil, or_false] at hf
    rcases hf with rfl | rfl | rfl | rfl
    · exact Or.inl ht
    · exact Or.inr (Or.inl ht)
    · exact Or.inr (Or.inr (Or.inl (SecretFmt.Lemmas.mem_getD_nil ht)))
    · exact Or.inr (Or.inr (Or.inr (SecretFmt.Lemmas.mem_getD_nil ht)))
  · cases h

theorem custom_logger_disabled_silent (r : LogRecord) : customLoggerForward false r = none := rfl

/-- the C API's own log sites are label sites: a capture through the C logger leaks exactly when one through `log::Log` does -/
theorem ffi_log_sites_add_nothing (cfg : FmtCfg) (sites : List LogSite) (cred : Bool) :
    (Scenario.mk (.ffiLabel :: sites) cred).leaks cfg = (Scenario.mk sites cred).leaks cfg := by
  simp [Scenario.leaks, LogSite.leaky]

/-- Observations (types outside the property's list): every one of them prints contents — by design. -/
theorem obs_types_print_contents (t : ObsTy) : obsLeaky t = true := by
  cases t <;> rfl

/-- `Debug` of a `Scan` (a handle on a running query) is a function of the page size, whatever the tree. -/
example (cfg : FmtCfg) : leaky cfg .scan = false := rfl

/-- non-vacuity of `error_text_clean`: a three-link chain as the run sees it (storage error without message ← sqlx ← SQLite) -/
example : ∀ tok ∈ chainMessages [⟨"Backend error", none⟩, ⟨"sqlx", some [.text "error returned from database: (code: 26) file is not a database"]⟩,
    ⟨"sqlite", some [.text "(code: 26) file is not a database"]⟩], tok.isSecret = false := by decide

/-- Dropping a heap-allocated key object leaves only zero bytes in its block. -/
theorem key_drop_wipes (k : KeyBlock) : ∀ c ∈ (dropKey k).cells, c = 0 := by
  intro c hc
  obtain ⟨_, _, rfl⟩ := List.mem_map.mp hc
  rfl

/-- non-vacuity: whatever the flags, most types are not leaky; on the pinned tree the six are, on the fixed tree none is -/
example (cfg : FmtCfg) : leaky cfg .secretBytes = false ∧ leaky cfg .passKey = false ∧ leaky cfg .keyEntry = false ∧
    leaky cfg (.error .wrongPassKey) = false := ⟨rfl, rfl, rfl, rfl⟩
example : leaky FmtCfg.pinned (.options true) = true ∧ leaky FmtCfg.fixed (.options true) = false ∧
    leaky FmtCfg.pinned (.localKey .bls12381g2) = true ∧ leaky FmtCfg.fixed (.localKey .bls12381g2) = false ∧
    leaky FmtCfg.pinned (.localKey .ed25519) = false := by decide

end Askar.C20
