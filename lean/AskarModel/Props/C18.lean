/-
C18 — store copy, profile copy and Indy migration carry over every record.
Lemmas in Lemmas/Copy.lean and Lemmas/IndyMigration.lean, models in Model/Copy.lean and Model/IndyMigration.lean.

Refuted, and kept visible as `def … : Prop` with the negation proved from a witness:
* `CopyStoreSameProfiles` — the target of `copy_to` gets a profile named after `config.default_profile` even when the
  source has no such profile (finding, replayed by the harness);
* `ImportIntoLogicallyEmptySucceeds` — a target profile holding only *expired* rows passes the emptiness test, but a
  source record under the identity of such a row makes the whole copy fail with Duplicate (finding D8 of C17 reaching C18).
Decided by a flag that tools/extract.py reads from the source on every run (`migrateAtomic` =
`Generated.Flags.migrateSingleTransaction`), in the style of `blank_raw_refused_everywhere_current` of C08:
* `MigrateAllOrNothingBy g`, `WrongKeyLeavesWalletIntactBy g` — PROVED for the single-transaction variant (`g = true`),
  REFUTED with a witness for the autocommit variant (`g = false`, D41: `migrate` commits `pre_upgrade` before it looks
  at the wallet key and runs the items in autocommit mode, so any failure — wrong key or method, damaged metadata or
  cell, a fault, a SIGKILL — leaves a file that neither migrates, `half_migrated_is_stuck`, nor opens); which of the two
  the source is: `migrate_all_or_nothing_status`.
Outside the property's domain (C18 speaks about wallets in the Indy format, not about damaged ones) and stated only as
facts about the model, which follows the code: `short_salt_panics_iff`, `short_cell_classified`,
`decrypt_merged_panics_iff_short` (`s[..16]`, `split_at(12)`); the harness counts these as observations, the all-or-nothing
part is judged for damaged wallets too.
-/
import AskarModel.Lemmas.Copy
import AskarModel.Lemmas.IndyMigration
import AskarModel.Lemmas.Wql

namespace Askar.Copy
open Askar.Store

/-- A successful `copy_profile` (any record count, any page size): the target profile — resolved through the target's
    own handle, i.e. under the target's own profile id and key — holds exactly the source profile's live records, in
    order; every live row of it is encrypted under the target's key; profiles with another id keep their content; the
    source tables and default profile are untouched.  (`Sorted`: row ids increase in creation order, an invariant of
    every reachable store — `run_sorted`; without it the equality holds up to the scan's id order.) -/
theorem copy_profile_exact (page : Nat) (now : Int) (n : Nat) (src dst : StoreSt) (P P' : String)
    (src' dst' : StoreSt) (n' : Nat) (hsorted : Sorted src.db)
    (h : copyProfile page now none n src dst P P' = (src', dst', n', .ok ())) :
    ∃ ss sd : Sess,
      resolve src.db src.h P = .ok (ss, src'.h) ∧ resolve dst'.db dst'.h P' = .ok (sd, dst'.h) ∧
      liveAbs now sd dst'.db = liveAbs now ss src.db ∧
      (∀ it ∈ dst'.db.items, it.pid = sd.pid → live now it = true → it.key = sd.key) ∧
      (∀ s : Sess, s.pid ≠ sd.pid → liveAbs now s dst'.db = liveAbs now s dst.db) ∧
      src'.db = src.db ∧ src'.default = src.default :=
  Lemmas.copy_profile_exact page now n src dst P P' src' dst' n' hsorted h

/-- The same for `copy_profile(b, b, P, P')` inside one store. -/
theorem copy_within_exact (page : Nat) (now : Int) (st st' : StoreSt) (P P' : String) (hsorted : Sorted st.db)
    (h : copyProfileWithin page now none st P P' = (st', .ok ())) :
    ∃ ss sd : Sess, (∃ hs, resolve st.db st.h P = .ok (ss, hs)) ∧ resolve st'.db st'.h P' = .ok (sd, st'.h) ∧
      liveAbs now sd st'.db = liveAbs now ss st.db ∧
      (∀ s : Sess, s.pid ≠ sd.pid → liveAbs now s st'.db = liveAbs now s st.db) ∧
      st'.default = st.default := by
  rw [Lemmas.copyProfileWithin_eq] at h
  split at h
  · cases h
  · next ss hs hsrc =>
    injection h with h1 h2
    obtain ⟨sd, e1, e2, _, e4, e5⟩ :=
      Lemmas.copyInto_exact page now 0 none ss { st with h := hs } P' st' _ hsorted (Prod.ext h1 (Prod.ext rfl h2))
    exact ⟨ss, sd, ⟨hs, hsrc⟩, e1, e2, e4, e5⟩

/-- The source is never written, whatever the outcome and whatever fault is injected. -/
theorem copy_source_unchanged (page : Nat) (now : Int) (fault : Option Nat) (n : Nat) (src dst : StoreSt) (P P' : String) :
    (copyProfile page now fault n src dst P P').1.db = src.db ∧
    (copyProfile page now fault n src dst P P').1.default = src.default := by
  generalize hr : copyProfile page now fault n src dst P P' = r
  obtain ⟨src', dst', n', r⟩ := r
  rcases Lemmas.copyProfile_inv hr with ⟨_, _, rfl, _⟩ | ⟨_, _, hsdb, hsdef, _⟩
  · exact ⟨rfl, rfl⟩
  · exact ⟨hsdb, hsdef⟩

/-- Copying into an existing profile that holds at least one live record is refused with an Input error, before
    anything is read or written. -/
theorem copy_refuses_nonempty (page : Nat) (now : Int) (fault : Option Nat) (n : Nat) (src dst : StoreSt) (P P' : String)
    (ss sd : Sess) (hs hd : Handle)
    (hsrc : resolve src.db src.h P = .ok (ss, hs))
    (hex : dst.db.profiles.any (·.name == P') = true)
    (hdst : resolve dst.db dst.h P' = .ok (sd, hd))
    (hne : liveAbs now sd dst.db ≠ []) :
    copyProfile page now fault n src dst P P' = ({ src with h := hs }, { dst with h := hd }, n, .error .input) :=
  Lemmas.copy_refuses_nonempty page now fault n src dst P P' ss sd hs hd hsrc hex hdst hne

/-- All-or-nothing per profile (C06 for the import): a `copy_profile` that fails — refused, undecryptable page,
    Duplicate, or a backend fault injected at *any* insert — leaves the target's rows exactly as they were. -/
theorem copy_all_or_nothing (page : Nat) (now : Int) (fault : Option Nat) (n : Nat) (src dst : StoreSt) (P P' : String)
    (src' dst' : StoreSt) (n' : Nat) (e : Err)
    (h : copyProfile page now fault n src dst P P' = (src', dst', n', .error e)) :
    dst'.db.items = dst.db.items ∧ dst'.default = dst.default ∧ src'.db = src.db := by
  rcases Lemmas.copyProfile_inv h with ⟨_, _, rfl, rfl, _⟩ | ⟨ss, _, hsdb, _, hc⟩
  · exact ⟨rfl, rfl, rfl⟩
  · obtain ⟨hi, hd⟩ := Lemmas.copyInto_error _ _ _ _ _ _ _ _ _ _ _ hc
    exact ⟨hi, hd, hsdb⟩

/-- The copy does succeed when the source profile exists, its live rows are under its key with pairwise distinct
    identities (the unique index), and the target profile holds no row. -/
theorem copy_into_fresh_succeeds (page : Nat) (now : Int) (n : Nat) (src dst : StoreSt) (P P' : String)
    (ss : Sess) (hs : Handle) (hsrc : resolve src.db src.h P = .ok (ss, hs))
    (hkey : ∀ it ∈ src.db.items, it.pid = ss.pid → live now it = true → it.key = ss.key)
    (huniq : Lemmas.DistinctIdents (liveAbs now ss src.db)) (hsorted : Sorted src.db)
    (hfresh : ∀ sd hd, resolve (Lemmas.afterCreate dst P').db (Lemmas.afterCreate dst P').h P' = .ok (sd, hd) →
      ∀ it ∈ dst.db.items, it.pid ≠ sd.pid) :
    ∃ dst' n', copyProfile page now none n src dst P P' = ({ src with h := hs }, dst', n', .ok ()) := by
  obtain ⟨sd, hd, hres⟩ := Lemmas.resolve_afterCreate dst P'
  have hnone := hfresh sd hd hres
  simp only [Lemmas.copyProfile_eq, hsrc]
  rw [Lemmas.copyInto_eq, Lemmas.importInto]
  simp only [hres, Option.getD_some]
  have hcount : ¬ doCount noLike (Lemmas.afterCreate dst P').db now sd none none none > 0 := by
    have : liveAbs now sd (Lemmas.afterCreate dst P').db = [] :=
      Lemmas.liveAbs_eq_nil_iff.mpr fun it hit hp => absurd hp (hnone it (Lemmas.afterCreate_items dst P' ▸ hit))
    simp [Lemmas.doCount_all, this]
  simp only [hcount, if_false]
  have hrowsKey : ∀ it ∈ Lemmas.scanRows now ss src.db, it.key = ss.key := by
    intro it hit
    have hm := (Store.mem_sortById.mp hit)
    simp only [List.mem_filter, Bool.and_eq_true, beq_iff_eq] at hm
    exact hkey it hm.1 hm.2.1 hm.2.2
  have hscan : doScan noLike page src.db now ss none none none none none false =
      .ok (drainScan page (batches page ((Lemmas.scanRows now ss src.db).map toEntry))) := by
    simp only [doScan, Lemmas.selectRows_all, Store.Lemmas.decryptRows_ok ss.key _ hrowsKey]
  have hflat : (drainScan page (batches page ((Lemmas.scanRows now ss src.db).map toEntry))).flatten = liveAbs now ss src.db := by
    rw [drain_batches, batches_flatten, Lemmas.scanRows_sorted _ _ _ hsorted]
  -- no identity of theirs is taken in the target
  obtain ⟨⟨db1, n1⟩, himp⟩ := Lemmas.importRows_succeeds now sd _ (Lemmas.afterCreate dst P').db n (hflat ▸ huniq) (by
    intro it hit e _ hc
    rw [Lemmas.afterCreate_items] at hit
    exact hnone it hit hc.1)
  simp only [hscan, Lemmas.importScan_eq_importRows, himp]
  exact ⟨_, _, rfl⟩

/-- The logical content of the copy does not depend on the target: two successful copies of one source profile into
    any two targets (any key method, pass key, profile keys, ids, names) hold the same records. -/
theorem copy_independent_of_target_method (page : Nat) (now : Int) (n₁ n₂ : Nat) (src dst₁ dst₂ : StoreSt) (P P₁ P₂ : String)
    (s₁ d₁ s₂ d₂ : StoreSt) (m₁ m₂ : Nat) (hsorted : Sorted src.db)
    (h₁ : copyProfile page now none n₁ src dst₁ P P₁ = (s₁, d₁, m₁, .ok ()))
    (h₂ : copyProfile page now none n₂ src dst₂ P P₂ = (s₂, d₂, m₂, .ok ())) :
    ∃ sd₁ sd₂ : Sess, resolve d₁.db d₁.h P₁ = .ok (sd₁, d₁.h) ∧ resolve d₂.db d₂.h P₂ = .ok (sd₂, d₂.h) ∧
      liveAbs now sd₁ d₁.db = liveAbs now sd₂ d₂.db :=
  Lemmas.copy_independent_of_target_method page now n₁ n₂ src dst₁ dst₂ P P₁ P₂ s₁ d₁ s₂ d₂ m₁ m₂ hsorted h₁ h₂

/-- Whole-store copy (`copy_store` / `copy_to`), the part proved for the loop as a whole: source untouched, default
    profile carried.  (Per profile: `copy_profile_exact`; all profiles at the end of the loop: `copy_store_all_profiles`.) -/
theorem copy_store_default_carried (page : Nat) (now : Int) (keyBase : Nat) (src src' dst' : StoreSt) (existing : Option StoreSt)
    (h : copyStore page now none keyBase src existing true = (src', some dst', .ok ())) :
    src'.db = src.db ∧ src'.default = src.default ∧ dst'.default = src.default :=
  Lemmas.copyLoop_ok page now (listProfiles src.db) 0 src (provision keyBase src.default) src' dst'
    (Lemmas.copyStore_fresh_loop page now keyBase src src' dst' existing true (.inr rfl) h)

/-- One successful iteration of the `copy_to` loop preserves the invariant of the *target* (`Lemmas.TargetInv`: the
    handle's key cache agrees with the `profiles` table, names and ids are unique, every row belongs to a profile, no
    row expires) and the coherence of the source's cache; it adds at most the name `P` to the target's table; the
    target profile `P` ends with the source profile's live records under its own key; every profile with another id
    keeps its rows.  This is the loop invariant the whole-store theorem rests on. -/
theorem copy_loop_step_invariant (page : Nat) (now : Int) (n : Nat) (src dst : StoreSt) (P : String)
    (src' dst' : StoreSt) (n' : Nat) (hsorted : Sorted src.db) (hcs : CacheCoherent src.db src.h) (hI : Lemmas.TargetInv dst)
    (h : copyProfile page now none n src dst P P = (src', dst', n', .ok ())) :
    src'.db = src.db ∧ CacheCoherent src.db src'.h ∧ Lemmas.TargetInv dst' ∧
    (∀ name, name ∈ dst'.db.profiles.map (·.name) ↔ name ∈ dst.db.profiles.map (·.name) ∨ name = P) ∧
    (∀ q ∈ dst.db.profiles, q ∈ dst'.db.profiles) ∧
    ∃ ss sd : Sess, (⟨ss.pid, P, ss.key⟩ : Profile) ∈ src.db.profiles ∧ (⟨sd.pid, P, sd.key⟩ : Profile) ∈ dst'.db.profiles ∧
      abs sd dst'.db = liveAbs now ss src.db ∧ KeyCoherent sd dst'.db ∧
      (∀ s : Sess, s.pid ≠ sd.pid → abs s dst'.db = abs s dst.db ∧ (KeyCoherent s dst.db → KeyCoherent s dst'.db)) :=
  Lemmas.copyProfile_step page now n src dst P src' dst' n' hsorted hcs hI h

/-- the freshly provisioned target satisfies the invariant -/
theorem provision_target_invariant (keyBase : Nat) (profile : String) : Lemmas.TargetInv (provision keyBase profile) :=
  Lemmas.provision_targetInv keyBase profile

/-- Whole-store copy, general form (nothing assumed about `config.default_profile`): after a successful `copy_store` /
    `copy_to` onto a freshly provisioned target (`existing = none`, or `recreate = true`), for any number of profiles,
    any record counts and any page size:
    * the source's tables and default profile are untouched, its key cache stays coherent;
    * the target has the source's default profile name;
    * the target's key cache is coherent with its `profiles` table, names and ids are unique, every row belongs to a
      profile of the table, no row carries an expiry;
    * the target's profile names are the source's profile names *plus the source's default profile name*;
    * every source profile `p` — which the source's own handle resolves to `(p.id, p.key)` — resolves through the
      target's own handle to a session whose whole content (`abs`) is exactly the live content of `p` in the source, in
      order, every row of it under the target session's key;
    * when the default profile name is dangling, the extra target profile is empty.
    Hypotheses: `Sorted` (row ids increase in creation order — `run_sorted`; the scan is `ORDER BY id`), `ProfilesWF`
    (UNIQUE(name), PRIMARY KEY(id) of `profiles`), `CacheCoherent` for the *source* handle (C07: what every reachable
    handle satisfies when `remove_profile` evicts the removed profile from the key cache, D7; without it a stale cache
    entry makes `copy_profile` read another profile's rows, e.g. cache `[("a", 2, k₂)]` over profiles
    `[⟨1,"a",k₁⟩, ⟨2,"b",k₂⟩]`). -/
theorem copy_store_all_profiles_gen (page : Nat) (now : Int) (keyBase : Nat) (src src' dst' : StoreSt)
    (existing : Option StoreSt) (recreate : Bool) (hfresh : existing = none ∨ recreate = true)
    (hs : Sorted src.db) (hwf : ProfilesWF src.db) (hcc : CacheCoherent src.db src.h)
    (h : copyStore page now none keyBase src existing recreate = (src', some dst', .ok ())) :
    (src'.db = src.db ∧ src'.default = src.default ∧ CacheCoherent src.db src'.h) ∧ dst'.default = src.default ∧
    (CacheCoherent dst'.db dst'.h ∧ ProfilesWF dst'.db ∧ FkInv dst'.db ∧ ∀ it ∈ dst'.db.items, it.expiry = none) ∧
    (∀ name, name ∈ dst'.db.profiles.map (·.name) ↔ name ∈ src.db.profiles.map (·.name) ∨ name = src.default) ∧
    (∀ p ∈ src.db.profiles, ∃ (hs' : Handle) (sd : Sess) (hd : Handle),
      resolve src.db src.h p.name = .ok (⟨p.id, p.key⟩, hs') ∧
      resolve dst'.db dst'.h p.name = .ok (sd, hd) ∧
      abs sd dst'.db = liveAbs now ⟨p.id, p.key⟩ src.db ∧ KeyCoherent sd dst'.db) ∧
    (src.default ∉ src.db.profiles.map (·.name) → ∃ (sd : Sess) (hd : Handle),
      resolve dst'.db dst'.h src.default = .ok (sd, hd) ∧ abs sd dst'.db = []) :=
  Lemmas.copy_store_all_profiles_gen page now keyBase src src' dst' existing recreate hfresh hs hwf hcc h

/-- **copy_store_all_profiles**: the same when the source's default profile is one of its profiles (the hypothesis
    `CopyStoreSameProfiles` lacks, see `copy_store_same_profiles_refuted`): the target's profile names are *exactly* the
    source's (a permutation without duplicates), the default profile is the same, and every profile holds exactly the
    source profile's live records. -/
theorem copy_store_all_profiles (page : Nat) (now : Int) (keyBase : Nat) (src src' dst' : StoreSt)
    (existing : Option StoreSt) (recreate : Bool) (hfresh : existing = none ∨ recreate = true)
    (hs : Sorted src.db) (hwf : ProfilesWF src.db) (hcc : CacheCoherent src.db src.h)
    (hdef : src.default ∈ src.db.profiles.map (·.name))
    (h : copyStore page now none keyBase src existing recreate = (src', some dst', .ok ())) :
    (src'.db = src.db ∧ src'.default = src.default ∧ CacheCoherent src.db src'.h) ∧ dst'.default = src.default ∧
    (CacheCoherent dst'.db dst'.h ∧ ProfilesWF dst'.db ∧ FkInv dst'.db ∧ ∀ it ∈ dst'.db.items, it.expiry = none) ∧
    (∀ name, name ∈ dst'.db.profiles.map (·.name) ↔ name ∈ src.db.profiles.map (·.name)) ∧
    (dst'.db.profiles.map (·.name)).Perm (src.db.profiles.map (·.name)) ∧
    (∀ p ∈ src.db.profiles, ∃ (hs' : Handle) (sd : Sess) (hd : Handle),
      resolve src.db src.h p.name = .ok (⟨p.id, p.key⟩, hs') ∧
      resolve dst'.db dst'.h p.name = .ok (sd, hd) ∧
      abs sd dst'.db = liveAbs now ⟨p.id, p.key⟩ src.db ∧ KeyCoherent sd dst'.db) :=
  Lemmas.copy_store_all_profiles page now keyBase src src' dst' existing recreate hfresh hs hwf hcc hdef h

/-- Refuted below: "the target has exactly the source's profiles". -/
def CopyStoreSameProfiles : Prop := Lemmas.CopyStoreSameProfiles

theorem copy_store_same_profiles_refuted : ¬ CopyStoreSameProfiles := Lemmas.copy_store_same_profiles_refuted

/-- Refuted below: "an import into a profile without live records goes through". -/
def ImportIntoLogicallyEmptySucceeds : Prop := Lemmas.ImportIntoLogicallyEmptySucceeds

theorem import_into_logically_empty_refuted : ¬ ImportIntoLogicallyEmptySucceeds :=
  Lemmas.import_into_logically_empty_refuted

end Askar.Copy

namespace Askar.Indy
open Askar.Store Askar.Copy

/-- Migration of an Indy wallet, at the level of decrypted rows: for every correct AEAD, every key set, every choice of
    nonces and per-item keys (`RowEncodes`), any number of records with both kinds of tags — the migrated store has the
    single profile named after the wallet (id 1, the default profile, resolvable from the returned handle), and that
    profile's records are exactly the wallet's records (kind Item, type ↦ category, encrypted tags then plaintext
    tags), all readable under the new profile key and none expiring. -/
theorem migrate_rows_exact (A : Aead) (hA : A.Correct) (utf8dec : Bytes → Option String)
    (unwrapKeys : Bytes → Option Keys) (keys : Keys) (pkey : Nat)
    (w : Wallet) (walletName : String) (recs : List Lemmas.Rec)
    (hU : ∀ r ∈ recs, Lemmas.RecDecodes utf8dec r)
    (hfresh : w.migrated = false) (hkeys : unwrapKeys w.keysEnc = some keys)
    (henc : Lemmas.Forall2 (Lemmas.RowEncodes A keys) w.rows recs)
    (huniq : recs.Pairwise (fun a b => ¬(a.typ = b.typ ∧ a.name = b.name))) :
    ∃ st : StoreSt, migrate A utf8dec unwrapKeys pkey w walletName = .ok st ∧
      abs ⟨1, pkey⟩ st.db = recs.map Lemmas.Rec.toEntry ∧
      (∀ it ∈ st.db.items, it.key = pkey ∧ it.expiry = none) ∧
      st.db.profiles = [⟨1, walletName, pkey⟩] ∧ st.default = walletName ∧
      resolve st.db st.h walletName = .ok (⟨1, pkey⟩, st.h) :=
  Lemmas.migrate_rows_exact A hA utf8dec unwrapKeys keys pkey w walletName recs hU hfresh hkeys henc huniq

/-- `decrypt_merged` never panics on a value of at least 12 bytes, and does panic (`split_at`) below that. -/
theorem decrypt_merged_panics_iff_short (A : Aead) (key v : Bytes) :
    decryptMerged A key v = .error .panic ↔ v.length < nonceLen := by
  unfold decryptMerged
  split
  · simp [*]
  · split
    · simp [*]
    · split <;> simp [*]

/-! ### Failure semantics of `migrate` on the wallet file (`migrateFile`; `g` = the whole run is one transaction) -/

/-- "A failed migration leaves the file exactly as it was" for the variant `g` of `migrate`, for every AEAD, decoder,
    key primitives, injected fault, arguments and file. -/
def MigrateAllOrNothingBy (g : Bool) : Prop :=
  ∀ (A : Aead) (utf8dec : Bytes → Option String) (P : KeyPrims) (fault : Option Nat) (a : Args) (f f' : File) (e : Err),
    migrateFile g A utf8dec P fault a f = (f', .error e) → f' = f

/-- … and for the variant the source is (`migrateCurrent = migrateFile migrateAtomic`). -/
def MigrateAllOrNothing : Prop :=
  ∀ (A : Aead) (utf8dec : Bytes → Option String) (P : KeyPrims) (fault : Option Nat) (a : Args) (f f' : File) (e : Err),
    migrateCurrent A utf8dec P fault a f = (f', .error e) → f' = f

/-- **migrate_all_or_nothing**: when the run is one transaction (no `COMMIT` at the end of `pre_upgrade`, no `BEGIN` at
    the start of `finish_upgrade`), every failure — invalid method, already migrated, `fetch_indy_key` (wrong key,
    wrong method, bad metadata, even the `s[..16]` panic), an undecryptable or too short cell, a Duplicate, a backend
    fault at any row deletion — leaves the file as it was. -/
theorem migrate_all_or_nothing : MigrateAllOrNothingBy true := by
  intro A u P fault a f f' e h
  rcases Lemmas.migrateFile_cases true A u P fault a f h with ⟨rfl, _⟩ | ⟨_, _, _, _, _, _, rfl, _⟩ | ⟨_, _, _, _, _, _, _, _, _, hr⟩
  · rfl
  · rfl
  · cases hr

/-- Hence it holds of the source whenever the flag read from it says single transaction. -/
theorem migrate_all_or_nothing_current (hg : migrateAtomic = true) : MigrateAllOrNothing := by
  intro A u P fault a f f' e h
  unfold migrateCurrent at h; rw [hg] at h
  exact migrate_all_or_nothing A u P fault a f f' e h

/-- For the autocommit variant (`g = false`, defect D41) it is false: `pre_upgrade` commits before the wallet key is
    looked at.  Witness: the empty wallet whose `metadata` table has no row, method "RAW" — the run fails (Backend) and
    the file has the Askar tables next to `metadata`. -/
theorem migrate_not_all_or_nothing_without_single_transaction : ¬ MigrateAllOrNothingBy false := by
  intro h
  have hk : Kdf.parse "RAW" = some .raw := by decide +kernel
  have := h toyAead (fun _ => none) ⟨fun _ => none, fun _ _ _ => [], fun _ => none⟩ none ⟨"RAW", "", "w", 1⟩ {}
    { upgraded := true } .backend
    (by rw [Lemmas.migrateFile_of_key_error false _ _ _ none ⟨"RAW", "", "w", 1⟩ {} .raw .backend hk rfl rfl rfl]; rfl)
  cases this

/-- Either way the verdict on the tree at hand is decided by the variant read from the source. -/
theorem migrate_all_or_nothing_status :
    (migrateAtomic = true ∧ MigrateAllOrNothing) ∨ (migrateAtomic = false ∧ ¬ MigrateAllOrNothing) := by
  cases hg : migrateAtomic with
  | true => exact Or.inl ⟨rfl, migrate_all_or_nothing_current hg⟩
  | false =>
    refine Or.inr ⟨rfl, fun h => migrate_not_all_or_nothing_without_single_transaction ?_⟩
    intro A u P fault a f f' e hm
    have := h A u P fault a f f' e
    unfold migrateCurrent at this; rw [hg] at this; exact this hm

/-- What does hold for BOTH variants when a run fails: it is refused before anything is written (invalid method name:
    Input; already migrated or half migrated: Backend), or it failed after `pre_upgrade` — then the variant without the single transaction leaves
    a file that still has `metadata` with its value, whose pending rows are a suffix of the wallet's (no unmigrated row
    is lost), and the error is that of `fetch_indy_key` or of `update_items`. -/
theorem migrate_failure_partial (g : Bool) (A : Aead) (utf8dec : Bytes → Option String) (P : KeyPrims)
    (fault : Option Nat) (a : Args) (f f' : File) (e : Err) (h : migrateFile g A utf8dec P fault a f = (f', .error e)) :
    f' = f ∨ (g = false ∧ f.hasMeta = true ∧ f.upgraded = false ∧ f'.hasMeta = true ∧ f'.upgraded = true ∧
              f'.mval = f.mval ∧ f'.pending <:+ f.pending) := by
  rcases Lemmas.migrateFile_cases g A utf8dec P fault a f h with
    ⟨rfl, _⟩ | ⟨_, cur, _, _, hm, hu, rfl, _, c1, c2, c3, c4, _⟩ | ⟨_, _, _, _, _, _, _, _, _, hr⟩
  · exact .inl rfl
  · cases g with
    | true => exact .inl rfl
    | false => exact .inr ⟨rfl, hm, hu, c1, c2, c3, c4⟩
  · cases hr

/-- A successful run (either variant, any fault position not reached): the file was an un-upgraded wallet, it is now a
    complete Askar store (no `metadata`, no pending row, `version` written) and its tables are what `migrateRows`
    yields — so `migrate_rows_exact` speaks about it. -/
theorem migrate_success_complete (g : Bool) (A : Aead) (utf8dec : Bytes → Option String) (P : KeyPrims)
    (fault : Option Nat) (a : Args) (f f' : File) (h : migrateFile g A utf8dec P fault a f = (f', .ok ())) :
    f.hasMeta = true ∧ f.upgraded = false ∧ f'.isAskar ∧
    ∃ kdf keys, Kdf.parse a.kdf = some kdf ∧ fetchIndyKey A P kdf a.walletKey f.mval = .ok keys ∧
      migrateRows A utf8dec keys a.pkey f.pending { profiles := [⟨1, a.walletName, a.pkey⟩] } = .ok f'.db := by
  rcases Lemmas.migrateFile_cases g A utf8dec P fault a f h with
    ⟨_, ⟨_, hr⟩ | ⟨_, _, hr⟩⟩ | ⟨_, _, _, _, _, _, _, hr, _⟩ | ⟨kdf, keys, db', hk, hm, hu, hf, hup, rfl, _⟩
  · cases hr
  · cases hr
  · cases hr
  · exact ⟨hm, hu, Lemmas.finished_isAskar a kdf f db', kdf, keys, hk, hf,
      ((Lemmas.updateItems_inv A utf8dec keys a.pkey fault _ _).2 _ _ hup).2⟩

/-- Interrupted run (a fault — or the death of the process — at the deletion of any row) in the single-transaction
    variant: the file is the untouched wallet or a complete Askar store, never a mixture. -/
theorem interrupted_migration_never_mixed (A : Aead) (utf8dec : Bytes → Option String) (P : KeyPrims)
    (fault : Option Nat) (a : Args) (f : File) (hf : ¬ f.isMixed) :
    ¬ (migrateFile true A utf8dec P fault a f).1.isMixed := by
  generalize hr : migrateFile true A utf8dec P fault a f = r
  obtain ⟨f', res⟩ := r
  cases res with
  | error e => rw [migrate_all_or_nothing A utf8dec P fault a f f' e hr]; exact hf
  | ok v =>
    cases v
    have := (migrate_success_complete true A utf8dec P fault a f f' hr).2.2.1
    intro hmix
    have h1 : f'.hasMeta = true := hmix.1
    rw [this.1] at h1
    cases h1

/-- … whereas the autocommit variant (`g = false`) does produce the mixture (the witness of
    `migrate_not_all_or_nothing_without_single_transaction`), and that file is stuck: see `half_migrated_is_stuck`. -/
theorem interrupted_migration_mixed_current :
    ∃ (f : File) (a : Args), ¬ f.isMixed ∧
      (migrateFile false toyAead (fun _ => none) ⟨fun _ => none, fun _ _ _ => [], fun _ => none⟩ none a f).1.isMixed := by
  have hk : Kdf.parse "RAW" = some .raw := by decide +kernel
  refine ⟨{}, ⟨"RAW", "", "w", 1⟩, by simp [File.isMixed], ?_⟩
  rw [Lemmas.migrateFile_of_key_error false _ _ _ none ⟨"RAW", "", "w", 1⟩ {} .raw .backend hk rfl rfl rfl]
  simp [File.isMixed]

/-- **wrong_key_refused_wallet_intact** (single-transaction variant): a wallet key or method under which the key
    record does not authenticate — the master key is derivable (`masterKey`), the AEAD says no — is refused with an
    Input error and the wallet file is exactly as before, for every wallet content. -/
theorem wrong_key_refused_wallet_intact (A : Aead) (utf8dec : Bytes → Option String) (P : KeyPrims) (fault : Option Nat)
    (a : Args) (f : File) (kdf : Kdf) (keysEnc : Bytes) (salt : Option Bytes) (master : Bytes)
    (hk : Kdf.parse a.kdf = some kdf) (hm : f.hasMeta = true) (hu : f.upgraded = false)
    (hv : f.mval = .json keysEnc salt) (hs : ∀ s, salt = some s → saltLen ≤ s.length)
    (hmaster : masterKey P kdf a.walletKey (salt.map (·.take saltLen)) = .ok master)
    (hdec : A.dec master (keysEnc.take nonceLen) (keysEnc.drop nonceLen) = none) :
    migrateFile true A utf8dec P fault a f = (f, .error .input) := by
  have := Lemmas.migrateFile_of_key_error true A utf8dec P fault a f kdf .input hk hm hu
    (by rw [hv]; exact Lemmas.fetchIndyKey_wrong_key A P kdf a.walletKey keysEnc salt master hs hmaster hdec)
  simpa using this

/-- The same for every failure of `fetch_indy_key`, with its classification: Backend iff the `metadata` table has no
    row, a PANIC iff the stored salt is shorter than 16 bytes (`s[..16]`, whatever the method), Input otherwise (no
    salt for an Argon2i method, raw key not base58 / not 32 bytes / empty, key record shorter than a nonce, not
    authentic, not msgpack). -/
theorem key_failure_refused_wallet_intact (A : Aead) (utf8dec : Bytes → Option String) (P : KeyPrims) (fault : Option Nat)
    (a : Args) (f : File) (kdf : Kdf) (e : Err)
    (hk : Kdf.parse a.kdf = some kdf) (hm : f.hasMeta = true) (hu : f.upgraded = false)
    (hf : fetchIndyKey A P kdf a.walletKey f.mval = .error e) :
    migrateFile true A utf8dec P fault a f = (f, .error e) ∧
    ((e = .backend ∧ f.mval = .noRow) ∨ (e = .panic ∧ ∃ k s, f.mval = .json k (some s) ∧ s.length < saltLen) ∨ e = .input) := by
  refine ⟨by simpa using Lemmas.migrateFile_of_key_error true A utf8dec P fault a f kdf e hk hm hu hf, ?_⟩
  exact Lemmas.fetchIndyKey_error A P kdf a.walletKey f.mval e hf

/-- "A wrong key leaves the wallet intact", for the variant `g`: true with the single transaction, FALSE without (D41). -/
def WrongKeyLeavesWalletIntactBy (g : Bool) : Prop :=
  ∀ (A : Aead) (utf8dec : Bytes → Option String) (P : KeyPrims) (a : Args) (f : File) (kdf : Kdf) (e : Err),
    Kdf.parse a.kdf = some kdf → f.hasMeta = true → f.upgraded = false →
    fetchIndyKey A P kdf a.walletKey f.mval = .error e → (migrateFile g A utf8dec P none a f).1 = f

theorem wrong_key_leaves_wallet_intact_single_transaction : WrongKeyLeavesWalletIntactBy true := by
  intro A u P a f kdf e hk hm hu hf
  rw [(key_failure_refused_wallet_intact A u P none a f kdf e hk hm hu hf).1]

/-- the autocommit variant (`g = false`): the error is the same, but the file has the (empty) Askar tables afterwards … -/
theorem wrong_key_current (A : Aead) (utf8dec : Bytes → Option String) (P : KeyPrims) (fault : Option Nat)
    (a : Args) (f : File) (kdf : Kdf) (e : Err)
    (hk : Kdf.parse a.kdf = some kdf) (hm : f.hasMeta = true) (hu : f.upgraded = false)
    (hf : fetchIndyKey A P kdf a.walletKey f.mval = .error e) :
    migrateFile false A utf8dec P fault a f = ({ f with upgraded := true }, .error e) := by
  simpa using Lemmas.migrateFile_of_key_error false A utf8dec P fault a f kdf e hk hm hu hf

theorem wrong_key_leaves_wallet_intact_refuted : ¬ WrongKeyLeavesWalletIntactBy false := by
  intro h
  have hk : Kdf.parse "RAW" = some .raw := by decide +kernel
  have := h toyAead (fun _ => none) ⟨fun _ => none, fun _ _ _ => [], fun _ => none⟩ ⟨"RAW", "", "w", 1⟩ {} .raw .backend hk rfl rfl rfl
  rw [wrong_key_current _ _ _ none ⟨"RAW", "", "w", 1⟩ {} .raw .backend hk rfl rfl rfl] at this
  cases this

/-- … and **a half-migrated file is stuck**: every later run — the right key included, either variant of the code —
    is refused (Backend: `CREATE TABLE config` fails; Input for an invalid method name) and changes nothing.  With
    `wrong_key_current`: in the autocommit variant ONE attempt with a wrong key makes the wallet unmigratable; a file
    left in that state stays stuck under the single-transaction variant too. -/
theorem half_migrated_is_stuck (g : Bool) (A : Aead) (utf8dec : Bytes → Option String) (P : KeyPrims) (fault : Option Nat)
    (a : Args) (f : File) (hu : f.upgraded = true) :
    migrateFile g A utf8dec P fault a f = (f, .error (if (Kdf.parse a.kdf).isSome then .backend else .input)) :=
  Lemmas.migrateFile_refused g A utf8dec P fault a f (.inr hu)

/-- The complete run on the file (either variant): the statement of `migrate_rows_exact` with the key path
    (`fetch_indy_key`) and the schema swap spelled out. -/
theorem migrate_file_exact (g : Bool) (A : Aead) (hA : A.Correct) (utf8dec : Bytes → Option String) (P : KeyPrims)
    (a : Args) (f : File) (kdf : Kdf) (keys : Keys) (recs : List Lemmas.Rec)
    (hk : Kdf.parse a.kdf = some kdf) (hm : f.hasMeta = true) (hu : f.upgraded = false)
    (hf : fetchIndyKey A P kdf a.walletKey f.mval = .ok keys)
    (hU : ∀ r ∈ recs, Lemmas.RecDecodes utf8dec r)
    (henc : Lemmas.Forall2 (Lemmas.RowEncodes A keys) f.pending recs)
    (huniq : recs.Pairwise (fun x y => ¬(x.typ = y.typ ∧ x.name = y.name))) :
    ∃ f' : File, migrateFile g A utf8dec P none a f = (f', .ok ()) ∧ f'.isAskar ∧
      f'.config.map (·.1) = ["default_profile", "key", "version"] ∧
      abs ⟨1, a.pkey⟩ f'.db = recs.map Lemmas.Rec.toEntry ∧
      (∀ it ∈ f'.db.items, it.key = a.pkey ∧ it.expiry = none) ∧
      f'.db.profiles = [⟨1, a.walletName, a.pkey⟩] ∧
      resolve (f'.store a.walletName a.pkey).db (f'.store a.walletName a.pkey).h a.walletName =
        .ok (⟨1, a.pkey⟩, (f'.store a.walletName a.pkey).h) := by
  obtain ⟨db', hmr, habs, hall, hprof⟩ := Lemmas.migrateRows_fresh A hA utf8dec keys a.pkey a.walletName f.pending recs henc hU huniq
  refine ⟨Lemmas.finished a kdf f db', ?_, Lemmas.finished_isAskar a kdf f db', by simp [Lemmas.finished], habs, hall, hprof, ?_⟩
  · exact Lemmas.migrateFile_of_items_ok g A utf8dec P none a f kdf keys [] db' hk hm hu hf
      (Lemmas.updateItems_of_migrateRows A utf8dec keys a.pkey _ _ _ hmr)
  · simp [File.store, resolve, cacheGet]

/-- Single-transaction variant: after any number of refused attempts the right key still migrates the wallet, and the
    store holds exactly the wallet's records (the statement of `migrate_rows_exact`, now about the file). -/
theorem wrong_then_right_key_migrates (A : Aead) (hA : A.Correct) (utf8dec : Bytes → Option String) (P : KeyPrims)
    (bad : List Args) (a : Args) (f : File) (kdf : Kdf) (keys : Keys) (recs : List Lemmas.Rec)
    (hbad : ∀ b ∈ bad, ∃ e, (migrateFile true A utf8dec P none b f).2 = .error e)
    (hk : Kdf.parse a.kdf = some kdf) (hm : f.hasMeta = true) (hu : f.upgraded = false)
    (hf : fetchIndyKey A P kdf a.walletKey f.mval = .ok keys)
    (hU : ∀ r ∈ recs, Lemmas.RecDecodes utf8dec r)
    (henc : Lemmas.Forall2 (Lemmas.RowEncodes A keys) f.pending recs)
    (huniq : recs.Pairwise (fun x y => ¬(x.typ = y.typ ∧ x.name = y.name))) :
    bad.foldl (fun f b => (migrateFile true A utf8dec P none b f).1) f = f ∧
    ∃ f' : File, migrateFile true A utf8dec P none a f = (f', .ok ()) ∧ f'.isAskar ∧
      abs ⟨1, a.pkey⟩ f'.db = recs.map Lemmas.Rec.toEntry ∧
      (∀ it ∈ f'.db.items, it.key = a.pkey ∧ it.expiry = none) ∧
      f'.db.profiles = [⟨1, a.walletName, a.pkey⟩] := by
  constructor
  · induction bad with
    | nil => rfl
    | cons b rest ih =>
      obtain ⟨e, he⟩ := hbad b (by simp)
      have : (migrateFile true A utf8dec P none b f).1 = f :=
        migrate_all_or_nothing A utf8dec P none b f _ e (Prod.ext rfl he)
      simp only [List.foldl_cons, this]
      exact ih (fun b' hb' => hbad b' (by simp [hb']))
  · obtain ⟨f', h1, h2, _, h4, h5, h6, _⟩ := migrate_file_exact true A hA utf8dec P a f kdf keys recs hk hm hu hf hU henc huniq
    exact ⟨f', h1, h2, h4, h5, h6⟩

/-- **migrate_idempotence_or_refusal**: what the code does on a second run, exactly — it is a REFUSAL, not a no-op
    success: after a successful migration every further `connect`+`migrate` on the file, with any arguments (right or
    wrong key, any method), either variant, fails with Backend ("Database is already migrated"; Input if the method name
    is invalid — `connect` fails before the file is opened) and leaves the store unchanged. -/
theorem migrate_idempotence_or_refusal (g : Bool) (A : Aead) (utf8dec : Bytes → Option String) (P : KeyPrims)
    (fault : Option Nat) (a : Args) (f f' : File) (h : migrateFile g A utf8dec P fault a f = (f', .ok ())) :
    ∀ (g' : Bool) (A' : Aead) (utf8dec' : Bytes → Option String) (P' : KeyPrims) (fault' : Option Nat) (a' : Args),
      migrateFile g' A' utf8dec' P' fault' a' f' =
        (f', .error (if (Kdf.parse a'.kdf).isSome then .backend else .input)) := by
  intro g' A' u' P' fault' a'
  have := (migrate_success_complete g A utf8dec P fault a f f' h).2.2.1
  exact Lemmas.migrateFile_refused g' A' u' P' fault' a' f' (.inl this.1)

/-- The same refusal for any file without a `metadata` table — an Askar store that never was a wallet, an empty
    database: nothing is written. -/
theorem not_a_wallet_refused (g : Bool) (A : Aead) (utf8dec : Bytes → Option String) (P : KeyPrims) (fault : Option Nat)
    (a : Args) (f : File) (hm : f.hasMeta = false) :
    migrateFile g A utf8dec P fault a f = (f, .error (if (Kdf.parse a.kdf).isSome then .backend else .input)) :=
  Lemmas.migrateFile_refused g A utf8dec P fault a f (.inl hm)

/-- Observation outside the property's domain (a damaged wallet), a fact about the model, which follows the code:
    `s[..16]` on `master_key_salt` — `fetch_indy_key` panics exactly when the stored salt is shorter than 16 bytes, for
    every method (a RAW wallet never uses the salt), key and key record.  (With the single transaction the panic, too,
    leaves the wallet as it was: `key_failure_refused_wallet_intact`.) -/
theorem short_salt_panics_iff (A : Aead) (P : KeyPrims) (kdf : Kdf) (walletKey : String) (m : Meta) :
    fetchIndyKey A P kdf walletKey m = .error .panic ↔ ∃ k s, m = .json k (some s) ∧ s.length < saltLen := by
  constructor
  · intro h
    rcases Lemmas.fetchIndyKey_error A P kdf walletKey m .panic h with ⟨h1, _⟩ | ⟨_, h2⟩ | h3
    · cases h1
    · exact h2
    · cases h3
  · rintro ⟨k, s, rfl, hs⟩
    simp only [fetchIndyKey, hs, if_true]

/-- Observation outside the property's domain (a damaged wallet), a fact about the model: a cell cut below nonce + tag
    never decrypts: below 12 bytes `split_at` panics, from 12 to 27 bytes the error is
    Input ("invalid size"), never a success — for an AEAD that refuses inputs shorter than its tag. -/
theorem short_cell_classified (A : Aead) (key v : Bytes) (hA : ∀ k n c, c.length < tagLen → A.dec k n c = none)
    (hv : v.length < nonceLen + tagLen) :
    decryptMerged A key v = .error (if v.length < nonceLen then .panic else .input) := by
  unfold decryptMerged
  by_cases h : v.length < nonceLen
  · simp [h]
  · have hd : (v.drop nonceLen).length < tagLen := by simp only [List.length_drop]; omega
    simp only [h, if_false, hA _ _ _ hd, hv, if_true]

end Askar.Indy

/-! ### Non-vacuity: the hypotheses are satisfiable -/

namespace Askar.Copy
open Askar.Store

/-- a source with one live record in profile "p", copied into a freshly provisioned target -/
def exSrc : StoreSt :=
  { db := { items := [{ id := 1, pid := 1, key := 5, kind := 2, cat := "c", name := "n", value := [1], tags := [], expiry := none }],
            profiles := [⟨1, "p", 5⟩] },
    h := { cache := [("p", 1, 5)], nextKey := 6 }, default := "p" }

example : Sorted exSrc.db := by simp [Sorted, exSrc]

/-- `copy_into_fresh_succeeds` applies to it (so the hypothesis of `copy_profile_exact` is met by a real run) -/
example : ∃ dst' n', copyProfile 32 0 none 0 exSrc (provision 9 "p") "p" "p" = ({ exSrc with h := exSrc.h }, dst', n', .ok ()) := by
  apply copy_into_fresh_succeeds 32 0 0 exSrc (provision 9 "p") "p" "p" ⟨1, 5⟩ exSrc.h
  · rfl
  · intro it hit _ _; simp [exSrc] at hit; subst hit; rfl
  · simp [Lemmas.DistinctIdents, liveAbs, exSrc, live]
  · simp [Sorted, exSrc]
  · intro sd hd _ it hit; cases hit

/-- `copy_refuses_nonempty`: hypotheses met by copying the store onto itself -/
example : copyProfile 32 0 none 0 exSrc exSrc "p" "p" = ({ exSrc with h := exSrc.h }, { exSrc with h := exSrc.h }, 0, .error .input) := by
  apply copy_refuses_nonempty 32 0 none 0 exSrc exSrc "p" "p" ⟨1, 5⟩ ⟨1, 5⟩
  · rfl
  · rfl
  · rfl
  · decide +kernel

/-- `copy_store_all_profiles`: a source with two profiles and one record each (default profile "p"; the handle has
    only "p" cached, so "q" goes through the table), page size 1 -/
def exSrc2 : StoreSt :=
  { db := { items := [{ id := 1, pid := 1, key := 5, kind := 2, cat := "c", name := "n", value := [1], tags := [], expiry := none },
                      { id := 2, pid := 2, key := 6, kind := 2, cat := "c", name := "n", value := [2], tags := [], expiry := none }],
            profiles := [⟨1, "p", 5⟩, ⟨2, "q", 6⟩] },
    h := { cache := [("p", 1, 5)], nextKey := 7 }, default := "p" }

/-- what `copy_store` leaves at the target (keys from `keyBase = 9`) -/
def exDst2 : StoreSt :=
  { db := { items := [{ id := 1, pid := 1, key := 9, kind := 2, cat := "c", name := "n", value := [1], tags := [], expiry := none },
                      { id := 2, pid := 2, key := 10, kind := 2, cat := "c", name := "n", value := [2], tags := [], expiry := none }],
            profiles := [⟨1, "p", 9⟩, ⟨2, "q", 10⟩] },
    h := { cache := [("q", 2, 10), ("p", 1, 9)], nextKey := 11 }, default := "p" }

theorem exSrc2_list : listProfiles exSrc2.db = ["p", "q"] := by decide +kernel

/-- the run succeeds: the success hypothesis of `copy_store_all_profiles` is met by a real run -/
theorem exSrc2_copy : copyStore 1 0 none 9 exSrc2 none true =
    ({ exSrc2 with h := { cache := [("q", 2, 6), ("p", 1, 5)], nextKey := 7 } }, some exDst2, .ok ()) := by
  simp only [copyStore, exSrc2_list]
  simp [copyLoop, copyProfile, copyInto, resolve, cacheGet, cachePut, createProfile, provision, exSrc2, exDst2, doCount,
    doScan, selectRows, decryptRows, decryptRow, sortById, insertById, window, batches, drainScan, importScan, importRows,
    doInsert, nextId, Item.inScope, Item.sameIdent, live, matchFilter, matchTags]

/-- … and so are the other hypotheses -/
example : Sorted exSrc2.db ∧ ProfilesWF exSrc2.db ∧ CacheCoherent exSrc2.db exSrc2.h ∧
    exSrc2.default ∈ exSrc2.db.profiles.map (·.name) := by
  exact ⟨by simp [Sorted, exSrc2], by simp [ProfilesWF, exSrc2], Lemmas.cacheCoherent_singleton (by simp [exSrc2]),
    by decide +kernel⟩

/-- the conclusion is not trivially true: both target profiles are non-empty and different -/
example : abs ⟨1, 9⟩ exDst2.db = [⟨2, "c", "n", [1], []⟩] ∧ abs ⟨2, 10⟩ exDst2.db = [⟨2, "c", "n", [2], []⟩] :=
  ⟨rfl, rfl⟩

/-- the dangling-default case of `copy_store_all_profiles_gen` is met by a real run too (the witness of
    `copy_store_same_profiles_refuted`): no profile in the source, default profile "a" -/
example : copyStore 32 0 none 7 { db := {}, h := {}, default := "a" } none true =
    ({ db := {}, h := {}, default := "a" }, some (provision 7 "a"), .ok ()) := rfl

end Askar.Copy

namespace Askar.Indy
open Askar.Store Askar.Copy Lemmas

/-- a correct AEAD exists -/
example : toyAead.Correct := toyAead_correct

/-- a wallet with one record carrying one tag of each kind, encoded with the toy AEAD, a 32-byte item key and
    12-byte nonces; all strings empty so that the decoder fact is checkable (`utf8 "" = []`) -/
example : ∃ (w : Wallet) (keys : Keys) (recs : List Rec) (dec : Bytes → Option String),
    recs ≠ [] ∧ (∀ r ∈ recs, RecDecodes dec r) ∧ w.migrated = false ∧
    Forall2 (RowEncodes toyAead keys) w.rows recs ∧
    recs.Pairwise (fun a b => ¬(a.typ = b.typ ∧ a.name = b.name)) := by
  let n12 : Bytes := List.replicate 12 0
  let ik : Bytes := List.replicate 32 9
  let keys : Keys := ⟨[1], [2], [3], [4], [5]⟩
  let sealed (k m : Bytes) : Bytes := n12 ++ toyAead.enc k n12 m
  have hs : ∀ k m, Sealed toyAead k m (sealed k m) := fun k m => ⟨n12, rfl, rfl⟩
  have hu : utf8 "" = [] := by decide +kernel
  refine ⟨{ rows := [{ id := 1, typ := sealed [1] [], name := sealed [2] [], value := some (sealed ik [7, 7]), key := sealed [3] ik,
                        tagsEnc := [(sealed [4] [], sealed [5] [])], tagsPlain := [(sealed [4] [], [])] }] },
          keys, [⟨"", "", [7, 7], [("", "")], [("", "")]⟩], (fun b => if b = [] then some "" else none), List.cons_ne_nil _ _, ?_, rfl, ?_,
          List.pairwise_singleton _ _⟩
  · intro r hr
    simp only [List.mem_singleton] at hr
    subst hr
    simp [RecDecodes, TagsDecode, Decodes, hu]
  · refine .cons ⟨?_, ?_, ⟨ik, sealed ik [7, 7], rfl, hs _ _, rfl, hs _ _⟩, ?_, ?_⟩ .nil
    · rw [hu]; exact hs _ _
    · rw [hu]; exact hs _ _
    · exact .cons ⟨by simp only [hu]; exact hs _ _, by simp only [if_true, hu]; exact hs _ _⟩ .nil
    · exact .cons ⟨by simp only [hu]; exact hs _ _, by simp [hu]⟩ .nil

/-! #### non-vacuity of the failure theorems -/

/-- the driver's AEAD (lengths of ChaCha20-Poly1305) is correct, and refuses inputs shorter than its tag (the
    hypothesis of `short_cell_classified`) -/
example : macAead.Correct := macAead_correct
example : ∀ k n c, c.length < tagLen → macAead.dec k n c = none := by
  intro k n c h; simp [macAead, h]

/-- toy key primitives: the raw key "k" denotes the master key [1], every other string none; one key record -/
def exPrims : KeyPrims :=
  ⟨fun s => if s = "k" then some [1] else none, fun _ _ _ => [2], fun b => if b = [7] then some ⟨[1], [2], [3], [4], [5]⟩ else none⟩

/-- a RAW wallet without records whose key record is sealed under [1] -/
def exWallet : File := { mval := .json (List.replicate 12 0 ++ toyAead.enc [1] (List.replicate 12 0) [7]) none }

theorem exWallet_key : fetchIndyKey toyAead exPrims .raw "k" exWallet.mval = .ok ⟨[1], [2], [3], [4], [5]⟩ := by rfl

/-- the right key migrates it (hypothesis of `migrate_idempotence_or_refusal` and of `migrate_success_complete`) … -/
example : ∃ f', migrateFile false toyAead (fun _ => none) exPrims none ⟨"RAW", "k", "w", 1⟩ exWallet = (f', .ok ()) :=
  ⟨_, Lemmas.migrateFile_of_items_ok false toyAead _ exPrims none ⟨"RAW", "k", "w", 1⟩ exWallet .raw _ [] _ (by decide) rfl rfl exWallet_key rfl⟩

/-- … a master key that is not the wallet's meets the hypotheses of `wrong_key_refused_wallet_intact` (key "j" denotes
    the master key [9] under these primitives) -/
example : migrateFile true toyAead (fun _ => none)
    ⟨fun s => if s = "j" then some [9] else none, fun _ _ _ => [2], fun _ => none⟩ none ⟨"RAW", "j", "w", 1⟩ exWallet =
    (exWallet, .error .input) := by
  apply wrong_key_refused_wallet_intact toyAead _ _ none ⟨"RAW", "j", "w", 1⟩ exWallet .raw _ none [9] (by decide +kernel) rfl rfl rfl
  · intro s hs; cases hs
  · rfl
  · rfl

/-- … and the failing run of `migrate_failure_partial` / `wrong_key_current` exists for the autocommit variant (`g = false`): key "x" is
    no raw key → Input, the file is left half migrated, and (`half_migrated_is_stuck`) the right key is refused too -/
example : migrateFile false toyAead (fun _ => none) exPrims none ⟨"RAW", "x", "w", 1⟩ exWallet =
      ({ exWallet with upgraded := true }, .error .input) ∧
    migrateFile false toyAead (fun _ => none) exPrims none ⟨"RAW", "k", "w", 1⟩ { exWallet with upgraded := true } =
      ({ exWallet with upgraded := true }, .error .backend) := by
  have hk : Kdf.parse "RAW" = some .raw := by decide +kernel
  refine ⟨wrong_key_current toyAead _ exPrims none ⟨"RAW", "x", "w", 1⟩ exWallet .raw .input hk rfl rfl rfl, ?_⟩
  · have := half_migrated_is_stuck false toyAead (fun _ => none) exPrims none ⟨"RAW", "k", "w", 1⟩ { exWallet with upgraded := true } rfl
    simpa [hk] using this

/-- `short_salt_panics_iff`: a 15-byte salt on a RAW wallet -/
example : fetchIndyKey toyAead exPrims .raw "k" (.json [] (some (List.replicate 15 0))) = .error .panic := rfl

end Askar.Indy
