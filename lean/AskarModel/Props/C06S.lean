/-
C06, engine C06S: every STORE-LEVEL mutating call — create_profile, remove_profile, set_default_profile,
rekey, the record import of copy_profile / import_scan, provisioning with `recreate` — is all-or-nothing under a
failure of any of its internal SQL statements and under a process kill at any instant, the store stays usable with
the key it had, and acknowledged calls survive.  Model: `AskarModel.Model.StoreFault` (each call = the list of its
statements inside one transaction; fault = index of the failing statement; kill = number of completed steps).
Lemmas in Lemmas/StoreFault.lean.
-/
import AskarModel.Lemmas.StoreFault

namespace Askar.StoreFault

/-- For EVERY call, state and statement index `k`: either the call reports an error and database AND handle are exactly
    what they were, or `k` lies beyond the call's last statement and the run is the fault-free run. -/
theorem store_call_all_or_nothing (c : Call) (h : Handle) (st : St) (k : Nat) :
    (∃ e, runCall (some k) h c st = (st, h, .err e)) ∨
    ((stmts h c st).length ≤ k ∧ runCall (some k) h c st = runCall none h c st) :=
  Lemmas.runCall_all_or_nothing k h c st

/-- Whatever makes a call report an error (an injected fault, a statement failing by itself, Duplicate): nothing changed. -/
theorem failed_call_changes_nothing (f : Option Nat) (h : Handle) (c : Call) (st : St)
    (herr : (runCall f h c st).2.2.isErr = true) :
    (runCall f h c st).1 = st ∧ (runCall f h c st).2.1 = h :=
  Lemmas.runCall_err_unchanged f h c st herr

/-- After a failed call every later call (faulted or not) behaves exactly as from the state before it:
    `run (failed :: rest) = run rest`, on the database, on the handle and on every reported result. -/
theorem failed_call_then_usable (f : Option Nat) (h : Handle) (c : Call) (st : St) (rest : List (Call × Option Nat))
    (herr : (runCall f h c st).2.2.isErr = true) :
    (runSeq h st ((c, f) :: rest)).1 = (runSeq h st rest).1 ∧
    (runSeq h st ((c, f) :: rest)).2.1 = (runSeq h st rest).2.1 ∧
    (runSeq h st ((c, f) :: rest)).2.2 = (runCall f h c st).2.2 :: (runSeq h st rest).2.2 := by
  rw [Lemmas.failed_call_then_usable f h c st rest herr]
  exact ⟨rfl, rfl, rfl⟩

/-- "Remains fully usable with its previous key": on a handle that holds the store key of a consistent store, ANY call under
    ANY fault leaves a consistent store whose key is the one the handle holds — the handle keeps reading every profile, a
    profile it creates next is wrapped with the right key, and closing + reopening with that key works (`opens_iff`). -/
theorem store_stays_usable (f : Option Nat) (h : Handle) (c : Call) (st : St)
    (hc : Consistent st) (hh : h.cacheKey = st.storeKey) :
    Consistent (runCall f h c st).1 ∧ (runCall f h c st).2.1.cacheKey = (runCall f h c st).1.storeKey := by
  by_cases hre : ∃ new, c = .rekey new
  · -- a re-key passes through states that are not consistent: only its complete effect is
    obtain ⟨new, rfl⟩ := hre
    rcases Lemmas.rekey_result f h new st with ⟨e, he⟩ | he
    · rw [he]; exact ⟨hc, hh⟩
    · rw [he]; exact ⟨Lemmas.consistent_rekeyed new st, rfl⟩
  · have hu : Lemmas.Usable h.cacheKey st := Lemmas.usable_iff.mpr ⟨hc, hh⟩
    unfold runCall
    cases hr : runTxn f 0 (stmts h c st) st with
    | error e => exact ⟨hc, hh⟩
    | ok st' =>
      have hu' : Lemmas.Usable h.cacheKey st' :=
        Lemmas.runTxn_invariant _ f _ (Lemmas.usable_stmts h c st fun new e => hre ⟨new, e⟩) 0 st st' hr hu
      have hha : handleAfter h c = h := by
        cases c with
        | rekey new => exact absurd ⟨new, rfl⟩ hre
        | _ => rfl
      rw [hha]
      exact Lemmas.usable_iff.mp hu'

/-- In a consistent store that contains the opened profile, a key opens the store iff it is the key the config row names. -/
theorem opens_iff_store_key (k : KeyId) (active : String) (st : St) (hc : Consistent st) (ha : st.has active = true) :
    opens k active st = true ↔ k = st.storeKey :=
  Lemmas.opens_iff k active st hc ha

/-- A re-key of a consistent store under ANY fault (any of the per-profile UPDATEs, the config UPDATE, none): the content is
    unchanged, every profile key is wrapped with the key the config row names, the handle's in-memory key is that key
    (swapped only by a committed re-key), exactly one of {old key, new key} opens the store — the new one iff the call
    reported success, the old one (with the database untouched) iff it reported an error. -/
theorem rekey_old_xor_new (f : Option Nat) (h : Handle) (st : St) (new : KeyId) (active : String)
    (hc : Consistent st) (hh : h.cacheKey = st.storeKey) (ha : st.has active = true) (hne : new ≠ st.storeKey) :
    content (runCall f h (.rekey new) st).1 = content st ∧
    Consistent (runCall f h (.rekey new) st).1 ∧
    (runCall f h (.rekey new) st).2.1.cacheKey = (runCall f h (.rekey new) st).1.storeKey ∧
    (opens st.storeKey active (runCall f h (.rekey new) st).1 = true ↔ ¬ opens new active (runCall f h (.rekey new) st).1 = true) ∧
    ((runCall f h (.rekey new) st).2.2 = .ok → opens new active (runCall f h (.rekey new) st).1 = true) ∧
    ((runCall f h (.rekey new) st).2.2.isErr = true →
        opens st.storeKey active (runCall f h (.rekey new) st).1 = true ∧ (runCall f h (.rekey new) st).1 = st) := by
  rcases Lemmas.rekey_result f h new st with ⟨e, he⟩ | he <;> rw [he]
  · obtain ⟨h1, h2, h3⟩ := Lemmas.rekey_outcomes st new active hc ha hne st (Or.inl rfl)
    exact ⟨h1, h2, hh, h3, fun hok => (nomatch hok), fun _ => ⟨(Lemmas.opens_iff _ active st hc ha).mpr rfl, rfl⟩⟩
  · obtain ⟨h1, h2, h3⟩ := Lemmas.rekey_outcomes st new active hc ha hne _ (Or.inr rfl)
    have ha' : (Lemmas.rekeyed new st).has active = true := (Lemmas.has_rekeyed new st active).trans ha
    exact ⟨h1, h2, rfl, h3, fun _ => (Lemmas.opens_iff _ active _ h2 ha').mpr rfl, fun herr => by simp [Out.isErr] at herr⟩

/-- A process kill at any step of a re-key (any of its statements, before or after COMMIT): exactly one of the two keys opens,
    every profile is readable with it, and the content is unchanged. -/
theorem rekey_kill_old_xor_new (j : Nat) (h : Handle) (st : St) (new : KeyId) (active : String)
    (hc : Consistent st) (ha : st.has active = true) (hne : new ≠ st.storeKey) :
    content (killCall j h (.rekey new) st) = content st ∧ Consistent (killCall j h (.rekey new) st) ∧
    (opens st.storeKey active (killCall j h (.rekey new) st) = true ↔ ¬ opens new active (killCall j h (.rekey new) st) = true) := by
  apply Lemmas.rekey_outcomes st new active hc ha hne
  rcases Lemmas.killCall_cases j h (.rekey new) st with hk | hk
  · exact Or.inl hk
  · rcases Lemmas.rekey_result none h new st with ⟨e, he⟩ | he <;> rw [hk, he]
    · exact Or.inl rfl
    · exact Or.inr rfl

/-- For every call sequence, every number `n` of acknowledged calls and every kill point `j` inside the next call, the reopened
    database is the state after the `n` acknowledged calls, or that state plus the COMPLETE call in flight. -/
theorem acknowledged_calls_survive_kill (cs : List Call) (h : Handle) (st : St) (n j : Nat) :
    crash h st cs n j = afterN h st cs n ∨ crash h st cs n j = afterN h st cs (n + 1) := by
  induction cs generalizing h st n with
  | nil => left; simp [crash, Lemmas.afterN_nil]
  | cons c cs ih =>
    cases n with
    | zero =>
      simp only [crash, Lemmas.afterN_zero]
      rcases Lemmas.killCall_cases j h c st with hk | hk
      · left; exact hk
      · right; rw [hk, Lemmas.afterN_succ, Lemmas.afterN_zero]
    | succ n =>
      simp only [crash, Lemmas.afterN_succ]
      exact ih _ _ n

/-- `copy_profile` under a fault at any statement (0 = the INSERT of its create_profile, 1… = the import transaction): it reports
    an error and every record of the store is what it was — the state is the one before, or the one before plus the (complete)
    creation of an EMPTY target profile — or the fault lies beyond the last statement and the run is the fault-free run. -/
theorem copy_import_all_or_nothing (fault : Option Nat) (h : Handle) (to : String) (recs : List Rec) (st : St) :
    (∃ e, (runCopy fault h to recs st).2 = .err e ∧
        ((runCopy fault h to recs st).1 = st ∨
         (runCopy fault h to recs st).1 = { st with profiles := st.profiles ++ [⟨to, h.cacheKey, []⟩] })) ∨
    runCopy fault h to recs st = runCopy none h to recs st := by
  rcases Lemmas.copy_import_all_or_nothing fault h to recs st with ⟨e, he, hs⟩ | hr
  · refine Or.inl ⟨e, he, ?_⟩
    rcases hs with hs | hs
    · exact Or.inl hs
    · rcases Lemmas.createProfile_state h to st with hc | hc
      · exact Or.inl (hs.trans hc)
      · exact Or.inr (hs.trans hc)
  · exact Or.inr hr

/-- A process kill at any step of `copy_profile`: nothing, the complete create_profile, or the complete copy. -/
theorem copy_kill_all_or_nothing (j : Nat) (h : Handle) (to : String) (recs : List Rec) (st : St) :
    killCopy j h to recs st = st ∨ killCopy j h to recs st = (runCall none h (.createProfile to) st).1 ∨
    killCopy j h to recs st = (runCopy none h to recs st).1 := by
  unfold killCopy
  split
  · rcases Lemmas.killCall_cases j h (.createProfile to) st with hk | hk
    · exact Or.inl hk
    · exact Or.inr (Or.inl hk)
  · rcases Lemmas.killCall_cases (j - 2) h (.importRecs to recs true) (runCall none h (.createProfile to) st).1 with hk | hk
    · exact Or.inr (Or.inl hk)
    · exact Or.inr (Or.inr (by rw [hk, Lemmas.runCopy_eq none (by simp)]; rfl))

/-- Provisioning over an existing file with `recreate`, killed at any step: the old store, no store, or the complete new one. -/
theorem provision_recreate_kill (j : Nat) (old : Option St) (k : KeyId) (profile : String) :
    provisionKill j old k profile = old ∨ provisionKill j old k profile = none ∨
    provisionKill j old k profile = (provisionRecreate true k profile).1 := by
  unfold provisionKill
  split
  · exact Or.inl rfl
  · exact Or.inr (Or.inl rfl)
  · exact Or.inr (Or.inr rfl)

/-! ### non-vacuity: two profiles, a re-key of four statements (load, two UPDATEs, the config UPDATE) -/

def ex2 : St := ⟨[⟨"p0", 7, [⟨"c", "n", "aa", [(0, "t", "v")]⟩]⟩, ⟨"p1", 7, []⟩], 7, "p0"⟩

example : Consistent ex2 := by
  intro p hp
  simp only [ex2, List.mem_cons, List.mem_nil_iff, or_false] at hp
  rcases hp with rfl | rfl <;> rfl

example : ex2.has "p0" = true := by decide +kernel
example : (stmts ⟨7⟩ (.rekey 9) ex2).length = 4 := by decide +kernel
-- the second per-profile UPDATE fails: error, nothing changed, the old key opens, the new one does not
example : runCall (some 2) ⟨7⟩ (.rekey 9) ex2 = (ex2, ⟨7⟩, .err .backend) := by decide +kernel
example : opens 7 "p0" (runCall (some 2) ⟨7⟩ (.rekey 9) ex2).1 = true ∧ opens 9 "p0" (runCall (some 2) ⟨7⟩ (.rekey 9) ex2).1 = false := by decide +kernel
-- the config UPDATE fails
example : runCall (some 3) ⟨7⟩ (.rekey 9) ex2 = (ex2, ⟨7⟩, .err .backend) := by decide +kernel
-- beyond the last statement: complete; the new key opens, the old one does not; the handle's key is the new one
example : runCall (some 4) ⟨7⟩ (.rekey 9) ex2 = runCall none ⟨7⟩ (.rekey 9) ex2 := by decide +kernel
example : opens 9 "p0" (runCall none ⟨7⟩ (.rekey 9) ex2).1 = true ∧ opens 7 "p0" (runCall none ⟨7⟩ (.rekey 9) ex2).1 = false ∧
    (runCall none ⟨7⟩ (.rekey 9) ex2).2.1 = ⟨9⟩ := by decide +kernel
-- what a per-profile COMMIT would leave behind is excluded by the theorems: p0 re-wrapped, p1 and the config row not
example : ¬ Consistent ⟨[⟨"p0", 9, []⟩, ⟨"p1", 7, []⟩], 7, "p0"⟩ := by
  intro h
  have := h ⟨"p0", 9, []⟩ (by simp)
  simp at this
-- a copy whose second record insert fails: the target profile exists and is empty, every other record is untouched
example : runCopy (some 3) ⟨7⟩ "t" [⟨"c", "a", "01", []⟩, ⟨"c", "b", "02", []⟩] ex2 =
    ({ ex2 with profiles := ex2.profiles ++ [⟨"t", 7, []⟩] }, .err .backend) := by decide +kernel
example : (runCopy none ⟨7⟩ "t" [⟨"c", "a", "01", []⟩, ⟨"c", "b", "02", []⟩] ex2).2 = .ok := by decide +kernel
-- killed one step before the COMMIT of a re-key / right after it
example : killCall 4 ⟨7⟩ (.rekey 9) ex2 = ex2 := by decide +kernel
example : (killCall 5 ⟨7⟩ (.rekey 9) ex2).storeKey = 9 := by decide +kernel

end Askar.StoreFault
