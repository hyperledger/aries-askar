/-
C04 — WQL filters select exactly the records their reference semantics define.
Property theorems and non-vacuity examples; the lemmas are in Lemmas/Wql.lean and Lemmas/WqlJson.lean.
-/
import AskarModel.Model.Wql
import AskarModel.Lemmas.Wql
import AskarModel.Model.WqlJson
import AskarModel.Lemmas.WqlJson

namespace Askar.Wql

/-- For every filter in the property's domain, every tag crypto satisfying the
    stated idealisation, every LIKE relation and every record (tag list, any length), the SQL that
    the encoder emits, evaluated as SQLite evaluates it on the stored (encrypted) tag rows, selects
    the record iff the reference semantics says so. -/
theorem encode_correct (like : Bytes → Bytes → Bool) (E : TagCrypto) (hE : E.Inj)
    (q : Query TagName) (hq : q.InDomain) (tags : List Tag)
    (hP : E.NoPrefixCollision (q.values ++ tags.map (·.value))) :
    evalFilter like (encodeQuery E q) (tags.map E.encTag) = holds like tags q :=
  Lemmas.encode_correct like E hE q hq tags hP

/-- The same, for a whole store scan: over any number of records, the records the emitted SQL
    selects are exactly those the reference semantics selects — so count / fetch-all / remove-all
    operate on exactly the reference set. -/
theorem filter_selects_ref (like : Bytes → Bytes → Bool) (E : TagCrypto) (hE : E.Inj)
    (q : Query TagName) (hq : q.InDomain) (recs : List (List Tag))
    (hP : E.NoPrefixCollision (q.values ++ recs.flatten.map (·.value))) :
    (recs.filter fun tags => evalFilter like (encodeQuery E q) (tags.map E.encTag))
      = recs.filter (holds like · q) := by
  apply List.filter_congr
  intro tags htags
  apply encode_correct like E hE q hq tags
  apply Lemmas.NoPrefixCollision.mono hP
  intro v hv
  rcases List.mem_append.mp hv with hv | hv
  · exact List.mem_append_left _ hv
  · apply List.mem_append_right
    obtain ⟨t, ht, rfl⟩ := List.mem_map.mp hv
    exact List.mem_map_of_mem (List.mem_flatten.mpr ⟨tags, htags, ht⟩)

/-- Every placeholder index used by the emitted clause denotes an argument that was pushed. -/
theorem encode_args_bound (E : TagCrypto) (q : Query TagName) (c : Clause)
    (h : (encodeQuery E q).1 = some c) : c.Bounded (encodeQuery E q).2.length := by
  intro i hi
  rw [Lemmas.encodeQuery_argRefs E q c h] at hi
  simpa using hi

/-- Placeholder numbering: after `replace_arg_placeholders` with offset `start`, the k-th
    placeholder of the rendered clause is `?(start + k)`, i.e. it is bound to the k-th filter
    argument appended after the fixed parameters — and that is the argument the clause tree means. -/
theorem placeholders_numbered (E : TagCrypto) (q : Query TagName) (c : Clause) (start : Nat) (hs : 1 ≤ start)
    (h : (encodeQuery E q).1 = some c) :
    (replaceToks start 0 (render c)).filterMap (fun | .inr n => some n | .inl _ => none)
      = (c.argRefs).map (· + start)
    ∧ c.argRefs = List.range (encodeQuery E q).2.length :=
  Lemmas.placeholders_numbered E q c start hs h

/-- `$not` is exact complement whenever no multi-name `$exist` occurs (for that one see `not_exist_per_name`). -/
theorem negate_is_complement (like : Bytes → Bytes → Bool) (q : Query TagName) (h1 : q.SingleNameExist)
    (tags : List Tag) : holds like tags (.not q) = !holds like tags q :=
  Lemmas.negate_is_complement like q h1 tags

/-- Without a multi-name `$exist` the polarity-passing reference semantics *is* the plain Boolean one. -/
theorem holds_eq_std (like : Bytes → Bytes → Bool) (q : Query TagName) (h1 : q.SingleNameExist)
    (tags : List Tag) : holds like tags q = std like tags q :=
  Lemmas.holds_eq_std like q h1 tags

/-- The multi-name `$exist` under `$not` is read per name. -/
theorem not_exist_per_name (like : Bytes → Bytes → Bool) (ns : List TagName) (tags : List Tag) :
    holds like tags (.not (.exist ns)) = ns.all fun n => !atomExist n tags := by
  simp [holds, holdsP]

/-- What the code does with nested empty connectives (outside the domain):
    a child without a clause is dropped from its parent. -/
theorem encode_nested_empty (E : TagCrypto) (neg : Bool) (args : List Bytes) (qs : List (Query TagName)) :
    encodeList E neg args (.and [] :: qs) = encodeList E neg args qs ∨ neg = true :=
  Lemmas.encode_nested_empty E neg args qs

/-! Non-vacuity: the toy crypto satisfies the hypotheses on a concrete value set; a concrete filter
    with negation, a multi-valued `$in`, both tag kinds and an ordered comparison is in the domain;
    and the theorem's two sides are `true` on a concrete record (so neither side is constant). -/
example : TagCrypto.toy.Inj := Lemmas.toy_inj
example : TagCrypto.toy.NoPrefixCollision ["1", "x", "y", "5", "7"] := by
  -- `utf8` goes through `ByteArray.toList` (well-founded recursion), which `decide` cannot unfold;
  -- `Lemmas.utf8_eq : utf8 s = s.toByteArray.data.toList` puts it in a reducible form first.
  unfold TagCrypto.NoPrefixCollision TagCrypto.toy; simp only [Lemmas.utf8_eq]; decide +kernel

def exQ : Query TagName := .and [.not (.or [.cmp .eq (.enc "a") "1", .isIn (.plain "b") ["x", "y"]]),
    .cmp .gte (.plain "n") "5", .exist [.enc "a"]]
example : exQ.InDomain := by decide +kernel
example : holds (fun _ _ => false) [⟨false, "a", "7"⟩, ⟨true, "n", "5"⟩] exQ = true := by
  simp only [exQ, holds, holdsP, holdsAll, holdsAny, atomCmp, atomIn, atomExist, Lemmas.utf8_eq]
  decide +kernel
example : holds (fun _ _ => false) [⟨false, "a", "1"⟩, ⟨true, "n", "5"⟩] exQ = false := by
  simp only [exQ, holds, holdsP, holdsAll, holdsAny, atomCmp, atomIn, atomExist, Lemmas.utf8_eq]
  decide +kernel

/-! ## The JSON form (`wql/query.rs`, `mod serde_support`; model in Model/WqlJson.lean)

"A filter serialised to JSON and parsed back selects the same records"; "JSON round-trip excludes
the empty `$or`, which the JSON form cannot express". -/

/-- Round trip: for every filter the JSON form can express, `Deserialize` applied to `to_value`
    succeeds and returns the explicit normal form `normJ` (the filter itself, except that an empty
    `$exist` list has become the empty `$and`). -/
theorem json_roundtrip (q : Query String) (h : q.jsonExpressible) :
    parseQuery (toValue q) = .ok (normJ q) :=
  Lemmas.json_roundtrip_names q ((Lemmas.jsonExpressible_iff q).mp h).2

/-- The same under the weaker hypothesis that actually matters for *parsing back*: no compared
    tag name is a reserved key.  (With an empty `$or` inside, `normJ` shows what comes back.) -/
theorem json_roundtrip_names (q : Query String) (h : q.namesUnreserved) :
    parseQuery (toValue q) = .ok (normJ q) :=
  Lemmas.json_roundtrip_names q h

/-- Through the text (`TagFilter::to_string` then `TagFilter::from_str`): the same, as long as the
    JSON nesting stays within what serde_json's parser accepts (127 levels). -/
theorem json_text_roundtrip (q : Query String) (h : q.jsonExpressible)
    (hd : (toValue q).depth ≤ jsonDepthLimit) : jsonRoute q = .ok (normJ q) := by
  rw [jsonRoute, if_pos hd]
  exact json_roundtrip q h

/-- The parsed-back filter has the same reference meaning: on every record, for every LIKE
    relation.  Domain: C04's (no nested empty list), as for `encode_correct`. -/
theorem json_roundtrip_same_records (like : Bytes → Bytes → Bool) (q : Query String)
    (h : q.jsonExpressible) (hd : (tagQuery q).InDomain) (tags : List Tag) :
    holds like tags (tagQuery (normJ q)) = holds like tags (tagQuery q) :=
  Lemmas.normJ_congr (holds like tags) rfl q ((Lemmas.jsonExpressible_iff q).mp h).1 hd

/-- Stronger, and about the code rather than the reference: the parsed-back filter is encoded to
    the very same SQL clause and arguments, so it selects the same rows whatever the store holds. -/
theorem json_roundtrip_same_sql (E : TagCrypto) (q : Query String)
    (h : q.jsonExpressible) (hd : (tagQuery q).InDomain) :
    encodeQuery E (tagQuery (normJ q)) = encodeQuery E (tagQuery q) :=
  Lemmas.normJ_congr (encodeQuery E) rfl q ((Lemmas.jsonExpressible_iff q).mp h).1 hd

/-- Both together, in the property's words: serialise, parse back, and the result exists and
    selects the same records. -/
theorem json_roundtrip_selects_same (like : Bytes → Bytes → Bool) (q : Query String)
    (h : q.jsonExpressible) (hd : (tagQuery q).InDomain) :
    ∃ q', parseQuery (toValue q) = .ok q' ∧
      ∀ tags, holds like tags (tagQuery q') = holds like tags (tagQuery q) :=
  ⟨normJ q, json_roundtrip q h, json_roundtrip_same_records like q h hd⟩

/-- `to_value` only builds objects that are already in `BTreeMap` order (at most one member each),
    so the parser model's assumption holds on everything the round trip feeds it. -/
theorem toValue_wf (q : Query String) : (toValue q).wf = true := Lemmas.toValue_wf q

/-- The documented exclusion, stated outright: the empty `$or` (selects nothing) is written as `{}`,
    which reads back as the empty `$and` (selects everything). -/
theorem json_or_empty_not_expressible : parseQuery (toValue (.or [])) = .ok (.and []) := rfl

/-- ... and the two really differ: on every record. -/
theorem json_or_empty_differs (like : Bytes → Bytes → Bool) (tags : List Tag) :
    holds like tags (tagQuery (.or [])) = false ∧ holds like tags (tagQuery (.and [])) = true :=
  ⟨rfl, rfl⟩

/-- "Cannot express", in full: NO JSON value whatsoever parses to a filter containing an empty
    `$or` (or an empty `$exist`) at any depth. -/
theorem json_cannot_express_empty_or (j : J) (q : Query String) (h : parseQuery j = .ok q) :
    q.noEmptyOr = true ∧ noEmptyOrExist q = true :=
  ⟨Lemmas.noEmptyOr_of_noEmptyOrExist q (Lemmas.parseQuery_noEmpty j q h), Lemmas.parseQuery_noEmpty j q h⟩

/-- The other exclusion: a tag name equal to a reserved key is read as that operator. -/
theorem json_reserved_name_misparsed :
    parseQuery (toValue (.cmp .eq "$exist" "x")) = .ok (.exist ["x"]) := rfl

example : parseQuery (toValue (.cmp .neq "$not" "x")) = .ok (.not (.cmp .eq "$neq" "x")) := rfl
example : parseQuery (toValue (.cmp .eq "$and" "x")) = .error "$and must be array of JSON objects" := rfl
example : parseQuery (toValue (.isIn "$not" ["x"])) = .error "Unsupported value" := rfl
/-- names inside `$exist` are array elements, not keys: reserved words are fine there -/
example : parseQuery (toValue (.exist ["$exist", "$and"])) = .ok (.exist ["$exist", "$and"]) := rfl
/-- the empty name and the empty `$in` list are expressible -/
example : parseQuery (toValue (.cmp .eq "" "x")) = .ok (.cmp .eq "" "x") := rfl
example : parseQuery (toValue (.isIn "a" [])) = .ok (.isIn "a" []) := rfl

/-- Outside the domain (an empty `$exist` under `$not`) the round trip does change the selection:
    `Not (Exist [])` selects every record, its parsed-back form `Not (And [])` none.  This is why
    `json_roundtrip_same_records` carries the domain hypothesis. -/
example : (Query.not (.exist [])).jsonExpressible = true
    ∧ parseQuery (toValue (.not (.exist []))) = .ok (.not (.and []))
    ∧ holds (fun _ _ => false) [] (tagQuery (.not (.exist []))) = true
    ∧ holds (fun _ _ => false) [] (tagQuery (.not (.and []))) = false := ⟨rfl, rfl, rfl, rfl⟩

/-! Parser-side behaviour the property text relies on. -/
/-- an object with no / several operators is their `$and`; with exactly one it is that operator -/
example : parseQuery (.obj []) = .ok (.and []) := rfl
example : parseQuery (.obj [("a", .str "1"), ("b", .str "2")]) = .ok (.and [.cmp .eq "a" "1", .cmp .eq "b" "2"]) := rfl
example : parseQuery (.obj [("a", .str "1")]) = .ok (.cmp .eq "a" "1") := rfl
/-- empty `$and` / `$or` / `$exist` arrays contribute nothing -/
example : parseQuery (.obj [("$and", .arr []), ("$exist", .arr []), ("$or", .arr []), ("a", .str "1")])
    = .ok (.cmp .eq "a" "1") := rfl
/-- `$exist` takes a string or an array of strings -/
example : parseQuery (.obj [("$exist", .str "a")]) = .ok (.exist ["a"]) := rfl
example : parseQuery (.obj [("$exist", .arr [.str "a", .num 1])])
    = .error "$exist must be used with a string or array of strings" := rfl
/-- the legacy array form: `$or` of the objects, `null` members and empty objects dropped -/
example : parseQuery (.arr [.obj [("a", .str "1"), ("b", .null)], .obj [], .obj [("c", .str "2")]])
    = .ok (.or [.cmp .eq "a" "1", .cmp .eq "c" "2"]) := rfl
example : parseQuery (.arr []) = .ok (.and []) := rfl
example : parseQuery (.arr [.str "a"]) = .error "Restriction is invalid" := rfl
example : parseQuery (.str "a") = .error "Restriction must be either object or array" := rfl
example : parseQuery (.obj [("a", .obj [("$neq", .str "1"), ("$gt", .str "0")])])
    = .error "value must be JSON object of length 1" := rfl
example : parseQuery (.obj [("a", .obj [("$regex", .str "1")])]) = .error "Unknown operator" := rfl

/-! Non-vacuity of the round-trip theorems: a concrete filter using every constructor, both tag
    kinds, a multi-valued `$in` and a multi-name `$exist` satisfies both hypotheses, is not changed
    by `normJ`, and is selected on one record and rejected on another. -/
def exJ : Query String := .and [.not (.or [.cmp .eq "a" "1", .isIn "~b" ["x", "y"]]),
    .cmp .gte "~n" "5", .exist ["a", "~n"], .cmp .like "~n" "5%"]
example : exJ.jsonExpressible = true := by decide +kernel
example : (tagQuery exJ).InDomain := by decide +kernel
example : (toValue exJ).depth ≤ jsonDepthLimit := by decide +kernel
example : parseQuery (toValue exJ) = .ok exJ := rfl
example : holds (fun _ _ => true) [⟨false, "a", "7"⟩, ⟨true, "n", "5"⟩] (tagQuery exJ) = true := by
  simp only [exJ, tagQuery, Query.mapNames, mapNamesList, splitName, holds, holdsP, holdsAll, holdsAny,
    atomCmp, atomIn, atomExist, Lemmas.utf8_eq]
  decide +kernel
example : holds (fun _ _ => true) [⟨false, "a", "1"⟩, ⟨true, "n", "5"⟩] (tagQuery exJ) = false := by
  simp only [exJ, tagQuery, Query.mapNames, mapNamesList, splitName, holds, holdsP, holdsAll, holdsAny,
    atomCmp, atomIn, atomExist, Lemmas.utf8_eq]
  decide +kernel
/-- the root `Exist []` is expressible, in the domain, and genuinely rewritten -/
example : (Query.exist []).jsonExpressible = true ∧ (tagQuery (.exist [])).InDomain
    ∧ parseQuery (toValue (.exist [])) = .ok (.and []) := ⟨rfl, by decide +kernel, rfl⟩
/-- `J.normObj`: members in text order ↦ map order (sorted by key bytes, last duplicate wins) -/
example : J.normObj [("b", .str "1"), ("a", .str "2"), ("b", .str "3")] = [("a", .str "2"), ("b", .str "3")] := by
  have h : J.keyLt "a" "b" = true := by simp only [J.keyLt, Lemmas.utf8_eq]; decide +kernel
  have h' : J.keyLt "b" "a" = false := by simp only [J.keyLt, Lemmas.utf8_eq]; decide +kernel
  simp [J.normObj, J.insertKV, h, h']

/-! ## Arbitrary filter texts: `TagFilter::from_str` is total and classified; the legacy array form

The parser side of the JSON form on input that `to_value` never produces: the legacy restriction
list, `null`, every error arm, text that is not JSON, nesting beyond serde_json's limit.  (Model:
`parseQuery` — the value-level parser, `fromValue` — with serde's error wrapper, `fromText` — with
the text layer's three facts: starts with a value or not / nesting / trailing characters.) -/

/-- `parse_total`: on EVERY JSON value the value-level parser either returns a filter or fails with
    one of the seventeen messages of `wql/query.rs` — there is no third outcome (no panic arm:
    `map.into_iter().next().unwrap()` is guarded by `map.len() == 1`, which the model's
    one-element-list pattern is). -/
theorem parse_total (j : J) :
    (∃ q, parseQuery j = .ok q) ∨ (∃ m, parseQuery j = .error m ∧ m ∈ parseErrorMessages) := by
  cases h : parseQuery j with
  | ok q => exact .inl ⟨q, rfl⟩
  | error m => exact .inr ⟨m, rfl, Lemmas.parseQuery_classified j m h⟩

/-- The same for the whole of `TagFilter::from_str`, on every text: a filter, or an error of kind
    `Input` whose cause is a text-level failure (`malformed` / `depth`) or one of the seventeen
    messages, wrapped `custom` exactly in the array form and `missing_field` otherwise. -/
theorem from_str_total (t : TextParse) :
    (∃ q, fromText t = .ok q) ∨
    (∃ e, fromText t = .error e ∧ e.kindName = "Input" ∧
      (e = .malformed ∨ e = .depth ∨
        ∃ j trailing m, t = .value j trailing ∧ m ∈ parseErrorMessages ∧ e = wrapErr j.norm m)) := by
  cases t with
  | malformed => exact .inr ⟨.malformed, rfl, rfl, .inl rfl⟩
  | value j trailing =>
    by_cases hd : j.depth ≤ jsonDepthLimit
    · cases h : parseQuery j.norm with
      | ok q =>
        cases trailing with
        | false => exact .inl ⟨q, by simp [fromText, hd, fromValue, h]⟩
        | true => exact .inr ⟨.malformed, by simp [fromText, hd, fromValue, h], rfl, .inl rfl⟩
      | error m =>
        exact .inr ⟨wrapErr j.norm m, by simp [fromText, hd, fromValue, h], rfl,
          .inr (.inr ⟨j, trailing, m, rfl, Lemmas.parseQuery_classified _ m h, rfl⟩)⟩
    · exact .inr ⟨.depth, by simp [fromText, hd], rfl, .inr (.inl rfl)⟩

/-- A successful `from_str` is exactly: at most 127 levels, the value (as a map) parses, nothing
    but white space follows. -/
theorem from_str_ok_iff (j : J) (trailing : Bool) (q : Query String) :
    fromText (.value j trailing) = .ok q ↔
      j.depth ≤ jsonDepthLimit ∧ parseQuery j.norm = .ok q ∧ trailing = false := by
  by_cases hd : j.depth ≤ jsonDepthLimit
  · cases h : parseQuery j.norm <;> cases trailing <;> simp [fromText, hd, fromValue, h]
  · simp [fromText, hd]

/-- The value-level error of the FIRST value wins over trailing characters; a good first value
    followed by anything else is a syntax error. -/
theorem from_str_value_error_first (j : J) (trailing : Bool) (m : String)
    (hd : j.depth ≤ jsonDepthLimit) (h : parseQuery j.norm = .error m) :
    fromText (.value j trailing) = .error (wrapErr j.norm m) := by
  simp [fromText, hd, fromValue, h]

example : fromText (.value (.num 1) true) = .error (.missingField "Restriction must be either object or array") := rfl
example : fromText (.value (.obj [("a", .num 5)]) true) = .error (.missingField "Unsupported value") := rfl
example : fromText (.value (.obj [("a", .str "1")]) true) = .error .malformed := rfl
example : fromText (.value (.obj [("a", .str "1")]) false) = .ok (.cmp .eq "a" "1") := rfl
example : fromText (.value (.arr [.obj [("a", .num 5)]]) false) = .error (.custom "Unsupported value") := rfl
example : (ParseErr.missingField "Unsupported value").display = "missing field `Unsupported value`" := by decide +kernel

/-- `array_form_is_or`: a legacy restriction list whose members are all objects is read exactly as
    the `{"$or": […]}` object of its members with the `null` fields dropped and the members left
    empty dropped — same filter, same error. -/
theorem array_form_is_or (ms : List (List (String × J))) :
    parseQuery (.arr (ms.map .obj)) = parseQuery (.obj [("$or", .arr ((legacyKept ms).map .obj))]) := by
  simp [parseQuery, Lemmas.legacyObjs_objs]

/-- … which is the `Or` of the members' own filters (each surviving member read as a filter of its
    own), in order, when at least one member survives … -/
theorem array_form_or_of_members (ms : List (List (String × J))) (qs : List (Query String))
    (h : ParsesTo (legacyKept ms) qs) (hne : legacyKept ms ≠ []) :
    parseQuery (.arr (ms.map .obj)) = .ok (.or qs) := by
  rw [array_form_is_or]
  exact Lemmas.parseQuery_or_list _ qs (Lemmas.parseList_objs _ qs h) (by simpa using hne)

/-- … so it selects the union of what the members select, on every record. -/
theorem array_form_selects_union (like : Bytes → Bytes → Bool) (ms : List (List (String × J)))
    (qs : List (Query String)) (h : ParsesTo (legacyKept ms) qs) (hne : legacyKept ms ≠ []) :
    ∃ q, parseQuery (.arr (ms.map .obj)) = .ok q ∧
      ∀ tags, holds like tags (tagQuery q) = qs.any fun q' => holds like tags (tagQuery q') :=
  ⟨.or qs, array_form_or_of_members ms qs h hne, fun tags => Lemmas.holds_or like tags qs⟩

/-- No member survives (`[]`, `[{}]`, `[{"a": null}]`): the empty `$and`, which selects every
    record — NOT the empty `$or` (`json_cannot_express_empty_or`). -/
theorem array_form_nothing_kept (ms : List (List (String × J))) (h : legacyKept ms = []) :
    parseQuery (.arr (ms.map .obj)) = .ok (.and []) := by
  rw [array_form_is_or, h]; rfl

/-- The first surviving member that is not a filter decides the error of the whole list. -/
theorem array_form_member_error (pre : List (List (String × J))) (qs : List (Query String))
    (m : List (String × J)) (post : List (List (String × J))) (e : String) (ms : List (List (String × J)))
    (hk : legacyKept ms = pre ++ m :: post) (h : ParsesTo pre qs) (hm : parseQuery (.obj m) = .error e) :
    parseQuery (.arr (ms.map .obj)) = .error e := by
  rw [array_form_is_or, hk]
  have := Lemmas.parseList_objs_error pre qs m (post.map .obj) e h hm
  simp only [List.map_append, List.map_cons]
  cases hpre : pre.map J.obj ++ J.obj m :: post.map J.obj with
  | nil => simp at hpre
  | cons x xs => rw [hpre] at this; simp [parseQuery, parseMap, parseOps, parseOperator, this]

/-- A member that is not an object — anywhere in the list — refuses the whole list. -/
theorem array_non_object_refused (xs : List J) (h : ∃ x ∈ xs, x.isObj = false) :
    parseQuery (.arr xs) = .error "Restriction is invalid" := by
  simp [parseQuery, Lemmas.legacyObjs_nonobj h]

/-- `null_members_dropped`: in the array form a restriction and the same restriction without its
    `null` fields are interchangeable, wherever it stands and whatever else the list holds … -/
theorem null_members_dropped (pre post : List J) (m : List (String × J)) :
    parseQuery (.arr (pre ++ .obj m :: post)) = parseQuery (.arr (pre ++ .obj (dropNulls m) :: post)) := by
  simp only [parseQuery, Lemmas.legacyObjs_congr pre (Lemmas.legacyObjs_dropNulls m post)]

/-- … and a restriction with nothing but `null` fields (or none at all) might as well not be there. -/
theorem null_only_member_dropped (pre post : List J) (m : List (String × J))
    (h : m.all (fun kv => kv.2.isNull) = true) :
    parseQuery (.arr (pre ++ .obj m :: post)) = parseQuery (.arr (pre ++ post)) := by
  simp only [parseQuery, Lemmas.legacyObjs_congr pre (Lemmas.legacyObjs_null_only h post)]

/-- Only there: in the object form — also one level down, inside an explicit `$or` — a `null` is
    refused.  (`[{"a": null}]` selects everything, `{"$or": [{"a": null}]}` is an error.) -/
theorem null_in_object_form_refused (k : String) (h : reservedKey k = false) :
    parseQuery (.obj [(k, .null)]) = .error "Unsupported value"
    ∧ parseQuery (.obj [("$or", .arr [.obj [(k, .null)]])]) = .error "Unsupported value"
    ∧ parseQuery (.arr [.obj [(k, .null)]]) = .ok (.and []) := by
  obtain ⟨h1, h2, h3, h4⟩ := Lemmas.reservedKey_false h
  refine ⟨?_, ?_, rfl⟩ <;>
    simp [parseQuery, parseMap, parseOps, parseOperator, parseList, h1, h2, h3, h4]

/-! Non-vacuity: the list `[{"a":"1"},{"b":null},{}]`; a two-member list that
    really is a union (selected through either member, rejected through neither); the hypotheses of
    the member-wise theorems on it. -/
def exLegacy : List (List (String × J)) := [[("a", .str "1"), ("~n", .null)], [("b", .null)], [], [("~n", .str "5")]]
example : legacyKept exLegacy = [[("a", .str "1")], [("~n", .str "5")]] := rfl
example : ParsesTo (legacyKept exLegacy) [.cmp .eq "a" "1", .cmp .eq "~n" "5"] := ⟨rfl, rfl, trivial⟩
example : parseQuery (.arr (exLegacy.map .obj)) = .ok (.or [.cmp .eq "a" "1", .cmp .eq "~n" "5"]) := rfl
example : parseQuery (.arr [.obj [("a", .str "1")], .obj [("b", .null)], .obj []]) = .ok (.or [.cmp .eq "a" "1"]) := rfl
example : holds (fun _ _ => false) [⟨false, "a", "1"⟩] (tagQuery (.or [.cmp .eq "a" "1", .cmp .eq "~n" "5"])) = true := by
  simp only [tagQuery, Query.mapNames, mapNamesList, splitName, holds, holdsP, holdsAll, holdsAny, atomCmp, Lemmas.utf8_eq]
  decide +kernel
example : holds (fun _ _ => false) [⟨true, "n", "5"⟩] (tagQuery (.or [.cmp .eq "a" "1", .cmp .eq "~n" "5"])) = true := by
  simp only [tagQuery, Query.mapNames, mapNamesList, splitName, holds, holdsP, holdsAll, holdsAny, atomCmp, Lemmas.utf8_eq]
  decide +kernel
example : holds (fun _ _ => false) [⟨false, "a", "2"⟩, ⟨false, "n", "5"⟩] (tagQuery (.or [.cmp .eq "a" "1", .cmp .eq "~n" "5"])) = false := by
  simp only [tagQuery, Query.mapNames, mapNamesList, splitName, holds, holdsP, holdsAll, holdsAny, atomCmp, Lemmas.utf8_eq]
  decide +kernel
example : parseQuery (.arr [.obj [("a", .str "1")], .obj [("b", .num 5)]]) = .error "Unsupported value" := rfl
example : (∃ x ∈ [J.obj [("a", .str "1")], .null], x.isObj = false) := ⟨.null, by simp, rfl⟩
example : reservedKey "a" = false := by decide +kernel
/-- every error arm is reachable -/
example : parseQuery (.obj [("$and", .obj [])]) = .error "$and must be array of JSON objects" := rfl
example : parseQuery (.obj [("$or", .obj [])]) = .error "$or must be array of JSON objects" := rfl
example : parseQuery (.obj [("$not", .arr [])]) = .error "$not must be JSON object" := rfl
example : parseQuery (.obj [("$exist", .num 5)]) = .error "$exist must be used with a string or array of strings" := rfl
example : parseQuery (.obj [("a", .obj [])]) = .error "value must be JSON object of length 1" := rfl
example : parseQuery (.obj [("a", .num 5)]) = .error "Unsupported value" := rfl
example : parseQuery (.obj [("a", .null)]) = .error "Unsupported value" := rfl
example : parseQuery (.obj [("$or", .arr [.num 1])]) = .error "operator must be array of JSON objects" := rfl
example : parseQuery (.obj [("a", .obj [("$neq", .num 1)])]) = .error "$neq must be used with string" := rfl
example : parseQuery (.obj [("a", .obj [("$gt", .null)])]) = .error "$gt must be used with string" := rfl
example : parseQuery (.obj [("a", .obj [("$gte", .arr [])])]) = .error "$gte must be used with string" := rfl
example : parseQuery (.obj [("a", .obj [("$lt", .obj [])])]) = .error "$lt must be used with string" := rfl
example : parseQuery (.obj [("a", .obj [("$lte", .bool false)])]) = .error "$lte must be used with string" := rfl
example : parseQuery (.obj [("a", .obj [("$like", .num 1)])]) = .error "$like must be used with string" := rfl
example : parseQuery (.obj [("a", .obj [("$in", .str "x")])]) = .error "$in must be used with array of strings" := rfl
example : parseQuery (.obj [("a", .obj [("$in", .arr [.str "x", .num 1])])]) = .error "$in must be used with array of strings" := rfl
example : parseQuery (.arr [.num 1]) = .error "Restriction is invalid" := rfl
example : parseQuery .null = .error "Restriction must be either object or array" := rfl
/-- duplicate keys: the last one wins before the parser sees the object — also against the
    "length 1" check; members are visited in key order, which decides WHICH error is reported -/
example : parseQuery (J.norm (.obj [("a", .num 1), ("a", .str "2")])) = .ok (.cmp .eq "a" "2") := by
  simp [J.norm, normKVs, J.normObj, J.insertKV, parseQuery, parseMap, parseOps, parseOperator, collapse]
example : parseQuery (J.norm (.obj [("a", .obj [("$neq", .str "1"), ("$neq", .str "2")])])) = .ok (.cmp .neq "a" "2") := by
  simp [J.norm, normKVs, J.normObj, J.insertKV, parseQuery, parseMap, parseOps, parseOperator, parseSingle, cmpOfKey, collapse]

/-! The text of a filter can be DEEPER than the text it was read from (`{"$exist": "a"}` is written
    back as `{"$exist": ["a"]}`, an object of several members as an explicit `$and` array): read from
    127 levels — the most serde_json accepts — it is written at 128 or more and cannot be read again.
    This is the boundary of `json_text_roundtrip`'s depth hypothesis, reached from the parser's side. -/
theorem reparse_can_fail_on_depth :
    ∃ j q, fromText (.value j false) = .ok q ∧ jsonRoute q = .error "recursion limit exceeded" := by
  refine ⟨deepNot 126 (.obj [("$exist", .str "a")]), Nat.repeat Query.not 126 (.exist ["a"]), ?_, ?_⟩
  · have hd : (deepNot 126 (.obj [("$exist", .str "a")])).depth ≤ jsonDepthLimit := by
      rw [Lemmas.depth_deepNot]; decide
    rw [fromText, if_pos hd, Lemmas.norm_deepNot, fromValue]
    have hn : (J.obj [("$exist", .str "a")]).norm = .obj [("$exist", .str "a")] := rfl
    rw [hn, Lemmas.parseQuery_deepNot]
    rfl
  · have hd : ¬ (deepNot 126 (toValue (.exist ["a"]))).depth ≤ jsonDepthLimit := by
      rw [Lemmas.depth_deepNot]; decide
    rw [jsonRoute, Lemmas.toValue_repeat_not, if_neg hd]

set_option maxRecDepth 8000 in
/-- one level more on the way in is refused, whatever is inside — before duplicate keys are merged -/
example : fromText (.value (deepNot 127 (.obj [("$exist", .str "a")])) false) = .error .depth := by
  have hd : ¬ (deepNot 127 (.obj [("$exist", .str "a")])).depth ≤ jsonDepthLimit := by
    rw [Lemmas.depth_deepNot]; decide
  rw [fromText, if_neg hd]
set_option maxRecDepth 8000 in
example : fromText (.value (.obj [("a", deepNot 127 (.num 1)), ("a", .str "1")]) false) = .error .depth := by
  have hd : ¬ (J.obj [("a", deepNot 127 (.num 1)), ("a", .str "1")]).depth ≤ jsonDepthLimit := by
    simp only [J.depth, depthKVs, Lemmas.depth_deepNot]; decide
  rw [fromText, if_neg hd]

end Askar.Wql
