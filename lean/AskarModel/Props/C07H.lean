/-
  C07, engine "C07H": profile isolation when SEVERAL store handles work on one database.

  Every handle has its own key cache `name ↦ (profile row id, profile key)`.  Removing a profile evicts the name from the cache of
  the handle that removes it and from no other; `resolve_profile_key` trusts a cache hit; SQLite hands the id of a removed
  profile out again when it was the largest.  A handle whose cache is behind the database therefore works with a stale
  `(id, key)` pair.  This file states, for ALL databases / caches / records,

  * where exactly a call through any `(id, key)` pair lands (`stale_handle_write_lands_in_pid`, `session_calls_confined_to_pid`)
    and what it can read (`stale_handle_cannot_decrypt_foreign_rows`, `stale_handle_reads_nothing_foreign`: under key
    separation nothing foreign is ever DECRYPTED or MATCHED) — and what the key does NOT protect (`count_unfiltered_ignores_key`,
    `remove_all_unfiltered_ignores_key`);
  * the named mechanism "ping → NotFound" exactly (`ping_detects_removed_profile`) and its blind spot
    (`stale_entry_opens_when_id_in_use`, `scan_skips_ping`);
  * the property-level statements `SessionSeesNamedProfile`, `RemovedProfileCannotBeOpened`: PROVED for the repaired variant
    (`validate = true`, proposals/C07H-validate-cached-profile.diff) and for a handle whose cache agrees with the database
    (`…_of_fresh_cache`; own removals and creations keep it so: `own_calls_keep_cache_fresh`), REFUTED for today's code by
    witnesses that are runs of the model from a freshly provisioned store (`…_current_refuted`);
  * `HeldSessionIsolated` (a session kept open across the removal of its profile): refuted in BOTH variants.
-/
import AskarModel.Lemmas.TwoHandles

namespace Askar.TwoHandles

/-! ## 1. Row ids: unused when handed out, handed out again after a removal -/

theorem new_row_id_unused (db : Db) : db.hasId db.newRowId = false := by
  rw [Bool.eq_false_iff]
  intro h
  obtain ⟨r, hr, he⟩ := hasId_iff.mp h
  exact Nat.not_succ_le_self _ (he ▸ le_maxId hr)

/-- create `n`, remove `n` (through any handles): the next profile — whatever its name — gets the id `n` had, and a newer key -/
theorem rowid_reused_after_removal (h g : Handle) (db : Db) (n : String) (hn : db.rowByName n = none) :
    (createProfile h db n).2.1.rowByName n = some ⟨db.newRowId, n, db.nextKey⟩ ∧
    (removeProfile g (createProfile h db n).2.1 n).2.1.newRowId = db.newRowId ∧
    db.nextKey < (removeProfile g (createProfile h db n).2.1 n).2.1.nextKey := by
  rw [createProfile_absent h db n hn]
  have h1 := rowByName_append_absent hn ⟨db.newRowId, n, db.nextKey⟩ rfl db.default (db.nextKey + 1)
  refine ⟨h1, ?_, ?_⟩
  · simp only [removeProfile, h1]
    simp only [Db.newRowId, List.filter_append, filter_name_ne_of_absent (rowByName_none hn)]
    simp
  · simp only [removeProfile, h1]
    exact Nat.lt_succ_self _

/-! ## 2. Where a call through an `(id, key)` pair lands — stale or not -/

/-- **the exact statement**: an acknowledged insert adds ONE row, owned by the row id of the pair and encrypted under the key of
    the pair; the profile that grows is whichever row has that id NOW, under whatever name -/
theorem stale_handle_write_lands_in_pid (s : Sess) (db db' : Db) (r : Rec) (h : insert s db r = .ok db') :
    db'.profiles = db.profiles ∧ db'.items = db.items ++ [⟨s.pid, s.key, r⟩] ∧
    ∀ row, rowsOf db' row = rowsOf db row ++ (if row.id = s.pid then [⟨s.pid, s.key, r⟩] else []) := by
  obtain ⟨_, _, rfl⟩ := (insert_ok_iff s db db' r).mp h
  refine ⟨rfl, rfl, ?_⟩
  intro row
  simp only [rowsOf, List.filter_append]
  by_cases hr : row.id = s.pid
  · simp [hr]
  · have : ¬ s.pid = row.id := fun e => hr e.symm
    simp [hr, this]

/-- it is acknowledged exactly when the id is in use and no row of that id WRITTEN UNDER THE SAME KEY has the identity -/
theorem stale_handle_write_acknowledged_iff (s : Sess) (db : Db) (r : Rec) :
    (∃ db', insert s db r = .ok db') ↔ (db.items.any (hits s r.cat r.name) = false ∧ db.hasId s.pid = true) := by
  constructor
  · rintro ⟨db', h⟩; exact ⟨((insert_ok_iff s db db' r).mp h).1, ((insert_ok_iff s db db' r).mp h).2.1⟩
  · rintro ⟨h1, h2⟩; exact ⟨_, (insert_ok_iff s db _ r).mpr ⟨h1, h2, rfl⟩⟩

/-- no id in use: nothing is written (FOREIGN KEY failure) -/
theorem write_through_unused_id_fails (s : Sess) (db : Db) (r : Rec) (h : db.hasId s.pid = false) :
    insert s db r = .error .backend ∨ insert s db r = .error .duplicate := by
  unfold insert
  cases db.items.any (hits s r.cat r.name) <;> simp [h]

/-- every mutating call of a session leaves the profile table and every row of every OTHER id untouched -/
theorem session_calls_confined_to_pid (s : Sess) (db : Db) :
    (∀ r db', insert s db r = .ok db' → db'.profiles = db.profiles ∧ others s.pid db'.items = others s.pid db.items) ∧
    (∀ r db', replace s db r = .ok db' → db'.profiles = db.profiles ∧ others s.pid db'.items = others s.pid db.items) ∧
    (∀ c n db', remove s db c n = .ok db' → db'.profiles = db.profiles ∧ others s.pid db'.items = others s.pid db.items) ∧
    (∀ cat, (removeAll s db cat).1.profiles = db.profiles ∧ others s.pid (removeAll s db cat).1.items = others s.pid db.items) := by
  refine ⟨?_, ?_, ?_, ?_⟩
  · intro r db' h
    obtain ⟨_, _, rfl⟩ := (insert_ok_iff s db db' r).mp h
    exact ⟨rfl, by simp [others]⟩
  · intro r db' h
    obtain ⟨_, rfl⟩ := (replace_ok_iff s db db' r).mp h
    exact ⟨rfl, others_map_if (fun it => { it with data := r }) (fun it hi => (hits_pid hi).1) (fun _ => rfl) db.items⟩
  · intro c n db' h
    obtain ⟨_, rfl⟩ := (remove_ok_iff s db db' c n).mp h
    exact ⟨rfl, others_filter_not (fun it hi => (hits_pid hi).1) db.items⟩
  · intro cat
    exact ⟨rfl, others_filter_not (fun it hi => inScope_pid hi) db.items⟩

/-! ## 3. What can be read through an `(id, key)` pair -/

/-- everything a session returns was written under the session's own key, in the session's own id -/
theorem stale_handle_cannot_decrypt_foreign_rows (s : Sess) (db : Db) :
    (∀ c n r, fetch s db c n = some r → ∃ it ∈ db.items, it.pid = s.pid ∧ it.key = s.key ∧ it.data = r) ∧
    (∀ cat rs, fetchAll s db cat = .ok rs → ∀ r ∈ rs, ∃ it ∈ db.items, it.pid = s.pid ∧ it.key = s.key ∧ it.data = r) := by
  constructor
  · intro c n r h
    unfold fetch at h
    cases hf : db.items.find? (hits s c n) with
    | none => rw [hf] at h; cases h
    | some it =>
      rw [hf] at h
      have hh := hits_pid (List.find?_some hf)
      exact ⟨it, List.mem_of_find?_eq_some hf, hh.1, hh.2, by simpa using h⟩
  · intro cat rs h r hr
    unfold fetchAll at h
    simp only at h
    split at h
    · rename_i hall
      cases h
      obtain ⟨it, hit, rfl⟩ := List.mem_map.mp hr
      have hm := List.mem_filter.mp hit
      exact ⟨it, hm.1, inScope_pid hm.2, by simpa using List.all_eq_true.mp hall it hit, rfl⟩
    · cases h

/-- under key freshness (no row of the id was written under the pair's key — the id now belongs to a profile with a newer key):
    no record is visible, matched, replaced or removed by identity; an unfiltered listing is empty or fails with Encryption -/
theorem stale_handle_reads_nothing_foreign (s : Sess) (db : Db)
    (hk : ∀ it ∈ db.items, it.pid = s.pid → it.key ≠ s.key) :
    (∀ c n, fetch s db c n = none) ∧ (∀ c, fetchAll s db (some c) = .ok []) ∧ (∀ c, count s db (some c) = 0) ∧
    (∀ r, replace s db r = .error .notFound) ∧ (∀ c n, remove s db c n = .error .notFound) ∧
    (∀ c, removeAll s db (some c) = (db, 0)) ∧
    (fetchAll s db none = .ok [] ∨ fetchAll s db none = .error .encryption) := by
  refine ⟨?_, ?_, ?_, ?_, ?_, ?_, ?_⟩
  · intro c n
    unfold fetch
    rw [List.find?_eq_none.mpr (fun it hit => by simp [no_hits hk c n it hit])]
    rfl
  · intro c
    simp [fetchAll, filter_eq_nil_of (no_scope_some hk c)]
  · intro c
    simp [count, filter_eq_nil_of (no_scope_some hk c)]
  · intro r
    simp [replace, any_eq_false_of (no_hits hk r.cat r.name)]
  · intro c n
    simp [remove, any_eq_false_of (no_hits hk c n)]
  · intro c
    have h0 : db.items.filter (fun it => !inScope s (some c) it) = db.items := by
      rw [List.filter_eq_self]; intro it hit; simp [no_scope_some hk c it hit]
    simp [removeAll, count, filter_eq_nil_of (no_scope_some hk c), h0]
  · unfold fetchAll
    simp only
    cases hrows : db.items.filter (inScope s none) with
    | nil => left; simp
    | cons it rest =>
      right
      have hit : it ∈ db.items.filter (inScope s none) := by rw [hrows]; exact List.mem_cons_self
      have hm := List.mem_filter.mp hit
      have hne := hk it hm.1 (inScope_pid hm.2)
      simp [hne]

/-- what the key does NOT protect: an unfiltered count counts every row of the id, whoever wrote it … -/
theorem count_unfiltered_ignores_key (s : Sess) (db : Db) :
    count s db none = (db.items.filter fun it => decide (it.pid = s.pid)).length := by
  simp [count, inScope_none_fun]

/-- … and an unfiltered remove_all removes every row of the id, whoever wrote it -/
theorem remove_all_unfiltered_ignores_key (s : Sess) (db : Db) :
    (removeAll s db none).1.items = others s.pid db.items ∧
    (removeAll s db none).2 = (db.items.filter fun it => decide (it.pid = s.pid)).length := by
  simp [removeAll, count, inScope_none_fun, others]

/-! ## 4. Key freshness: a key drawn by `create_profile` is new for the database and for every cache -/

theorem created_key_is_fresh (h g : Handle) (db : Db) (n : String) (hn : db.rowByName n = none)
    (hdb : db.KeysBelow) (hg : g.KeysBelow db.nextKey) (hh : h.KeysBelow db.nextKey) :
    (createProfile h db n).2.1.rowByName n = some ⟨db.newRowId, n, db.nextKey⟩ ∧
    (∀ e ∈ g.cache, e.key ≠ db.nextKey) ∧ (∀ it ∈ db.items, it.key ≠ db.nextKey) ∧ (∀ r ∈ db.profiles, r.key ≠ db.nextKey) ∧
    (createProfile h db n).2.1.KeysBelow ∧ g.KeysBelow (createProfile h db n).2.1.nextKey ∧
    (createProfile h db n).1.KeysBelow (createProfile h db n).2.1.nextKey := by
  rw [createProfile_absent h db n hn]
  refine ⟨rowByName_append_absent hn _ rfl _ _, ?_, ?_, ?_, ⟨?_, ?_⟩, ?_, ?_⟩
  · intro e he; exact Nat.ne_of_lt (hg e he)
  · intro it hit; exact Nat.ne_of_lt (hdb.2 it hit)
  · intro r hr; exact Nat.ne_of_lt (hdb.1 r hr)
  · intro r hr
    rcases List.mem_append.mp hr with h1 | h1
    · exact Nat.lt_succ_of_lt (hdb.1 r h1)
    · rw [List.mem_singleton.mp h1]; exact Nat.lt_succ_self _
  · intro it hit; exact Nat.lt_succ_of_lt (hdb.2 it hit)
  · intro e he; exact Nat.lt_succ_of_lt (hg e he)
  · intro e he
    rcases mem_cachePut he with rfl | ⟨h1, _⟩
    · exact Nat.lt_succ_self _
    · exact Nat.lt_succ_of_lt (hh e h1)

/-- the invariant is kept by every other call -/
theorem keys_below_preserved (v : Bool) (h : Handle) (db : Db) (hdb : db.KeysBelow) (hh : h.KeysBelow db.nextKey) :
    (∀ n, (removeProfile h db n).2.1.KeysBelow ∧ (removeProfile h db n).1.KeysBelow (removeProfile h db n).2.1.nextKey) ∧
    (∀ n, (resolve v h db n).1.KeysBelow db.nextKey ∧ ∀ s, (resolve v h db n).2 = .ok s → s.key < db.nextKey) ∧
    (∀ s r db', s.key < db.nextKey → insert s db r = .ok db' → db'.KeysBelow ∧ db'.nextKey = db.nextKey) ∧
    (∀ s r db', replace s db r = .ok db' → db'.KeysBelow ∧ db'.nextKey = db.nextKey) ∧
    (∀ s c n db', remove s db c n = .ok db' → db'.KeysBelow ∧ db'.nextKey = db.nextKey) ∧
    (∀ s cat, (removeAll s db cat).1.KeysBelow ∧ (removeAll s db cat).1.nextKey = db.nextKey) := by
  have hdel : ∀ n, Handle.KeysBelow { h with cache := cacheDel h.cache n } db.nextKey :=
    fun n e he => hh e (mem_cacheDel he).1
  -- the session calls rewrite the item table only: it suffices that every row they leave has an old key
  have hitems : ∀ items : List Item, (∀ it ∈ items, it.key < db.nextKey) → Db.KeysBelow { db with items := items } :=
    fun _ hi => ⟨hdb.1, hi⟩
  refine ⟨?_, ?_, ?_, ?_, ?_, ?_⟩
  · intro n
    unfold removeProfile
    cases hr : db.rowByName n with
    | none => exact ⟨hdb, hdel n⟩
    | some row =>
      exact ⟨⟨fun r hr => hdb.1 r (List.mem_filter.mp hr).1, fun it hit => hdb.2 it (List.mem_filter.mp hit).1⟩, hdel n⟩
  · intro n
    rcases resolve_cases v h db n with ⟨e, _, hc, he⟩ | ⟨row, hr, he⟩ | ⟨_, he | he⟩ <;> rw [he]
    · exact ⟨hh, fun s hs => by cases hs; exact hh e (cacheGet_some hc).1⟩
    · have hrow := hdb.1 row (rowByName_some hr).1
      refine ⟨fun e he => ?_, fun s hs => by cases hs; exact hrow⟩
      rcases mem_cachePut he with rfl | ⟨h1, _⟩
      · exact hrow
      · exact hh e h1
    · exact ⟨hh, fun s hs => by cases hs⟩
    · exact ⟨hdel n, fun s hs => by cases hs⟩
  · intro s r db' hs hi
    obtain ⟨_, _, rfl⟩ := (insert_ok_iff s db db' r).mp hi
    refine ⟨hitems _ fun it hit => ?_, rfl⟩
    rcases List.mem_append.mp hit with h1 | h1
    · exact hdb.2 it h1
    · rw [List.mem_singleton.mp h1]; exact hs
  · intro s r db' hr
    obtain ⟨_, rfl⟩ := (replace_ok_iff s db db' r).mp hr
    refine ⟨hitems _ fun it hit => ?_, rfl⟩
    obtain ⟨it0, h0, rfl⟩ := List.mem_map.mp hit
    have := hdb.2 it0 h0
    split <;> exact this
  · intro s c n db' hr
    obtain ⟨_, rfl⟩ := (remove_ok_iff s db db' c n).mp hr
    exact ⟨hitems _ fun it hit => hdb.2 it (List.mem_filter.mp hit).1, rfl⟩
  · intro s cat
    exact ⟨hitems _ fun it hit => hdb.2 it (List.mem_filter.mp hit).1, rfl⟩

/-! ## 5. resolve + ping as they are -/

/-- **the named mechanism**: a cached entry whose id is no longer in use → NotFound "Session profile has been removed";
    the handle is unchanged (the stale entry STAYS) and nothing is written (the call returns no database) -/
theorem ping_detects_removed_profile (h : Handle) (db : Db) (n : String) (e : CacheEntry)
    (hc : cacheGet h.cache n = some e) (hid : db.hasId e.pid = false) :
    openSession false h db (some n) = (h, .error .notFound) := by
  simp [openSession, resolve, hc, ping, hid]

/-- its blind spot: the ping asks for the ID.  A cached entry whose id is in use again opens a session on `(old id, old key)`,
    whether or not a profile of that name exists and whatever the id belongs to now -/
theorem stale_entry_opens_when_id_in_use (h : Handle) (db : Db) (n : String) (e : CacheEntry)
    (hc : cacheGet h.cache n = some e) (hid : db.hasId e.pid = true) :
    openSession false h db (some n) = (h, .ok ⟨e.pid, e.key⟩) := by
  simp [openSession, resolve, hc, ping, hid]

/-- `Store::scan` does not ping at all: with a cached entry it never answers NotFound -/
theorem scan_skips_ping (h : Handle) (db : Db) (n : String) (e : CacheEntry) (cat : Option String)
    (hc : cacheGet h.cache n = some e) :
    scan false h db (some n) cat = (h, fetchAll ⟨e.pid, e.key⟩ db cat) := by
  simp [scan, resolve, hc]

/-! ## 6. The property-level statements -/

/-- a session opened on a NAME works on the row the database holds under that name now, with that row's key -/
def SessionSeesNamedProfile (v : Bool) : Prop :=
  ∀ (h : Handle) (db : Db) (p : Option String) (h' : Handle) (s : Sess), openSession v h db p = (h', .ok s) →
    db.rowByName (p.getD h.active) = some ⟨s.pid, p.getD h.active, s.key⟩

/-- a name without a row can be neither opened nor scanned, through any handle -/
def RemovedProfileCannotBeOpened (v : Bool) : Prop :=
  ∀ (h : Handle) (db : Db) (p : Option String), db.rowByName (p.getD h.active) = none →
    (openSession v h db p).2 = .error .notFound ∧ ∀ cat, (scan v h db p cat).2 = .error .notFound

/-- a store scan reads the row the database holds under the name now -/
def ScanSeesNamedProfile (v : Bool) : Prop :=
  ∀ (h : Handle) (db : Db) (p : Option String) (cat : Option String) (row : ProfRow),
    db.rowByName (p.getD h.active) = some row → (scan v h db p cat).2 = fetchAll ⟨row.id, row.key⟩ db cat

theorem session_sees_named_profile_repaired : SessionSeesNamedProfile true :=
  fun h db p h' s => sees_named true h h' db p s (Or.inl rfl)
theorem removed_profile_cannot_be_opened_repaired : RemovedProfileCannotBeOpened true :=
  fun h db p => removed_not_opened true h db p (Or.inl rfl)
theorem scan_sees_named_profile_repaired : ScanSeesNamedProfile true :=
  fun h db p cat row => scan_sees_named true h db p cat row (Or.inl rfl)

/-- consequences for the repaired variant: the unfiltered count is the named profile's row count, an acknowledged write is a row
    of the named profile under the named profile's key -/
theorem repaired_session_counts_and_writes_named_profile (h h' : Handle) (db : Db) (p : Option String) (s : Sess)
    (ho : openSession true h db p = (h', .ok s)) :
    ∃ row, db.rowByName (p.getD h.active) = some row ∧ count s db none = (rowsOf db row).length ∧
      (removeAll s db none).1.items = others row.id db.items ∧
      ∀ r db', insert s db r = .ok db' → db'.items = db.items ++ [⟨row.id, row.key, r⟩] := by
  have hs := session_sees_named_profile_repaired h db p h' s ho
  refine ⟨_, hs, ?_, ?_, ?_⟩
  · simp [count, inScope_none_fun, rowsOf]
  · exact (remove_all_unfiltered_ignores_key s db).1
  · intro r db' hi; exact (stale_handle_write_lands_in_pid s db db' r hi).2.1

/-- today's code, for a handle whose cache agrees with the database (the single-handle situation) -/
theorem session_sees_named_profile_of_fresh_cache (h h' : Handle) (db : Db) (p : Option String) (s : Sess)
    (hf : CacheFresh h db) (ho : openSession false h db p = (h', .ok s)) :
    db.rowByName (p.getD h.active) = some ⟨s.pid, p.getD h.active, s.key⟩ :=
  sees_named false h h' db p s (Or.inr hf) ho

theorem removed_profile_cannot_be_opened_of_fresh_cache (h : Handle) (db : Db) (p : Option String)
    (hf : CacheFresh h db) (hn : db.rowByName (p.getD h.active) = none) :
    (openSession false h db p).2 = .error .notFound ∧ ∀ cat, (scan false h db p cat).2 = .error .notFound :=
  removed_not_opened false h db p (Or.inr hf) hn

/-- a handle's OWN profile calls and lookups keep its cache in agreement with the database (unique names) … -/
theorem own_calls_keep_cache_fresh (v : Bool) (h : Handle) (db : Db) (hf : CacheFresh h db) (n : String) :
    CacheFresh (createProfile h db n).1 (createProfile h db n).2.1 ∧
    CacheFresh (removeProfile h db n).1 (removeProfile h db n).2.1 ∧
    CacheFresh (resolve v h db n).1 db :=
  ⟨fresh_create h db hf n, fresh_remove h db hf n, fresh_resolve v h db hf n⟩

/-! ### … another handle's removal does not: the witnesses (runs of the model from a freshly provisioned store) -/

namespace Witness
def A0 : Handle := ⟨"p0", [⟨"p0", 1, 0⟩]⟩
def B0 : Handle := ⟨"p0", [⟨"p0", 1, 0⟩]⟩
def db0 : Db := Db.provisioned "p0"
/-- A creates p1 (id 2, key 1) and caches it -/
def A1 : Handle := (createProfile A0 db0 "p1").1
def db1 : Db := (createProfile A0 db0 "p1").2.1
/-- B removes p1 and creates p2: p2 gets id 2 again, key 2; B writes two records into p2 -/
def db2 : Db := (removeProfile B0 db1 "p1").2.1
def B2 : Handle := (createProfile (removeProfile B0 db1 "p1").1 db2 "p2").1
def db3 : Db := (createProfile (removeProfile B0 db1 "p1").1 db2 "p2").2.1
def r1 : Rec := ⟨"c1", "n1", "aa", []⟩
def r2 : Rec := ⟨"c1", "n2", "bb", []⟩
def db4 : Db := { db3 with items := [⟨2, 2, r1⟩, ⟨2, 2, r2⟩] }
/-- the pair A still holds for "p1" -/
def stale : Sess := ⟨2, 1⟩
end Witness

open Witness in
/-- the witness state is what the calls produce: B's session on p2 is `(2, 2)`, its two inserts give `db4` -/
example : openSession false B2 db3 (some "p2") = (B2, .ok ⟨2, 2⟩) ∧
    (insert ⟨2, 2⟩ db3 r1 >>= fun d => insert ⟨2, 2⟩ d r2) = .ok db4 := by decide +kernel

open Witness in
/-- **refuted on today's code**: p1 has been removed, yet A opens it — on p2's id -/
theorem removed_profile_cannot_be_opened_current_refuted : ¬ RemovedProfileCannotBeOpened false := by
  intro hp
  have := (hp A1 db4 (some "p1") (by decide +kernel)).1
  revert this; decide +kernel

open Witness in
theorem session_sees_named_profile_current_refuted : ¬ SessionSeesNamedProfile false := by
  intro hp
  have := hp A1 db4 (some "p1") A1 stale (by decide +kernel)
  revert this; decide +kernel

open Witness in
/-- a re-created profile with another id is invisible to the stale handle's scan (empty instead of its records) -/
theorem scan_sees_named_profile_current_refuted : ¬ ScanSeesNamedProfile false := by
  intro hp
  -- B re-creates p1 as well (id 3, key 3) and writes r1 into it: A's scan of p1 still reads id 2 under key 1
  have := hp A1 { (createProfile B2 db3 "p1").2.1 with items := [⟨3, 3, r1⟩] } (some "p1") (some "c1") ⟨3, "p1", 3⟩ (by decide +kernel)
  revert this; decide +kernel

open Witness in
/-- what A does to p2 through the session it opened on the removed name p1: it COUNTS p2's records, REMOVES them with an
    unfiltered remove_all, and its insert LANDS in p2 under p1's old key — after which p2 is unreadable for its owner -/
theorem stale_session_acts_on_foreign_profile :
    openSession false A1 db4 (some "p1") = (A1, .ok stale) ∧ db4.rowByName "p1" = none ∧
    db4.rowByName "p2" = some ⟨2, "p2", 2⟩ ∧
    count stale db4 none = 2 ∧
    (removeAll stale db4 none).2 = 2 ∧ contentOf (removeAll stale db4 none).1 "p2" = some (.ok []) ∧
    insert stale db4 r1 = .ok { db4 with items := db4.items ++ [⟨2, 1, r1⟩] } ∧
    contentOf { db4 with items := db4.items ++ [⟨2, 1, r1⟩] } "p2" = some (.error .encryption) ∧
    -- while nothing of p2 can be read or addressed by identity (section 3)
    fetch stale db4 "c1" "n1" = none ∧ fetchAll stale db4 none = .error .encryption ∧ count stale db4 (some "c1") = 0 := by
  decide +kernel

/-- either way the verdict is decided by the model constant `validateCurrent`, which is set by hand in Model/TwoHandles.lean
    (the source has no validation; unlike C10's `currentGuard`, nothing is read from the source here) -/
theorem session_sees_named_profile_status :
    (validateCurrent = true ∧ SessionSeesNamedProfile validateCurrent ∧ RemovedProfileCannotBeOpened validateCurrent) ∨
    (validateCurrent = false ∧ ¬ SessionSeesNamedProfile validateCurrent ∧ ¬ RemovedProfileCannotBeOpened validateCurrent) := by
  cases hv : validateCurrent with
  | true => exact Or.inl ⟨rfl, session_sees_named_profile_repaired, removed_profile_cannot_be_opened_repaired⟩
  | false => exact Or.inr ⟨rfl, session_sees_named_profile_current_refuted, removed_profile_cannot_be_opened_current_refuted⟩

/-! ## 7. Sessions kept open across the removal of their profile -/

/-- a session opened on `n` before `n` was removed writes nothing afterwards -/
def HeldSessionIsolated (v : Bool) : Prop :=
  ∀ (h g h' : Handle) (db : Db) (n m : String) (s : Sess) (r : Rec) (db' : Db), openSession v h db (some n) = (h', .ok s) →
    insert s (createProfile (removeProfile g db n).1 (removeProfile g db n).2.1 m).2.1 r ≠ .ok db'

open Witness in
/-- FALSE in both variants (the session keeps its pair; validation happens when a session is opened): A opens p1, B removes p1
    and creates p2 on the same id, A's insert is acknowledged and lands in p2 -/
theorem held_session_not_isolated (v : Bool) : ¬ HeldSessionIsolated v := by
  intro hp
  have := hp A1 B0 (openSession v A1 db1 (some "p1")).1 db1 "p1" "p2" stale r1 { db3 with items := [⟨2, 1, r1⟩] }
    (by cases v <;> decide +kernel)
  revert this; decide +kernel

/-- what does hold for a held session: between the removal and the reuse of the id every write fails, and at any time it is
    confined to its row id (`session_calls_confined_to_pid`) and reads nothing foreign (`stale_handle_reads_nothing_foreign`) -/
theorem held_session_partial (g : Handle) (db : Db) (n : String) (row : ProfRow) (s : Sess) (r : Rec)
    (hrow : db.rowByName n = some row) (hs : s.pid = row.id) (huniq : ∀ q ∈ db.profiles, q.id = row.id → q.name = n) :
    (removeProfile g db n).2.1.hasId s.pid = false ∧
    (insert s (removeProfile g db n).2.1 r = .error .backend ∨ insert s (removeProfile g db n).2.1 r = .error .duplicate) ∧
    count s (removeProfile g db n).2.1 none = 0 := by
  have hid : (removeProfile g db n).2.1.hasId s.pid = false := by
    rw [Bool.eq_false_iff]
    intro hh
    obtain ⟨q, hq, he⟩ := hasId_iff.mp hh
    simp only [removeProfile, hrow] at hq
    have hm := List.mem_filter.mp hq
    have : q.name = n := huniq q hm.1 (he.trans hs)
    simp [this] at hm
  refine ⟨hid, write_through_unused_id_fails s _ r hid, ?_⟩
  simp only [removeProfile, hrow, count]
  rw [List.length_eq_zero_iff, List.filter_eq_nil_iff]
  intro it hit
  have hm := List.mem_filter.mp hit
  have hne : it.pid ≠ row.id := by simpa using hm.2
  simp [inScope, hs, hne]

/-! ## Non-vacuity -/

example : (Db.provisioned "p0").KeysBelow ∧ Witness.A0.KeysBelow (Db.provisioned "p0").nextKey := by
  refine ⟨⟨?_, ?_⟩, ?_⟩ <;> intro x hx <;> simp [Db.provisioned, Witness.A0] at hx <;> simp [hx, Db.provisioned]
example : CacheFresh Witness.A0 Witness.db0 := by intro e he; simp [Witness.A0] at he; subst he; decide +kernel
example : ¬ CacheFresh Witness.A1 Witness.db4 := by intro h; have := h ⟨"p1", 2, 1⟩ (by decide +kernel); revert this; decide +kernel
example : ∃ h' s, openSession true Witness.A1 Witness.db1 (some "p1") = (h', .ok s) := ⟨_, _, rfl⟩
example : (Db.provisioned "p0").rowByName "p1" = none := by decide +kernel
example : ∃ e, cacheGet Witness.A1.cache "p1" = some e ∧ Witness.db2.hasId e.pid = false := ⟨⟨"p1", 2, 1⟩, by decide +kernel⟩
example : ∃ e, cacheGet Witness.A1.cache "p1" = some e ∧ Witness.db4.hasId e.pid = true := ⟨⟨"p1", 2, 1⟩, by decide +kernel⟩
example : ∀ it ∈ Witness.db4.items, it.pid = Witness.stale.pid → it.key ≠ Witness.stale.key := by decide +kernel

end Askar.TwoHandles
