/-
C12 (buffer dimension) — executable model of `askar-crypto/src/buffer`:

* the CONTRACT of `trait ResizeBuffer` (`buffer/mod.rs`): insert / remove / resize / extend / write and the writes
  through `as_mut()` as LIST operations on the visible bytes, with an optional capacity (`LBuf`, `specImpl`).
  `Vec<u8>` and `SecretBytes` are the instance without capacity (`buffer/mod.rs:55-83`, `buffer/secret.rs:262-284`);
* `Writer<'_, [u8]>` (`buffer/writer.rs:39-118`) — the public fixed-size in-place buffer — with its INDEX ARITHMETIC as
  written (`copy_within`, the index loop, `self.pos ± diff`), every bounds / overflow check an explicit `panic`, in two
  variants behind `fixed : Bool`:  `false` = the arithmetic of finding D40 (`splice` copies from `range.end - diff`; `buffer_resize(len)`
  sets `pos := pos + len`), `true` = `/verif/proposals/C12-writer-resize-buffer.diff`;
* the in-place operations of `alg/chacha20.rs`, `alg/aes/{mod,cbc_hmac,key_wrap}.rs` as PROGRAMS over the buffer
  interface (`Prog`, one constructor per trait method, `Prog.run` interprets a program over any implementation): the
  same checks, in the same order, as `Model/Aead.lean`, but with the buffer calls the Rust makes instead of list values.

Core Lean only.
-/
import AskarModel.Model.Aead
import AskarModel.Generated.Flags

namespace Askar.ResizeBuf
open Askar.Aead Askar.Crypto

/-- **The switch for the `Writer<[u8]>` defect** (finding D40): `false` = the arithmetic with the defect.  The value is the flag
    `writerResizeBufferFixed` extracted from `askar-crypto/src/buffer/writer.rs`: repaired iff the file neither contains
    `range.end - diff)..self.pos` nor `let len = self.pos + len;`. -/
def writerFixed : Bool := Askar.Generated.Flags.writerResizeBufferFixed

def exceeded : Err := ⟨.ExceededBuffer, .default⟩

/-! ### the contract: list semantics with a capacity -/

/-- the visible bytes and the capacity (`none` = growable: `Vec<u8>`, `SecretBytes`) -/
structure LBuf where
  data : Bytes
  cap : Option Nat
  deriving DecidableEq, Repr

def fits (cap : Option Nat) (n : Nat) : Bool :=
  match cap with
  | none => true
  | some c => decide (n ≤ c)

/-- `buffer_write`: append -/
def LBuf.write (b : LBuf) (d : Bytes) : Res LBuf :=
  if fits b.cap (b.data.length + d.length) then .ok { b with data := b.data ++ d } else .err exceeded

/-- `buffer_insert(pos, data)`; precondition `pos ≤ len` (`Vec::splice` panics otherwise) -/
def LBuf.insert (b : LBuf) (pos : Nat) (d : Bytes) : Res LBuf :=
  if !fits b.cap (b.data.length + d.length) then .err exceeded
  else if pos > b.data.length then .panic .sliceOob
  else .ok { b with data := b.data.take pos ++ d ++ b.data.drop pos }

/-- `buffer_remove(s..e)`; precondition `s ≤ e ≤ len` (`Vec::drain` panics otherwise) -/
def LBuf.remove (b : LBuf) (s e : Nat) : Res LBuf :=
  if s ≤ e ∧ e ≤ b.data.length then .ok { b with data := b.data.take s ++ b.data.drop e } else .panic .drainOob

/-- `buffer_resize(len)`: "truncating or padding it with zeroes" — `len` is the ABSOLUTE new length -/
def LBuf.resize (b : LBuf) (len : Nat) : Res LBuf :=
  if !fits b.cap len then .err exceeded
  else .ok { b with data := b.data.take len ++ zeros (len - b.data.length) }

/-- writes through `as_mut()`: the length cannot change -/
def LBuf.setView (b : LBuf) (v : Bytes) : Res LBuf :=
  if v.length = b.data.length then .ok { b with data := v } else .panic .copyLen

/-! ### `Writer<'_, [u8]>` -/

/-- `inner`: the whole slice handed to `from_slice_position`; `pos`: the writer position -/
structure Writer where
  inner : Bytes
  pos : Nat
  deriving DecidableEq, Repr

/-- `<[u8]>::copy_within(s..e, dest)`: panics unless `s ≤ e ≤ len` and `dest ≤ len - (e - s)`; overlapping ranges
    behave like `memmove` -/
def copyWithin (b : Bytes) (s e dest : Nat) : Res Bytes :=
  if s ≤ e ∧ e ≤ b.length ∧ dest + (e - s) ≤ b.length then
    .ok (b.take dest ++ (b.take e).drop s ++ b.drop (dest + (e - s)))
  else .panic .sliceOob

/-- `as_ref()` / `as_mut()`: `&self.inner[..self.pos]` -/
def Writer.view (w : Writer) : Res Bytes := sliceTo w.inner w.pos

/-- writes through `as_mut()` -/
def Writer.setView (w : Writer) (v : Bytes) : Res Writer := do
  let old ← w.view
  if v.length = old.length then .ok ⟨v ++ w.inner.drop w.pos, w.pos⟩ else .panic .copyLen

/-- `buffer_write` (lines 86-96) -/
def Writer.write (w : Writer) (d : Bytes) : Res Writer :=
  let endPos := w.pos + d.length
  if endPos > w.inner.length then .err exceeded
  else do
    let inner ← copyInto w.inner w.pos endPos d
    .ok ⟨inner, endPos⟩

/-- `buffer_insert(p, d)` = `splice(p..p, d)` (lines 40-70, 99-101); `rem_len = 0`, `diff = ins_len = |d|`.
    `fixed = false`: `copy_within((range.end - diff)..self.pos, range.end)` — `range.end - diff` underflows whenever `|d| > p`.
    `fixed = true`: `copy_within(range.end..self.pos, range.end + diff)`. -/
def Writer.insert (fixed : Bool) (w : Writer) (p : Nat) (d : Bytes) : Res Writer :=
  if d.length = 0 then .ok w                                      -- arm `_ => {}`, empty index loop
  else
    let diff := d.length
    if w.pos + diff > w.inner.length then .err exceeded
    else do
      let moved ←
        if fixed then copyWithin w.inner p w.pos (p + diff)
        else if diff > p then Res.panic .arithOverflow
        else copyWithin w.inner (p - diff) w.pos p
      -- `for idx in 0..ins_len { self.inner[range.start + idx] = … }`
      let inner ← copyInto moved p (p + diff) d
      .ok ⟨inner, w.pos + diff⟩

/-- `buffer_remove(s..e)` (lines 103-109) -/
def Writer.remove (w : Writer) (s e : Nat) : Res Writer :=
  if e < s then .panic .assertFailed
  else do
    let inner ← copyWithin w.inner e w.pos s
    if e - s > w.pos then Res.panic .arithOverflow else
    .ok ⟨inner, w.pos - (e - s)⟩

/-- `buffer_resize(len)` (lines 111-117).
    `fixed = false`: `let len = self.pos + len;` — the argument is ADDED to the position, nothing is zeroed.
    `fixed = true`: `len` is the new position; bytes uncovered by growing are zeroed (`inner[pos..len].fill(0)`). -/
def Writer.resize (fixed : Bool) (w : Writer) (len : Nat) : Res Writer :=
  if fixed then
    if len > w.inner.length then .err exceeded
    else if len > w.pos then
      if w.pos ≤ w.inner.length then .ok ⟨w.inner.take w.pos ++ zeros (len - w.pos) ++ w.inner.drop len, len⟩
      else .panic .sliceOob
    else .ok ⟨w.inner, len⟩
  else
    let len' := w.pos + len
    if len' > w.inner.length then .err exceeded else .ok ⟨w.inner, len'⟩

/-! ### the interface, programs over it -/

/-- the methods of `ResizeBuffer` (+ `WriteBuffer`, `AsRef`, `AsMut`) of one implementation -/
structure BufImpl (β : Type) where
  view : β → Res Bytes
  setView : β → Bytes → Res β
  write : β → Bytes → Res β
  insert : β → Nat → Bytes → Res β
  remove : β → Nat → Nat → Res β
  resize : β → Nat → Res β

def specImpl : BufImpl LBuf :=
  ⟨fun b => .ok b.data, LBuf.setView, LBuf.write, LBuf.insert, LBuf.remove, LBuf.resize⟩

def writerImpl (fixed : Bool) : BufImpl Writer :=
  ⟨Writer.view, Writer.setView, Writer.write, Writer.insert fixed, Writer.remove, Writer.resize fixed⟩

/-- a computation that talks to the buffer only through the trait methods -/
inductive Prog (α : Type) where
  | ret (a : α)
  | fail (e : Err)
  | panic (p : Panic)
  | view (k : Bytes → Prog α)
  | setView (v : Bytes) (k : Prog α)
  | write (d : Bytes) (k : Prog α)
  | insert (pos : Nat) (d : Bytes) (k : Prog α)
  | remove (s e : Nat) (k : Prog α)
  | resize (len : Nat) (k : Prog α)

/-- continue with the value of a pure step of the model (`Res`), propagating its error / panic -/
def Prog.lift {α γ : Type} (r : Res γ) (k : γ → Prog α) : Prog α :=
  match r with
  | .ok c => k c
  | .err e => .fail e
  | .panic p => .panic p

/-- one buffer call followed by the rest -/
def step {β γ : Type} (r : Res β) (k : β → Res γ) : Res γ :=
  match r with
  | .ok b => k b
  | .err e => .err e
  | .panic p => .panic p

def Prog.run {α β : Type} (I : BufImpl β) : Prog α → β → Res (β × α)
  | .ret a, b => .ok (b, a)
  | .fail e, _ => .err e
  | .panic p, _ => .panic p
  | .view k, b => step (I.view b) fun v => (k v).run I b
  | .setView v k, b => step (I.setView b v) fun b' => k.run I b'
  | .write d k, b => step (I.write b d) fun b' => k.run I b'
  | .insert p d k, b => step (I.insert b p d) fun b' => k.run I b'
  | .remove s e k, b => step (I.remove b s e) fun b' => k.run I b'
  | .resize n k, b => step (I.resize b n) fun b' => k.run I b'

/-- the trait's DEFAULT method `buffer_extend(len)` (`buffer/mod.rs:45-50`):
    `pos = as_ref().len(); end = pos + len; buffer_resize(end)?; &mut as_mut()[pos..end]` -/
def extendP {α : Type} (len : Nat) (k : Prog α) : Prog α :=
  .view fun v =>
    let pos := v.length
    .resize (pos + len) (.view fun v' => Prog.lift (sliceRange v' pos (pos + len)) fun _ => k)

/-- the raw operations of the trait, as data (op-sequence cases and the refinement theorem) -/
inductive Op where
  | write (d : Bytes)
  | insert (pos : Nat) (d : Bytes)
  | remove (s e : Nat)
  | resize (len : Nat)
  | extend (len : Nat)
  | setView (v : Bytes)
  deriving DecidableEq, Repr

def Prog.ofOps : List Op → Prog Unit
  | [] => .ret ()
  | .write d :: r => .write d (Prog.ofOps r)
  | .insert p d :: r => .insert p d (Prog.ofOps r)
  | .remove s e :: r => .remove s e (Prog.ofOps r)
  | .resize n :: r => .resize n (Prog.ofOps r)
  | .extend n :: r => extendP n (Prog.ofOps r)
  | .setView v :: r => .setView v (Prog.ofOps r)

/-! ### the in-place operations as programs -/

/-- `encrypt_in_place` of `AesKey<AesGcm>` / `Chacha20Key` (`alg/aes/mod.rs:188-205`, `alg/chacha20.rs:157-174`) -/
def streamEncryptP (A : AeadPrim) (nonceLen : Nat) (key nonce aad : Bytes) : Prog Nat :=
  if nonce.length ≠ nonceLen then .fail ⟨.InvalidNonce, .default⟩
  else Prog.lift (fromSlice nonce nonceLen) fun n =>
    .view fun buffer =>                                                       -- buffer.as_mut()
      match A.enc key n aad buffer with
      | none => .fail ⟨.Encryption, .aeadEncrypt⟩
      | some (ct, tag) =>
        .setView ct (.view fun v => .write tag (.ret v.length))               -- ctext_len; buffer_write(tag)

/-- `decrypt_in_place` of the same (`alg/aes/mod.rs:208-235`, `alg/chacha20.rs:177-200`) -/
def streamDecryptP (A : AeadPrim) (nonceLen : Nat) (shortKind : Kind) (key nonce aad : Bytes) : Prog Unit :=
  if nonce.length ≠ nonceLen then .fail ⟨.InvalidNonce, .default⟩
  else .view fun buffer =>
    if buffer.length < A.tagLen then .fail ⟨shortKind, .invalidSize⟩
    else
      let tagStart := buffer.length - A.tagLen
      Prog.lift (fromSlice nonce nonceLen) fun n =>
      Prog.lift (do fromSlice (← sliceFrom buffer tagStart) A.tagLen) fun tag =>
      Prog.lift (sliceTo buffer tagStart) fun ct =>
        match A.dec key n aad ct tag with
        | none => .fail aeadDecErr
        | some pt => .setView (pt ++ buffer.drop tagStart) (.resize tagStart (.ret ()))   -- buffer_resize(tag_start)

/-- `encrypt_in_place` of `AesKey<AesCbcHmac>` (`alg/aes/cbc_hmac.rs:76-119`) -/
def cbcHmacEncryptP (C : BlockCipher) (M : Mac) (K : Nat) (key nonce aad : Bytes) : Prog Nat :=
  if nonce.length ≠ 16 then .fail ⟨.InvalidNonce, .default⟩
  else if K > M.outLen then .fail ⟨.Encryption, .cbcTagSize⟩
  else if aadTooLong aad then .fail ⟨.Encryption, .cbcAadSize⟩
  else .view fun buffer =>
    let msgLen := buffer.length
    let padLen := cbcPaddingLength msgLen
    extendP (padLen + K) <|                                                   -- buffer_extend(pad_len + TagSize)
    Prog.lift (do fromSlice (← sliceFrom key K) K) fun encKey =>
    Prog.lift (fromSlice nonce 16) fun iv =>
    .view fun buf1 =>                                                         -- encrypt_padded_mut(buffer.as_mut(), msg_len)
      if (msgLen / 16 + 1) * 16 > buf1.length then .fail ⟨.Encryption, .cbcEncrypt⟩ else
      let ct := Cbc.encrypt (C.enc encKey) iv (Cbc.pkcs7Pad 16 (buf1.take msgLen))
      let ctextEnd := msgLen + padLen
      .setView (ct ++ buf1.drop ctextEnd) <|
      Prog.lift (sliceTo key K) fun macKey =>
      .view fun buf2 =>
        Prog.lift (sliceTo buf2 ctextEnd) fun ctv =>
        let mac := M.mac macKey (macInput aad nonce ctv)
        Prog.lift (sliceTo mac K) fun macT =>
        Prog.lift (copyInto buf2 ctextEnd (ctextEnd + K) macT) fun buf3 =>
        .setView buf3 (.ret ctextEnd)

/-- `decrypt_in_place` of the same (`alg/aes/cbc_hmac.rs:121-166`); `fixed` as in `Aead.cbcHmacDecrypt` (D5) -/
def cbcHmacDecryptP (fixed : Bool) (C : BlockCipher) (M : Mac) (K : Nat) (key nonce aad : Bytes) : Prog Unit :=
  if nonce.length ≠ 16 then .fail ⟨.InvalidNonce, .default⟩
  else if aadTooLong aad then .fail ⟨.Encryption, .cbcAadSize⟩
  else .view fun buffer =>
    if buffer.length < K then .fail ⟨.Encryption, .invalidSize⟩
    else
      let ctextEnd := buffer.length - K
      Prog.lift (do fromSlice (← sliceFrom buffer ctextEnd) K) fun tag =>
      Prog.lift (sliceTo key K) fun macKey =>
      Prog.lift (sliceTo buffer ctextEnd) fun ctv =>
      let mac := M.mac macKey (macInput aad nonce ctv)
      Prog.lift (sliceTo mac K) fun macT =>
      let tagMatch : Bool := decide (tag = macT)
      if fixed && !tagMatch then .fail aeadDecErr else
      Prog.lift (do fromSlice (← sliceFrom key K) K) fun encKey =>
      Prog.lift (fromSlice nonce 16) fun iv =>
      Prog.lift (sliceTo buffer ctextEnd) fun ctBuf =>
        match cbcDecryptPadded (C.dec encKey) iv ctBuf with
        | none => .fail cbcDecErr
        | some pt =>
          if !tagMatch then .fail aeadDecErr else
          -- the blocks are decrypted in place (padding included), then `buffer_resize(dec_len)`
          .setView (Cbc.decrypt (C.dec encKey) iv ctBuf ++ buffer.drop ctextEnd) (.resize pt.length (.ret ()))

/-- `encrypt_in_place` of `AesKey<AesKeyWrap>` (`alg/aes/key_wrap.rs:64-103`) -/
def kwEncryptP (C : BlockCipher) (key nonce aad : Bytes) : Prog Nat :=
  if !nonce.isEmpty then .fail ⟨.Unsupported, .kwNonce⟩
  else if !aad.isEmpty then .fail ⟨.Unsupported, .kwAad⟩
  else .view fun buffer =>
    if buffer.length % 8 ≠ 0 then .fail ⟨.Unsupported, .kwLen⟩
    else
      let blocks := buffer.length / 8
      .insert 0 (zeros 8) <|                                                  -- buffer_insert(0, &[0u8; 8])
      .view fun buf1 =>
        Prog.lift (sliceFrom buf1 8) fun body =>
        let r := kwWrapPasses (C.enc key) blocks 6 0 kwIv (Cbc.chunks 8 body)
        let buf2 := buf1.take 8 ++ r.2.flatten ++ body.drop (8 * (body.length / 8))
        Prog.lift (copyInto buf2 0 8 r.1) fun buf3 =>
        .setView buf3 (.ret (buffer.length + 8))                              -- Ok(buf_len)

/-- `decrypt_in_place` of the same (`alg/aes/key_wrap.rs:105-149`) -/
def kwDecryptP (C : BlockCipher) (key nonce aad : Bytes) : Prog Unit :=
  if !nonce.isEmpty then .fail ⟨.Unsupported, .kwNonce⟩
  else if !aad.isEmpty then .fail ⟨.Unsupported, .kwAad⟩
  else .view fun buffer =>
    if buffer.length % 8 ≠ 0 then .fail ⟨.Encryption, .kwLen⟩
    else if buffer.length / 8 < 1 then .fail ⟨.Encryption, .default⟩
    else
      let blocks := buffer.length / 8 - 1
      Prog.lift (do tryInto8 (← sliceRange buffer 0 8)) fun iv0 =>
      .remove 0 8 <|                                                          -- buffer_remove(0..8)
      .view fun body =>
        let r := kwUnwrapPasses (C.dec key) blocks 6 0 iv0 (Cbc.chunks 8 body)
        .setView (r.2.flatten ++ body.drop (8 * (body.length / 8))) <|
        if r.1 = kwIv then .ret () else .fail ⟨.Encryption, .default⟩

/-- `AnyKey::encrypt_in_place` -/
def encryptInPlaceP (P : Prims) (k : Key) (nonce aad : Bytes) : Prog Nat :=
  match k.alg with
  | .A128Gcm => streamEncryptP P.gcm128 12 k.bytes nonce aad
  | .A256Gcm => streamEncryptP P.gcm256 12 k.bytes nonce aad
  | .A128CbcHs256 => cbcHmacEncryptP P.aes128 P.hmac256 16 k.bytes nonce aad
  | .A256CbcHs512 => cbcHmacEncryptP P.aes256 P.hmac512 32 k.bytes nonce aad
  | .A128Kw => kwEncryptP P.aes128 k.bytes nonce aad
  | .A256Kw => kwEncryptP P.aes256 k.bytes nonce aad
  | .C20P => streamEncryptP P.c20p 12 k.bytes nonce aad
  | .XC20P => streamEncryptP P.xc20p 24 k.bytes nonce aad
  | .Ed25519 => .fail unsupportedErr

/-- `AnyKey::decrypt_in_place` -/
def decryptInPlaceP (fixed : Bool) (P : Prims) (k : Key) (nonce aad : Bytes) : Prog Unit :=
  match k.alg with
  | .A128Gcm => streamDecryptP P.gcm128 12 .Encryption k.bytes nonce aad
  | .A256Gcm => streamDecryptP P.gcm256 12 .Encryption k.bytes nonce aad
  | .A128CbcHs256 => cbcHmacDecryptP fixed P.aes128 P.hmac256 16 k.bytes nonce aad
  | .A256CbcHs512 => cbcHmacDecryptP fixed P.aes256 P.hmac512 32 k.bytes nonce aad
  | .A128Kw => kwDecryptP P.aes128 k.bytes nonce aad
  | .A256Kw => kwDecryptP P.aes256 k.bytes nonce aad
  | .C20P => streamDecryptP P.c20p 12 .Invalid k.bytes nonce aad
  | .XC20P => streamDecryptP P.xc20p 24 .Invalid k.bytes nonce aad
  | .Ed25519 => .fail unsupportedErr

/-- `crypto_box` (`encrypt/crypto_box.rs:48-64`) after the key / nonce checks: the message is encrypted in place,
    the tag is PREPENDED with `buffer_insert(0, tag)`; `sealF m = (ct, tag)` -/
def cryptoBoxP (sealF : Bytes → Bytes × Bytes) : Prog Unit :=
  .view fun m => .setView (sealF m).1 (.insert 0 (sealF m).2 (.ret ()))

/-- `crypto_box_open` (`encrypt/crypto_box.rs:67-88`) after the key / nonce checks; `open ct tag` -/
def cryptoBoxOpenP (tagLen : Nat) (shortErr decErr : Err) (opn : Bytes → Bytes → Option Bytes) : Prog Unit :=
  .view fun buffer =>
    if buffer.length < tagLen then .fail shortErr
    else
      Prog.lift (sliceTo buffer tagLen) fun tag =>
      Prog.lift (sliceFrom buffer tagLen) fun ct =>
        match opn ct tag with
        | none => .fail decErr
        | some pt => .setView (tag ++ pt) (.remove 0 tagLen (.ret ()))

/-! ### small wrappers named by the coverage audit (row 20) -/

/-- `LocalKey::aead_random_nonce`: the LENGTH of the nonce returned (the bytes are random) -/
def aeadRandomNonceLen (k : Key) : Nat := k.alg.params.1

/-- `LocalKey::from_seed`: the `method` dispatch (`src/kms/local_key.rs:57-70`) in front of key generation:
    `none` = `None | Some("")`.  Returns the error raised before any key is generated, if any. -/
def fromSeedGuard (method : Option String) (seedLen : Nat) : Option Err :=
  match method with
  | none => none
  | some "" => none
  | some "bls_keygen" => if seedLen < 32 then some ⟨.Usage, .default⟩ else none     -- `BlsKeyGen::new`
  | some _ => some ⟨.Unsupported, .default⟩

/-- `kdf::argon2::Argon2::new`: `salt.len() < SALT_LENGTH (= 16)` is a `Usage` error -/
def argon2NewGuard (saltLen : Nat) : Option Err :=
  if saltLen < 16 then some ⟨.Usage, .default⟩ else none

end Askar.ResizeBuf
