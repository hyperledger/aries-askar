/-
The specification of C01: an in-memory map of one profile's records, keyed by
(kind, category, name), holding the last written value and tag list, in creation order.
Written to be read in a minute; it shares only the `Op`/`Out` vocabulary, the paging function and
the (abstract) tag-selection predicate with the store model.
-/
import AskarModel.Model.Store

namespace Askar.Spec
open Askar.Store Askar.Wql

abbrev Map := List Entry

def sameKey (e : Entry) (k : Kind) (c n : String) : Bool := e.kind == k && e.cat == c && e.name == n

def inScope (e : Entry) (k : Option Kind) (c : Option String) : Bool :=
  (match k with | none => true | some k => e.kind == k) &&
  (match c with | none => true | some c => e.cat == c)

def hit (like : Bytes → Bytes → Bool) (k : Option Kind) (c : Option String) (f : Option (Query String)) (e : Entry) : Bool :=
  inScope e k c && matchTags like f e.tags

def ordered (desc : Bool) (l : List Entry) : List Entry := if desc then l.reverse else l

def step (like : Bytes → Bytes → Bool) (page : Nat) (m : Map) : Op → Map × Out
  | .insert k c n v t _ =>
    if m.any (sameKey · k c n) then (m, .err .duplicate) else (m ++ [⟨k, c, n, v, t.getD []⟩], .ok)
  | .replace k c n v t _ =>
    if m.any (sameKey · k c n) then (m.map fun e => if sameKey e k c n then ⟨k, c, n, v, t.getD []⟩ else e, .ok)
    else (m, .err .notFound)
  | .remove k c n =>
    if m.any (sameKey · k c n) then (m.filter fun e => !sameKey e k c n, .ok) else (m, .err .notFound)
  | .removeAll k c f => (m.filter fun e => !hit like k c f e, .count (m.filter (hit like k c f)).length)
  | .fetch k c n => (m, .entry (m.find? (sameKey · k c n)))
  | .fetchAll k c f lim desc => (m, .entries (window none lim (ordered desc (m.filter (hit like k c f)))))
  | .count k c f => (m, .count (m.filter (hit like k c f)).length)
  | .scan k c f off lim desc => (m, .pages (batches page (window off lim (ordered desc (m.filter (hit like k c f))))))

def run (like : Bytes → Bytes → Bool) (page : Nat) : Map → List Op → Map × List Out
  | m, [] => (m, [])
  | m, op :: ops =>
    let (m1, o) := step like page m op
    let (m2, os) := run like page m1 ops
    (m2, o :: os)

end Askar.Spec

namespace Askar.Store

def toEntry (it : Item) : Entry := ⟨it.kind, it.cat, it.name, it.value, it.tags⟩

/-- Abstraction: the records of the session's profile, in creation order. -/
def abs (s : Sess) (db : Db) : Spec.Map := (db.items.filter (·.pid == s.pid)).map toEntry

/-- `expiry = None` in the call (C01 leaves expiry to C17) -/
def Op.noExpiry : Op → Bool
  | .insert _ _ _ _ _ e => e.isNone
  | .replace _ _ _ _ _ e => e.isNone
  | _ => true

/-- The invariant of reachable stores that C01/C07 rely on. -/
structure Inv (db : Db) : Prop where
  /-- row ids increase along the list (creation order) -/
  sorted : Sorted db
  /-- the unique index (profile_id, kind, category, name) on the stored columns -/
  unique : db.items.Pairwise fun a b => ¬(a.pid = b.pid ∧ a.key = b.key ∧ a.kind = b.kind ∧ a.cat = b.cat ∧ a.name = b.name)
  /-- no record carries an expiry (C01's scope) -/
  noExpiry : ∀ it ∈ db.items, it.expiry = none

/-- Every row of the session's profile is encrypted under the session's key
    (C07's `cache_coherent_resolve` puts the session's row into the profiles table; that the items carry the row's key
    is `single_handle_store_invariants` in Props/Ties.lean). -/
def KeyCoherent (s : Sess) (db : Db) : Prop := ∀ it ∈ db.items, it.pid = s.pid → it.key = s.key

/-- An interleaved history: each call is made through some session. -/
def runMulti (like : Bytes → Bytes → Bool) (page : Nat) (now : Int) : Db → List (Sess × Op) → Db × List (Sess × Out)
  | db, [] => (db, [])
  | db, (s, op) :: rest =>
    let (db1, o) := step like page now s db op
    let (db2, os) := runMulti like page now db1 rest
    (db2, (s, o) :: os)

/-- foreign-key invariant: every item belongs to an existing profile -/
def FkInv (db : Db) : Prop := ∀ it ∈ db.items, ∃ p ∈ db.profiles, p.id = it.pid

/-- the key cache only holds what the profiles table says -/
def CacheCoherent (db : Db) (h : Handle) : Prop :=
  ∀ name pid key, cacheGet h.cache name = some (pid, key) → (⟨pid, name, key⟩ : Profile) ∈ db.profiles

def ProfilesWF (db : Db) : Prop :=
  db.profiles.Pairwise (fun a b => a.name ≠ b.name ∧ a.id ≠ b.id)

/-- rows that have not expired at `now` -/
def purge (now : Int) (db : Db) : Db := { db with items := db.items.filter (live now) }

end Askar.Store
