/-
Model B″ of C08: `PostgresStoreOptions::new` (askar-storage/src/backend/postgres/provision.rs:58-134) — what the
Postgres backend derives from a store URI: four numeric pool parameters, the database / user / schema identifiers and
TWO connection URIs (`uri` for the store's own role, `admin_uri` for the role that creates the database).  A pure
function of the parsed `Options` (Model/Uri.lean); no server is involved.

  let mut opts = options.into_options()?;                       -- `&str`: `Options::parse_uri`, which cannot fail
  connect_timeout  = query.remove(..) → `str::parse::<u64>()`   (default 30;  failure: Input)       -- in THIS order,
  idle_timeout     = query.remove(..) → `str::parse::<u64>()`   (default 300; failure: Input)       -- the first
  max_connections  = query.remove(..) → `str::parse::<u32>()`   (default 10;  failure: Input)       -- failure
  min_connections  = query.remove(..) → `str::parse::<u32>()`   (default 0;   failure: Input)       -- returns
  schema / admin_account / admin_password = query.remove(..)
  username = if opts.user == "" { "postgres" } else { opts.user }
  uri = opts.clone().into_uri()                                  -- every component, the REMAINING parameters
  opts.user = admin_account (if given); opts.password = admin_password (if given)
  host = opts.host
  if opts.path.len() < 2 → Input "Missing database name"
  name = opts.path[1..]                                          -- a `str` slice: PANICS when byte 1 is not a char boundary
  _validate_ident(schema) (if given); _validate_ident(name); _validate_ident(username)     -- empty, '"' or NUL: Input
  opts.path = "/postgres"; admin_uri = opts.into_uri()

`query` is a `HashMap`: a key given several times in the URI holds the LAST value (`Uri.parseQuery` = fold of
`mapInsert`), `remove` returns it and deletes the binding.  The iteration order of the map in the two `into_uri` calls is
unspecified; as in Model/Uri.lean the model keeps the two `Options` values that are serialised (`uriOpts`, `adminOpts`)
and the text is `intoUriWith qs …` for an enumeration `qs`; the theorems quantify over every enumeration of each.

The slice `path[1..]`: the length check makes index 1 in range; it is a char boundary iff byte 1 is not a UTF-8
continuation byte.  A path that comes out of `parse_uri` is empty or starts with `/`, so the panic is reachable only
through a hand-built `Options` value (`IntoOptions for Options`; the fields are public): explicit outcome `Fail.panic`.
-/
import AskarModel.Model.Uri
import AskarModel.Model.SqliteOpts

namespace Askar.PgOptions
open Askar.Uri

/-- how a call can end without a value: `ErrorKind::Input`, or a panic (the `str` slice) -/
inductive Fail | input | panic
  deriving DecidableEq, Repr, Inhabited

/-! ### constants of provision.rs (lines 23-26: stated here; tied to the values tools/extract.py reads by
`C08Pg.pg_defaults_and_keys_match_source`) -/
def defaultConnectTimeout : Nat := 30
def defaultIdleTimeout : Nat := 300
def defaultMinConnections : Nat := 0
def defaultMaxConnections : Nat := 10

/-! the seven names, as bytes (explicit lists: a `lit "…"` is re-evaluated at every use by `decide`); checked against the text below -/
def kConnect : Str := [0x63, 0x6F, 0x6E, 0x6E, 0x65, 0x63, 0x74, 0x5F, 0x74, 0x69, 0x6D, 0x65, 0x6F, 0x75, 0x74]        -- "connect_timeout"
def kIdle : Str := [0x69, 0x64, 0x6C, 0x65, 0x5F, 0x74, 0x69, 0x6D, 0x65, 0x6F, 0x75, 0x74]        -- "idle_timeout"
def kMax : Str := [0x6D, 0x61, 0x78, 0x5F, 0x63, 0x6F, 0x6E, 0x6E, 0x65, 0x63, 0x74, 0x69, 0x6F, 0x6E, 0x73]        -- "max_connections"
def kMin : Str := [0x6D, 0x69, 0x6E, 0x5F, 0x63, 0x6F, 0x6E, 0x6E, 0x65, 0x63, 0x74, 0x69, 0x6F, 0x6E, 0x73]        -- "min_connections"
def kSchema : Str := [0x73, 0x63, 0x68, 0x65, 0x6D, 0x61]        -- "schema"
def kAdminAcct : Str := [0x61, 0x64, 0x6D, 0x69, 0x6E, 0x5F, 0x61, 0x63, 0x63, 0x6F, 0x75, 0x6E, 0x74]        -- "admin_account"
def kAdminPass : Str := [0x61, 0x64, 0x6D, 0x69, 0x6E, 0x5F, 0x70, 0x61, 0x73, 0x73, 0x77, 0x6F, 0x72, 0x64]        -- "admin_password"
example : kConnect = lit "connect_timeout" ∧ kIdle = lit "idle_timeout" ∧ kMax = lit "max_connections" ∧ kMin = lit "min_connections" ∧ kSchema = lit "schema" ∧ kAdminAcct = lit "admin_account" ∧ kAdminPass = lit "admin_password" := by decide

/-- the seven parameters `new` takes out of the query, in the order of the code -/
def consumed : List Str := [kConnect, kIdle, kMax, kMin, kSchema, kAdminAcct, kAdminPass]

def sPostgres : Str := [0x70, 0x6F, 0x73, 0x74, 0x67, 0x72, 0x65, 0x73]            -- "postgres"
def sAdminPath : Str := 0x2F :: sPostgres                                          -- "/postgres"
example : sPostgres = lit "postgres" ∧ sAdminPath = lit "/postgres" := by decide

/-- `HashMap::remove(k)`: the value bound to `k` (if any) and the map without that binding -/
def mapRemove (m : QueryMap) (k : Str) : Option Str × QueryMap := (mapGet m k, m.filter fun e => e.1 ≠ k)

/-- `if let Some(v) = removed { v.parse().map_err(Input)? } else { default }` for an unsigned type of `bits` bits -/
def numOf (bits dflt : Nat) : Option Str → Except Fail Nat
  | none => .ok dflt
  | some v =>
    match parseUnsigned bits v with
    | some n => .ok n
    | none => .error .input

/-- `_validate_ident`: not empty, neither `"` nor NUL (an ASCII byte occurs in a `str` iff the character does) -/
def validIdent (s : Str) : Bool := !s.isEmpty && !s.contains 0x22 && !s.contains 0x00

/-- `str::is_char_boundary(1)` for a string of at least two bytes -/
def boundaryAt1 : Str → Bool
  | _ :: b :: _ => !isCont b
  | _ => true

/-- `match opts.user.as_ref() { "" => "postgres", a => a }` -/
def usernameOf (o : Options) : Str := if o.user.isEmpty then sPostgres else o.user

structure PgOpts where
  /-- seconds -/
  connectTimeout : Nat
  /-- seconds -/
  idleTimeout : Nat
  maxConnections : Nat
  minConnections : Nat
  /-- the value `uri` is written from: `uri = into_uri(uriOpts)` -/
  uriOpts : Options
  /-- the value `admin_uri` is written from -/
  adminOpts : Options
  host : Str
  name : Str
  username : Str
  schema : Option Str
  deriving DecidableEq, Repr

/-- `uri` / `admin_uri` when the hash map enumerates its entries in the order `qs` -/
def PgOpts.uriWith (r : PgOpts) (qs : List (Str × Str)) : Str := intoUriWith qs r.uriOpts
def PgOpts.adminUriWith (r : PgOpts) (qs : List (Str × Str)) : Str := intoUriWith qs r.adminOpts
/-- one admissible run -/
def PgOpts.uri (r : PgOpts) : Str := intoUri r.uriOpts
def PgOpts.adminUri (r : PgOpts) : Str := intoUri r.adminOpts

/-- `PostgresStoreOptions::new(opts)` for an `Options` value -/
def pgNew (o : Options) : Except Fail PgOpts :=
  let t1 := mapRemove o.query kConnect
  match numOf 64 defaultConnectTimeout t1.1 with
  | .error e => .error e
  | .ok ct =>
  let t2 := mapRemove t1.2 kIdle
  match numOf 64 defaultIdleTimeout t2.1 with
  | .error e => .error e
  | .ok it =>
  let t3 := mapRemove t2.2 kMax
  match numOf 32 defaultMaxConnections t3.1 with
  | .error e => .error e
  | .ok maxc =>
  let t4 := mapRemove t3.2 kMin
  match numOf 32 defaultMinConnections t4.1 with
  | .error e => .error e
  | .ok minc =>
  let t5 := mapRemove t4.2 kSchema
  let t6 := mapRemove t5.2 kAdminAcct
  let t7 := mapRemove t6.2 kAdminPass
  let schema := t5.1
  let username := usernameOf o
  let uriOpts : Options := { o with query := t7.2 }
  -- `if let Some(a) = admin_acct { opts.user = a }`, the same for the password
  let admin : Options := { uriOpts with user := t6.1.getD o.user, password := t7.1.getD o.password }
  if o.path.length < 2 then .error .input                    -- "Missing database name"
  else if !boundaryAt1 o.path then .error .panic             -- `path[1..]`
  else
    let name := o.path.drop 1
    if !(match schema with | some s => validIdent s | none => true) then .error .input
    else if !validIdent name then .error .input
    else if !validIdent username then .error .input
    else
      .ok { connectTimeout := ct, idleTimeout := it, maxConnections := maxc, minConnections := minc,
            uriOpts := uriOpts, adminOpts := { admin with path := sAdminPath },
            host := o.host, name := name, username := username, schema := schema }

/-- `PostgresStoreOptions::new(uri: &str)` -/
def pgNewOfUri (uri : Str) : Except Fail PgOpts := pgNew (parseUri uri)

/-! ### what the theorems compare with -/

/-- a numeric field `n` is what the parameter says: the default when it is absent, else the value `FromStr` gives its text -/
def NumReads (x : Option Str) (bits dflt n : Nat) : Prop :=
  match x with
  | none => n = dflt
  | some v => parseUnsigned bits v = some n

/-- `o` without the seven consumed parameters — everything else as it is -/
def withoutConsumed (o : Options) : Options := { o with query := o.query.filter fun e => !consumed.contains e.1 }

/-- the `Options` the admin URI should denote: `withoutConsumed o` with the admin credentials where given and the
    default database as path -/
def adminExpected (o : Options) : Options :=
  { withoutConsumed o with
    user := (mapGet o.query kAdminAcct).getD o.user,
    password := (mapGet o.query kAdminPass).getD o.password,
    path := sAdminPath }

end Askar.PgOptions
