/-
Model of the key-management layer of aries-askar (property C11):

* src/store.rs      `Session::{insert_key, fetch_key, fetch_all_keys, update_key, remove_key}`
* src/kms/entry.rs  `KeyParams` (CBOR {meta, ref, data}), `KeyEntry::from_entry`, accessors, `load_local_key`
* src/kms/local_key.rs `encode`, `to_jwk_thumbprints`, `algorithm`  (as the abstract `KeyOps`)

on top of the logical store model (`Model/Store.lean`): a key is one row of kind Kms (1), category
`cryptokey`, value = CBOR of `KeyParams`, tags `alg`, `thumb`* and the caller's tags under `user:`.

Third-party parts are parameters: the CBOR codec (`Cbor`, law: `dec (enc p) = some p`) and the key
material (`KeyOps K`: algorithm name, thumbprints, secret-JWK export, JWK import).

Two switches are read from the source by tools/extract.py on every run (`Generated/Flags.lean`; see DESIGN.md section 5):
* `prefixAfterTilde` — does `fetch_all_keys` put `user:` AFTER a leading `~` of a filter name?  With `false` the
  prefix goes in front of the `~` plaintext marker, which is then not interpreted (defect D6);
* `symmetricJwkImport` — does `from_jwk_any` have an `oct` branch?  With `false` it has none (defect D15).
-/
import AskarModel.Model.Store
import AskarModel.Model.Spec
import AskarModel.Generated.Flags

namespace Askar.KeyStore
open Askar.Wql Askar.Store

/-- `EntryKind::Kms as i16` -/
def kmsKind : Kind := 1
/-- `KmsCategory::CryptoKey.as_str()` -/
def cryptoKey : String := "cryptokey"

/-- Does `fetch_all_keys` insert the `user:` prefix after a leading `~` of a filter name (`k.replace_range(at..at, "user:")`
    with `at` past the marker), or in front of it (`k.replace_range(0..0, "user:")`, defect D6)?  Read from src/store.rs
    (`Generated.Flags`). -/
def prefixAfterTilde : Bool := Askar.Generated.Flags.keyFilterPrefixAfterTilde

/-- Does `from_jwk_any` import symmetric (`kty = oct`) JWKs (without: defect D15)?  Read from askar-crypto/src/alg/any.rs
    (`Generated.Flags`). -/
def symmetricJwkImport : Bool := Askar.Generated.Flags.jwkOctImport

/-! ### Strings: the `user:` prefix -/

/-- `format!("user:{}", k)` -/
def addUser (k : String) : String := String.ofList ('u' :: 's' :: 'e' :: 'r' :: ':' :: k.toList)

/-- `name.starts_with("user:")` then `replace_range(0..5, "")` -/
def stripUser (n : String) : Option String :=
  match n.toList with
  | 'u' :: 's' :: 'e' :: 'r' :: ':' :: rest => some (String.ofList rest)
  | _ => none

/-- The closure passed to `map_names` in `fetch_all_keys`.  `fixed = false`: the prefix goes in front of
    everything, including a leading `~`.  `fixed = true` (proposals/C11-D6.diff): the prefix goes after the
    marker. -/
def mapFilterName (fixed : Bool) (k : String) : String :=
  if fixed then
    match k.toList with
    | '~' :: rest => String.ofList ('~' :: 'u' :: 's' :: 'e' :: 'r' :: ':' :: rest)
    | _ => addUser k
  else addUser k

/-! ### `KeyParams` and its CBOR codec (serde_cbor, abstract) -/

/-- `KeyReference` -/
inductive KeyRef
  | mobileSecureElement
  | any (s : String)
  deriving DecidableEq, Repr, Inhabited

/-- `KeyParams { metadata, reference, data }` -/
structure KeyParams where
  «meta» : Option String
  ref : Option KeyRef
  data : Option Bytes
  deriving DecidableEq, Repr, Inhabited

/-- `KeyParams::to_bytes` / `KeyParams::from_slice` (serde_cbor).  Serialisation of this plain struct
    cannot fail; deserialisation of foreign bytes can. -/
structure Cbor where
  enc : KeyParams → Bytes
  dec : Bytes → Option KeyParams

/-- the round-trip law assumed of serde_cbor (exhibited by `Driver.C11.cbor`-style instances) -/
def Cbor.Lawful (C : Cbor) : Prop := ∀ p, C.dec (C.enc p) = some p

/-! ### Key material (askar-crypto, abstract) -/

/-- the eight symmetric algorithms (`KeyAlg::as_str`) -/
def symmetricAlgs : List String :=
  ["a128gcm", "a256gcm", "a128cbchs256", "a256cbchs512", "a128kw", "a256kw", "c20p", "xc20p"]

def isSymmetric (alg : String) : Bool := symmetricAlgs.contains alg

/-- can `from_jwk_any` dispatch a JWK of this algorithm? (`sym` = is there an `oct` branch) -/
def jwkImportable (sym : Bool) (alg : String) : Bool := sym || !isSymmetric alg

/-- What the KMS layer uses of a `LocalKey` / `Box<AnyKey>`. -/
structure KeyOps (K : Type) where
  /-- `key.algorithm().as_str()` -/
  alg : K → String
  /-- `key.to_jwk_thumbprints()` — two entries for BLS12-381 G1G2, one otherwise -/
  thumbs : K → Except Err (List String)
  /-- `key.encode()` = `to_jwk_secret(None)` -/
  encode : K → Except Err Bytes
  /-- `Box::<AnyKey>::from_jwk_slice` -/
  decode : Bytes → Except Err K
  /-- `KeyAlg::from_str(alg)` then `LocalKey::from_id(alg, id)` (hardware keys; unsupported in this build) -/
  fromId : String → String → Except Err K
  /-- `SecretBytes::as_opt_str`: the data as UTF-8 text -/
  asStr : Bytes → Option String

/-- What is assumed of the key codec (C14's subject): an exported key imports back to itself whenever
    `from_jwk_any` has a branch for its algorithm; and without an `oct` branch no import yields a
    symmetric key. -/
structure KeyOps.Lawful {K : Type} (sym : Bool) (O : KeyOps K) : Prop where
  decode_encode : ∀ k b, O.encode k = .ok b → jwkImportable sym (O.alg k) = true → O.decode b = .ok k
  no_oct : sym = false → ∀ b k, O.decode b = .ok k → isSymmetric (O.alg k) = false

/-! ### Tags written for a key -/

def userTag (t : Tag) : Tag := { t with name := addUser t.name }

/-- `if !alg.is_empty() { ins_tags.push(Encrypted("alg", alg)) }` -/
def algTags (alg : String) : List Tag := if alg.isEmpty then [] else [⟨false, "alg", alg⟩]

def thumbTag (t : String) : Tag := ⟨false, "thumb", t⟩

/-- the tag list `insert_key` builds -/
def keyTags (alg : String) (thumbs : List String) (user : List Tag) : List Tag :=
  algTags alg ++ thumbs.map thumbTag ++ user.map userTag

/-! ### `KeyEntry` -/

structure KeyEntry where
  name : String
  params : KeyParams
  alg : Option String
  thumbs : List String
  tags : List Tag
  deriving DecidableEq, Repr, Inhabited

/-- Rust `String: Ord` — bytewise on UTF-8 -/
def strLt (a b : String) : Bool := Bytes.lt (utf8 a) (utf8 b)

def strLe (a b : String) : Bool := !strLt b a

/-- derived `Ord` of `EntryTag`: `Encrypted < Plaintext`, then name, then value -/
def tagLe (a b : Tag) : Bool :=
  if a.plain != b.plain then !a.plain
  else if a.name != b.name then strLt a.name b.name
  else strLe a.value b.value

def insertSorted {α} (le : α → α → Bool) (x : α) : List α → List α
  | [] => [x]
  | y :: ys => if le x y then x :: y :: ys else y :: insertSorted le x ys

/-- `Vec::sort` (as a function: insertion sort) -/
def sortBy {α} (le : α → α → Bool) (l : List α) : List α := l.foldr (insertSorted le) []

def sortTags (l : List Tag) : List Tag := sortBy tagLe l
def sortStrs (l : List String) : List String := sortBy strLe l

/-- The loop of `KeyEntry::from_entry` over the row's tags: `user:` names are stripped and kept,
    `alg` (of either kind; the last one wins) and `thumb` are lifted out, anything else is dropped. -/
def liftTags : List Tag → Option String × List String × List Tag
  | [] => (none, [], [])
  | t :: ts =>
    let r := liftTags ts
    match stripUser t.name with
    | some n => (r.1, r.2.1, { t with name := n } :: r.2.2)
    | none =>
      if t.name == "alg" then ((match r.1 with | some a => some a | none => some t.value), r.2.1, r.2.2)
      else if t.name == "thumb" then (r.1, t.value :: r.2.1, r.2.2)
      else r

/-- `KeyEntry::from_entry` -/
def fromEntry (C : Cbor) (e : Entry) : Except Err KeyEntry :=
  match C.dec e.value with
  | none => .error .unexpected
  | some p =>
    let r := liftTags e.tags
    .ok ⟨e.name, p, r.1, sortStrs r.2.1, sortTags r.2.2⟩

/-- the `for row in rows { entries.push(KeyEntry::from_entry(row)?) }` loop -/
def fromEntries (C : Cbor) : List Entry → Except Err (List KeyEntry)
  | [] => .ok []
  | e :: es =>
    match fromEntry C e with
    | .error x => .error x
    | .ok k =>
      match fromEntries C es with
      | .error x => .error x
      | .ok ks => .ok (k :: ks)

/-- accessors -/
def KeyEntry.metadata (e : KeyEntry) : Option String := e.params.meta
def KeyEntry.isLocal (e : KeyEntry) : Bool := e.params.ref.isNone

/-- `KeyEntry::load_local_key` -/
def loadLocalKey {K : Type} (O : KeyOps K) (e : KeyEntry) : Except Err K :=
  match e.params.data with
  | none => .error .input                       -- "Missing key data"
  | some data =>
    match e.params.ref with
    | some .mobileSecureElement =>
      match O.asStr data with
      | none => .error .input                   -- "Could not convert key data to string for id"
      | some id =>
        match e.alg with
        | none => .error .input                 -- "Algorithm is required to get key by id"
        | some a => O.fromId a id
    | _ => O.decode data

/-! ### Session operations -/

section Ops
variable {K : Type} (C : Cbor) (O : KeyOps K)

/-- `Session::insert_key` -/
def insertKey (db : Db) (now : Int) (s : Sess) (name : String) (k : K) («meta» : Option String)
    (ref : Option KeyRef) (tags : Option (List Tag)) (expiryMs : Option Int) : Except Err Db :=
  match O.encode k with
  | .error e => .error e
  | .ok data =>
    let value := C.enc ⟨«meta», ref, some data⟩
    match O.thumbs k with
    | .error e => .error e
    | .ok ths =>
      doInsert db now s kmsKind cryptoKey name value (some (keyTags (O.alg k) ths (tags.getD []))) expiryMs

/-- `Session::fetch_key` -/
def fetchKey (db : Db) (now : Int) (s : Sess) (name : String) : Except Err (Option KeyEntry) :=
  match doFetch db now s kmsKind cryptoKey name with
  | none => .ok none
  | some row =>
    match fromEntry C row with
    | .error e => .error e
    | .ok k => .ok (some k)

/-- the filter `fetch_all_keys` hands to the backend -/
def keyFilter (fixed : Bool) (alg thumb : Option String) (f : Option (Query String)) : Option (Query String) :=
  let parts :=
    (match f with | some q => [q.mapNames (mapFilterName fixed)] | none => []) ++
    (match alg with | some a => [Query.cmp .eq "alg" a] | none => []) ++
    (match thumb with | some t => [Query.cmp .eq "thumb" t] | none => [])
  if parts.isEmpty then none else some (.and parts)

/-- `Session::fetch_all_keys` -/
def fetchAllKeys (like : Bytes → Bytes → Bool) (fixed : Bool) (db : Db) (now : Int) (s : Sess)
    (alg thumb : Option String) (f : Option (Query String)) (lim : Option Int) : Except Err (List KeyEntry) :=
  match doFetchAll like db now s (some kmsKind) (some cryptoKey) (keyFilter fixed alg thumb f) lim false with
  | .error e => .error e
  | .ok rows => fromEntries C rows

/-- `Session::remove_key` -/
def removeKey (db : Db) (s : Sess) (name : String) : Except Err Db :=
  doRemove db s kmsKind cryptoKey name

/-- `!t.name().starts_with("user:")` -/
def isSystemTag (t : Tag) : Bool := (stripUser t.name).isNone

/-- `Session::update_key` -/
def updateKey (db : Db) (now : Int) (s : Sess) (name : String) («meta» : Option String)
    (tags : Option (List Tag)) (expiryMs : Option Int) : Except Err Db :=
  match doFetch db now s kmsKind cryptoKey name with
  | none => .error .notFound
  | some row =>
    match C.dec row.value with
    | none => .error .unexpected
    | some p =>
      let value := C.enc { p with «meta» := «meta» }
      let upd := (tags.getD []).map userTag ++ row.tags.filter isSystemTag
      doReplace db now s kmsKind cryptoKey name value (some upd) expiryMs

/-! ### Call sequences -/

inductive KeyOp (K : Type)
  | insertKey (name : String) (k : K) («meta» : Option String) (ref : Option KeyRef) (tags : Option (List Tag)) (expiryMs : Option Int)
  | updateKey (name : String) («meta» : Option String) (tags : Option (List Tag)) (expiryMs : Option Int)
  | removeKey (name : String)
  | fetchKey (name : String)
  | fetchAllKeys (alg thumb : Option String) (f : Option (Query String)) (lim : Option Int)

inductive KeyOut
  | ok
  | err (e : Err)
  | entry (e : Option KeyEntry)
  | entries (es : List KeyEntry)
  deriving DecidableEq, Repr, Inhabited

def stepKey (like : Bytes → Bytes → Bool) (fixed : Bool) (now : Int) (s : Sess) (db : Db) : KeyOp K → Db × KeyOut
  | .insertKey n k m r t e =>
    match insertKey C O db now s n k m r t e with
    | .ok db' => (db', .ok)
    | .error x => (db, .err x)
  | .updateKey n m t e =>
    match updateKey C db now s n m t e with
    | .ok db' => (db', .ok)
    | .error x => (db, .err x)
  | .removeKey n =>
    match removeKey db s n with
    | .ok db' => (db', .ok)
    | .error x => (db, .err x)
  | .fetchKey n =>
    match fetchKey C db now s n with
    | .ok e => (db, .entry e)
    | .error x => (db, .err x)
  | .fetchAllKeys a t f lim =>
    match fetchAllKeys C like fixed db now s a t f lim with
    | .ok es => (db, .entries es)
    | .error x => (db, .err x)

def runKeys (like : Bytes → Bytes → Bool) (fixed : Bool) (now : Int) (s : Sess) : Db → List (KeyOp K) → Db × List KeyOut
  | db, [] => (db, [])
  | db, op :: ops =>
    let r := stepKey C O like fixed now s db op
    let r' := runKeys like fixed now s r.1 ops
    (r'.1, r.2 :: r'.2)

end Ops

/-! ### Reference (what the property text says `fetch_all_keys` returns) -/

/-- all live keys of the session's profile, as `KeyEntry`s, in creation order -/
def keyEntries (C : Cbor) (db : Db) (now : Int) (s : Sess) : List KeyEntry :=
  (db.items.filter fun it => it.inScope s.pid s.key (some kmsKind) (some cryptoKey) && live now it).filterMap
    fun it => match fromEntry C (toEntry it) with | .ok k => some k | .error _ => none

/-- "has that algorithm, has that thumbprint, and its USER tags satisfy the filter by the C04
    reference semantics" — on the entry as the caller sees it (names without prefix, both kinds). -/
def refMatch (like : Bytes → Bytes → Bool) (alg thumb : Option String) (f : Option (Query String)) (e : KeyEntry) : Bool :=
  (match alg with | some a => e.alg == some a | none => true) &&
  (match thumb with | some t => e.thumbs.contains t | none => true) &&
  (match f with | some q => holds like e.tags (tagQuery q) | none => true)

/-! ### Invariant of rows written through the key API -/

/-- the system tags `alg` / `thumb` of a row are encrypted tags, and all its `alg` tags agree
    (`insert_key` writes exactly one; `update_key` keeps what it finds) -/
structure SysTagsWF (tags : List Tag) : Prop where
  algEnc : ∀ t ∈ tags, t.name = "alg" → t.plain = false
  thumbEnc : ∀ t ∈ tags, t.name = "thumb" → t.plain = false
  oneAlg : ∀ t1 ∈ tags, ∀ t2 ∈ tags, t1.name = "alg" → t2.name = "alg" → t1.value = t2.value

/-- every key row of the session's profile was written by `insert_key` / `update_key` -/
def KeysWF (C : Cbor) (s : Sess) (db : Db) : Prop :=
  ∀ it ∈ db.items, it.pid = s.pid → it.kind = kmsKind → it.cat = cryptoKey →
    SysTagsWF it.tags ∧ ∃ p, C.dec it.value = some p

/-- the filter name does not carry the plaintext marker `~` -/
def encName (k : String) : Bool :=
  match k.toList with
  | '~' :: _ => false
  | _ => true

mutual
/-- every tag name mentioned by the filter satisfies `p` -/
def allNames {N : Type} (p : N → Bool) : Query N → Bool
  | .and qs => allNamesList p qs
  | .or qs => allNamesList p qs
  | .not q => allNames p q
  | .cmp _ n _ => p n
  | .isIn n _ => p n
  | .exist ns => ns.all p
def allNamesList {N : Type} (p : N → Bool) : List (Query N) → Bool
  | [] => true
  | q :: qs => allNames p q && allNamesList p qs
end

end Askar.KeyStore
