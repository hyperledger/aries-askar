/-
Logical model of the SQLite backend (askar-storage/src/backend/sqlite/mod.rs + db_utils.rs):
the `items` / `items_tags` / `profiles` tables at the level of decrypted content, the fixed
statements, the key cache, paging and windows.

Encryption is abstracted to *key identities*: every profile key ever generated gets a fresh
number; a stored row remembers the key it was encrypted under.  A row whose key differs from the
session's key can be matched by no encrypted lookup (searchable encryption is keyed) and fails
to decrypt when a scan touches it.  The byte-level layers are Model/Provenance.lean, Model/Tamper.lean, Model/Decrypt.lean and
Model/StorageScheme.lean (C02/C03/C09).

Time: `now` (ms since epoch) is a field of the state, advanced only by explicit `tick` operations
(the correspondence harness moves time by rewriting stored timestamps, see DESIGN C17).
-/
import AskarModel.Model.Wql

namespace Askar.Store
open Askar.Wql

/-- `ErrorKind` names of askar-storage plus `Panic`. -/
inductive Err | backend | busy | custom | duplicate | encryption | input | notFound | unexpected | unsupported | panic
  deriving DecidableEq, Repr, Inhabited

def Err.name : Err → String
  | .backend => "Backend" | .busy => "Busy" | .custom => "Custom" | .duplicate => "Duplicate"
  | .encryption => "Encryption" | .input => "Input" | .notFound => "NotFound"
  | .unexpected => "Unexpected" | .unsupported => "Unsupported" | .panic => "Panic"

/-- `EntryKind as i16`: Kms = 1, Item = 2 -/
abbrev Kind := Nat

structure Item where
  id : Nat
  pid : Nat
  key : Nat                 -- identity of the profile key the row is encrypted under
  kind : Kind
  cat : String
  name : String
  value : Bytes
  tags : List Tag
  expiry : Option Int       -- absolute, ms since epoch
  deriving Repr, Inhabited

structure Profile where
  id : Nat
  name : String
  key : Nat
  deriving Repr, Inhabited

structure Db where
  items : List Item := []
  profiles : List Profile := []
  deriving Repr, Inhabited

/-- A record as returned to the caller. -/
structure Entry where
  kind : Kind
  cat : String
  name : String
  value : Bytes
  tags : List Tag
  deriving Repr, Inhabited, DecidableEq

/-! ### SQLite facts (assumed; validated by the correspondence runs) -/

/-- rowid of a new row: `max(rowid) + 1` (no AUTOINCREMENT: ids are reused after the largest is deleted) -/
def nextId (ids : List Nat) : Nat := ids.foldl max 0 + 1

/-- last representable instant: 9999-12-31T23:59:59Z, in seconds -/
def maxDatetimeSec : Int := 253402300799

/-- `expiry IS NULL OR DATETIME(expiry) > DATETIME('now')` — one-second resolution, truncating;
    `DATETIME` yields NULL (so the comparison is not true) outside years 0000–9999. -/
def live (now : Int) (it : Item) : Bool :=
  match it.expiry with
  | none => true
  | some e => decide (e / 1000 > now / 1000) && decide (e / 1000 ≤ maxDatetimeSec) && decide (-62167219200 ≤ e / 1000)

/-- chrono's representable range for `Utc::now().checked_add_signed(..)` (years ±262143), in ms -/
def chronoMaxMs : Int := 8210298412799999
def chronoMinMs : Int := -8334632851200000

/-- `expiry_timestamp` -/
def expiryTimestamp (now : Int) (ms : Int) : Except Err Int :=
  let t := now + ms
  if t > chronoMaxMs || t < chronoMinMs then .error .unexpected else .ok t

/-! ### Statements -/

/-- the unique index `(profile_id, kind, category, name)` on *stored* (encrypted) columns:
    two rows collide iff same profile, kind, key and plaintext identity -/
def Item.sameIdent (it : Item) (pid key : Nat) (kind : Kind) (cat name : String) : Bool :=
  it.pid == pid && it.key == key && it.kind == kind && it.cat == cat && it.name == name

/-- `kind = ?2 OR ?2 IS NULL`, `category = ?3 OR ?3 IS NULL` (the category bound is encrypted under
    the session key, so it can only equal a column encrypted under the same key) -/
def Item.inScope (it : Item) (pid key : Nat) (kind : Option Kind) (cat : Option String) : Bool :=
  it.pid == pid &&
  (match kind with | none => true | some k => it.kind == k) &&
  (match cat with | none => true | some c => it.key == key && it.cat == c)

/-- The tag filter as the code evaluates it: encoder model + SQL meaning, on the row's stored tags. -/
def matchTags (like : Bytes → Bytes → Bool) (f : Option (Query String)) (tags : List Tag) : Bool :=
  match f with
  | none => true
  | some q => evalFilter like (encodeQuery TagCrypto.toy (tagQuery q)) (tags.map TagCrypto.toy.encTag)

def matchFilter (like : Bytes → Bytes → Bool) (f : Option (Query String)) (it : Item) : Bool :=
  matchTags like f it.tags

/-- `limit_query`: ` LIMIT off, lim` with negative offset = 0 and negative limit = unlimited -/
def window (off : Option Int) (lim : Option Int) (rows : List α) : List α :=
  match off, lim with
  | none, none => rows
  | _, _ =>
    let o := (off.getD 0).toNat
    let l := lim.getD (-1)
    let dropped := rows.drop o
    if l < 0 then dropped else dropped.take l.toNat

/-- insertion sort by id (rows are few; keeps the model free of library sorting lemmas) -/
def insertById (x : Item) : List Item → List Item
  | [] => [x]
  | y :: ys => if x.id ≤ y.id then x :: y :: ys else y :: insertById x ys

def sortById (l : List Item) : List Item := l.foldr insertById []

/-- Rows a SCAN_QUERY execution yields, in the order SQLite yields them when `ORDER BY id` is
    requested; without ORDER BY the order is unspecified (the driver reports it sorted and the
    harness compares as multisets). -/
def selectRows (like : Bytes → Bytes → Bool) (db : Db) (now : Int) (pid key : Nat) (kind : Option Kind) (cat : Option String)
    (f : Option (Query String)) (off lim : Option Int) (desc : Bool) : List Item :=
  let rows := sortById (db.items.filter fun it => it.inScope pid key kind cat && live now it && matchFilter like f it)
  window off lim (if desc then rows.reverse else rows)

/-- `decrypt_scan_entry`: a row under a foreign key fails to decrypt -/
def decryptRow (key : Nat) (it : Item) : Except Err Entry :=
  if it.key == key then .ok ⟨it.kind, it.cat, it.name, it.value, it.tags⟩ else .error .encryption

def decryptRows (key : Nat) : List Item → Except Err (List Entry)
  | [] => .ok []
  | it :: rest =>
    match decryptRow key it, decryptRows key rest with
    | .ok e, .ok es => .ok (e :: es)
    | .error e, _ => .error e
    | _, .error e => .error e

/-- `perform_scan` batching: full pages of `p`, then a final non-empty partial page -/
def batches (p : Nat) (rows : List α) : List (List α) :=
  if _h : p = 0 then [rows] else
  if rows.length ≤ p then (if rows.isEmpty then [] else [rows])
  else rows.take p :: batches p (rows.drop p)
termination_by rows.length
decreasing_by simp; omega

/-- `Scan::fetch_next` driven to exhaustion: the stream is kept only after a full page. -/
def drainScan (p : Nat) : List (List α) → List (List α)
  | [] => []
  | b :: bs => if b.length == p then b :: drainScan p bs else [b]

/-! ### Operations of one session (profile id and key already resolved) -/

structure Sess where
  pid : Nat
  key : Nat
  deriving Repr, Inhabited

def doInsert (db : Db) (now : Int) (s : Sess) (kind : Kind) (cat name : String) (value : Bytes)
    (tags : Option (List Tag)) (expiryMs : Option Int) : Except Err Db :=
  match (match expiryMs with | none => Except.ok none | some ms => (expiryTimestamp now ms).map some) with
  | .error e => .error e
  | .ok exp =>
    if db.items.any (·.sameIdent s.pid s.key kind cat name) then .error .duplicate
    else
      let row : Item := { id := nextId (db.items.map (·.id)), pid := s.pid, key := s.key, kind := kind,
                          cat := cat, name := name, value := value, tags := tags.getD [], expiry := exp }
      .ok { db with items := db.items ++ [row] }

def doReplace (db : Db) (now : Int) (s : Sess) (kind : Kind) (cat name : String) (value : Bytes)
    (tags : Option (List Tag)) (expiryMs : Option Int) : Except Err Db :=
  match (match expiryMs with | none => Except.ok none | some ms => (expiryTimestamp now ms).map some) with
  | .error e => .error e
  | .ok exp =>
    if db.items.any (·.sameIdent s.pid s.key kind cat name) then
      .ok { db with items := db.items.map fun it =>
              if it.sameIdent s.pid s.key kind cat name then { it with value := value, tags := tags.getD [], expiry := exp } else it }
    else .error .notFound

def doRemove (db : Db) (s : Sess) (kind : Kind) (cat name : String) : Except Err Db :=
  if db.items.any (·.sameIdent s.pid s.key kind cat name) then
    .ok { db with items := db.items.filter fun it => !it.sameIdent s.pid s.key kind cat name }
  else .error .notFound

/-- DELETE_ALL_QUERY has no expiry atom: expired rows are removed and counted too -/
def doRemoveAll (like : Bytes → Bytes → Bool) (db : Db) (s : Sess) (kind : Option Kind) (cat : Option String)
    (f : Option (Query String)) : Db × Nat :=
  let hit := fun (it : Item) => it.inScope s.pid s.key kind cat && matchFilter like f it
  ({ db with items := db.items.filter fun it => !hit it }, (db.items.filter hit).length)

def doFetch (db : Db) (now : Int) (s : Sess) (kind : Kind) (cat name : String) : Option Entry :=
  match db.items.find? fun it => it.sameIdent s.pid s.key kind cat name && live now it with
  | none => none
  | some it => some ⟨it.kind, it.cat, it.name, it.value, it.tags⟩

def doCount (like : Bytes → Bytes → Bool) (db : Db) (now : Int) (s : Sess) (kind : Option Kind) (cat : Option String)
    (f : Option (Query String)) : Nat :=
  (db.items.filter fun it => it.inScope s.pid s.key kind cat && live now it && matchFilter like f it).length

def doFetchAll (like : Bytes → Bytes → Bool) (db : Db) (now : Int) (s : Sess) (kind : Option Kind) (cat : Option String)
    (f : Option (Query String)) (lim : Option Int) (desc : Bool) : Except Err (List Entry) :=
  decryptRows s.key (selectRows like db now s.pid s.key kind cat f none lim desc)

/-- pages as `Scan::fetch_next` returns them -/
def doScan (like : Bytes → Bytes → Bool) (page : Nat) (db : Db) (now : Int) (s : Sess) (kind : Option Kind) (cat : Option String)
    (f : Option (Query String)) (off lim : Option Int) (desc : Bool) : Except Err (List (List Entry)) :=
  match decryptRows s.key (selectRows like db now s.pid s.key kind cat f off lim desc) with
  | .error e => .error e
  | .ok es => .ok (drainScan page (batches page es))

/-! ### One call of a session, as data (the quantifier of C01/C04/C07/C16/C17 ranges over lists of these) -/

inductive Op
  | insert (kind : Kind) (cat name : String) (value : Bytes) (tags : Option (List Tag)) (expiryMs : Option Int)
  | replace (kind : Kind) (cat name : String) (value : Bytes) (tags : Option (List Tag)) (expiryMs : Option Int)
  | remove (kind : Kind) (cat name : String)
  | removeAll (kind : Option Kind) (cat : Option String) (f : Option (Query String))
  | fetch (kind : Kind) (cat name : String)
  | fetchAll (kind : Option Kind) (cat : Option String) (f : Option (Query String)) (lim : Option Int) (desc : Bool)
  | count (kind : Option Kind) (cat : Option String) (f : Option (Query String))
  | scan (kind : Option Kind) (cat : Option String) (f : Option (Query String)) (off lim : Option Int) (desc : Bool)
  deriving Repr, Inhabited

inductive Out
  | ok
  | err (e : Err)
  | entry (e : Option Entry)
  | entries (es : List Entry)
  | count (n : Nat)
  | pages (ps : List (List Entry))
  deriving Repr, Inhabited, DecidableEq

/-- One call of a session with resolved profile id and key, at model time `now`. -/
def step (like : Bytes → Bytes → Bool) (page : Nat) (now : Int) (s : Sess) (db : Db) : Op → Db × Out
  | .insert k c n v t e =>
    match doInsert db now s k c n v t e with
    | .ok db' => (db', .ok)
    | .error e => (db, .err e)
  | .replace k c n v t e =>
    match doReplace db now s k c n v t e with
    | .ok db' => (db', .ok)
    | .error e => (db, .err e)
  | .remove k c n =>
    match doRemove db s k c n with
    | .ok db' => (db', .ok)
    | .error e => (db, .err e)
  | .removeAll k c f => let (db', n) := doRemoveAll like db s k c f; (db', .count n)
  | .fetch k c n => (db, .entry (doFetch db now s k c n))
  | .fetchAll k c f lim desc =>
    match doFetchAll like db now s k c f lim desc with
    | .ok es => (db, .entries es)
    | .error e => (db, .err e)
  | .count k c f => (db, .count (doCount like db now s k c f))
  | .scan k c f off lim desc =>
    match doScan like page db now s k c f off lim desc with
    | .ok ps => (db, .pages ps)
    | .error e => (db, .err e)

/-- A whole call sequence; returns the final database and the outputs in order. -/
def run (like : Bytes → Bytes → Bool) (page : Nat) (now : Int) (s : Sess) : Db → List Op → Db × List Out
  | db, [] => (db, [])
  | db, op :: ops =>
    let (db1, o) := step like page now s db op
    let (db2, os) := run like page now s db1 ops
    (db2, o :: os)

/-- consecutive windows of widths `ws` starting at `off`, then the unbounded rest (C16) -/
def consecutive {α} (rows : List α) : Nat → List Nat → List (List α)
  | off, [] => [window (some (off : Int)) none rows]
  | off, w :: ws => window (some (off : Int)) (some (w : Int)) rows :: consecutive rows (off + w) ws


/-- ids increase along the `items` list (the list is in creation order by construction) -/
def Sorted (db : Db) : Prop := (db.items.map (·.id)).Pairwise (· < ·)

/-! ### Profiles and the key cache of one store handle -/

structure Handle where
  cache : List (String × Nat × Nat) := []     -- name ↦ (profile id, key identity)
  nextKey : Nat := 1                           -- fresh key identities
  deriving Repr, Inhabited

def cacheGet (c : List (String × Nat × Nat)) (name : String) : Option (Nat × Nat) :=
  (c.find? (·.1 == name)).map (·.2)

def cachePut (c : List (String × Nat × Nat)) (name : String) (v : Nat × Nat) : List (String × Nat × Nat) :=
  (name, v) :: c.filter (·.1 != name)

/-- `resolve_profile_key`: cache first, table second -/
def resolve (db : Db) (h : Handle) (name : String) : Except Err (Sess × Handle) :=
  match cacheGet h.cache name with
  | some (pid, key) => .ok (⟨pid, key⟩, h)
  | none =>
    match db.profiles.find? (·.name == name) with
    | some p => .ok (⟨p.id, p.key⟩, { h with cache := cachePut h.cache name (p.id, p.key) })
    | none => .error .notFound

def createProfile (db : Db) (h : Handle) (name : String) : Except Err (Db × Handle) :=
  if db.profiles.any (·.name == name) then .error .duplicate
  else
    let id := nextId (db.profiles.map (·.id))
    .ok ({ db with profiles := db.profiles ++ [⟨id, name, h.nextKey⟩] },
         { cache := cachePut h.cache name (id, h.nextKey), nextKey := h.nextKey + 1 })

/-- Does `remove_profile` evict the removed profile from the handle's key cache?  Follows the code
    (after the repair of defect D7: yes; see known-findings.json). -/
def evictOnRemove : Bool := true

/-- `remove_profile`: the row is deleted and items cascade; the cache entry is evicted. -/
def removeProfile (db : Db) (h : Handle) (name : String) (evict : Bool) : (Db × Handle) × Bool :=
  let h' := if evict then { h with cache := h.cache.filter (·.1 != name) } else h
  match db.profiles.find? (·.name == name) with
  | none => ((db, h'), false)
  | some p =>
    (({ items := db.items.filter (·.pid != p.id), profiles := db.profiles.filter (·.name != name) }, h'), true)

/-- `ping`: `SELECT COUNT(*) FROM profiles WHERE id = ?` -/
def ping (db : Db) (s : Sess) : Except Err Unit :=
  if db.profiles.any (·.id == s.pid) then .ok () else .error .notFound

end Askar.Store
