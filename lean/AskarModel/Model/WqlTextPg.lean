/-
The TEXT level of the WQL → SQL encoder for BOTH backends: `Model/WqlText.lean` (the SQLite dialect, left untouched)
re-stated with a `Dialect` parameter for the two things `trait QueryPrepare` lets a backend override:

* `QueryPrepare::placeholder(index)`   — default `format!("?{}", index)` (SQLite);  Postgres: `format!("${}", index)`
* `QueryPrepare::limit_query`          — default: push `offset.unwrap_or(0)`, push `limit.unwrap_or(-1)`, append
                                          `replace_arg_placeholders(" LIMIT $$, $$", args.len() + 1)`;
                                          Postgres: push `limit` (an `Option<i64>`: SQL NULL when absent), push
                                          `offset.unwrap_or(0)`, append `replace_arg_placeholders(" LIMIT $$ OFFSET $$", …)`.

`replace_arg_placeholders` itself is ONE generic function (`db_utils.rs`): it scans its INPUT for `$`, and for the
Postgres dialect its OUTPUT contains `$n` as well — so it is not idempotent there (a second pass with start index `s`
adds `s − 1` to every number, `Props/C04SPg.lean: pg_second_pass_shifts`).  The code never makes a second pass:
`encode_tag_filter` renumbers the clause once, `extend_query` appends that clause verbatim, and `limit_query` only
renumbers its own constant text.  `extendQueryD` below has exactly this structure (the clause comes in already renumbered).

`replaceGoD .sqlite = replaceGo`, `limitQueryD .sqlite` / `extendQueryD .sqlite` project to `limitQuery` / `extendQuery`
(`replaceGoD_sqlite`, `limitQueryD_sqlite` in `Lemmas/WqlText.lean`; `sqlite_dialect_is_extendQuery` in
`Props/C04SPg.lean`), so nothing is re-modelled: only the two overridden methods differ.
-/
import AskarModel.Model.WqlText

namespace Askar.Wql

inductive Dialect
  | sqlite
  | postgres
  deriving DecidableEq, Repr

/-- the character `QueryPrepare::placeholder` puts in front of the index -/
def Dialect.sigil : Dialect → Char
  | .sqlite => '?'
  | .postgres => '$'

/-- `Q::placeholder(index)` -/
def Dialect.placeholder (d : Dialect) (i : Int) : List Char := d.sigil :: intChars i

/-- `replace_arg_placeholders::<Q>`: the automaton of `replaceGo` (same states, same transitions, same checked
    `i64` arithmetic); only the spelling of the emitted placeholder depends on the dialect. -/
def replaceGoD (d : Dialect) (start : Int) : Int → Scan → List Char → Option (List Char)
  | _, .text, [] => some []
  | _, .dollar, [] => some ['$']
  | index, .digits ds, [] =>
    (subIndex start ds).bind fun k => (chk (index + 1)).bind fun _ => some (d.placeholder k)
  | index, .text, c :: cs =>
    if c = '$' then replaceGoD d start index .dollar cs
    else (replaceGoD d start index .text cs).map (c :: ·)
  | index, .dollar, c :: cs =>
    if c = '$' then
      (chk (index + 1)).bind fun i' => (replaceGoD d start i' .text cs).map (d.placeholder index ++ ·)
    else if c.isDigit then replaceGoD d start index (.digits [c]) cs
    else (replaceGoD d start index .text cs).map ('$' :: c :: ·)
  | index, .digits ds, c :: cs =>
    if c.isDigit then replaceGoD d start index (.digits (ds ++ [c])) cs
    else
      (subIndex start ds).bind fun k => (chk (index + 1)).bind fun i' =>
        (if c = '$' then replaceGoD d start i' .dollar cs
         else (replaceGoD d start i' .text cs).map (c :: ·)).map (d.placeholder k ++ ·)

/-- `replace_arg_placeholders::<Q>(filter, start_index)`; `none` = panic -/
def replaceArgsD (d : Dialect) (filter : List Char) (start : Int) : Option (List Char) :=
  replaceGoD d start start .text filter

def replaceArgsStrD (d : Dialect) (filter : String) (start : Int) : Option String :=
  (replaceArgsD d filter.toList start).map String.ofList

/-! ### final pieces, spelled per dialect -/

def finalPieceD (d : Dialect) : String ⊕ Nat → List Char
  | .inl s => s.toList
  | .inr n => d.sigil :: Nat.toDigits 10 n

def finalCharsD (d : Dialect) (xs : List (String ⊕ Nat)) : List Char := xs.flatMap (finalPieceD d)

/-- the final text of a piece list: text pieces as they are, parameter number `n` as `?n` / `$n` -/
def finalStringD (d : Dialect) (xs : List (String ⊕ Nat)) : String := String.ofList (finalCharsD d xs)

/-- re-spelling of a placeholder sigil: `?` ↦ `$` (on text whose only `?` are placeholder sigils this is `?n ↦ $n`) -/
def respellChar (c : Char) : Char := if c = '?' then '$' else c

def respell (s : List Char) : List Char := s.map respellChar

/-- a final piece read back as a token of placeholder text (the Postgres output IS placeholder text again) -/
def pieceTok : String ⊕ Nat → Tok
  | .inl s => .text s
  | .inr n => .ph (.num n)

/-- what a second pass with start index `s` does to a numbered piece -/
def shiftPiece (s : Nat) : String ⊕ Nat → String ⊕ Nat
  | .inl t => .inl t
  | .inr n => .inr (n + s - 1)

/-! ### `limit_query` and `extend_query` -/

/-- one value pushed on `QueryParams` by `limit_query` -/
inductive Bind
  | int (i : Int)
  | null
  deriving DecidableEq, Repr

/-- `args.push(x)` for an `Option<i64>`: `None` is bound as SQL NULL -/
def Bind.ofOpt : Option Int → Bind
  | some i => .int i
  | none => .null

/-- the constant text `limit_query` renumbers -/
def Dialect.limitText : Dialect → List Char
  | .sqlite => " LIMIT $$, $$".toList
  | .postgres => " LIMIT $$ OFFSET $$".toList

/-- the two `args.push(…)` of `limit_query`, in push order -/
def Dialect.limitBinds : Dialect → (offset limit : Option Int) → List Bind
  | .sqlite, offset, limit => [.int (offset.getD 0), .int (limit.getD (-1))]
  | .postgres, offset, limit => [Bind.ofOpt limit, .int (offset.getD 0)]

/-- `Q::limit_query`: `(text, number of parameters, what was pushed)`; `none` = panic -/
def limitQueryD (d : Dialect) (q : List Char) (nargs : Nat) (offset limit : Option Int) :
    Option (List Char × Nat × List Bind) :=
  if offset.isSome || limit.isSome then
    (replaceArgsD d d.limitText ((nargs : Int) + 1)).map fun l => (q ++ l, nargs + 2, d.limitBinds offset limit)
  else some (q, nargs, [])

/-- the statement text after the filter clause has been appended (`" AND "` + clause, verbatim) -/
def withFilter (base : List Char) (filter : Option (List Char × Nat)) : List Char :=
  match filter with
  | some (clause, _) => base ++ " AND ".toList ++ clause
  | none => base

/-- `filter_args.len()` -/
def filterArgs (filter : Option (List Char × Nat)) : Nat :=
  match filter with
  | some (_, k) => k
  | none => 0

/-- does `extend_query` call `limit_query` with something to add?  (SELECT statements only) -/
def windowAdded (base : List Char) (filter : Option (List Char × Nat)) (offset limit : Option Int) : Bool :=
  startsWithSelect (withFilter base filter) && (offset.isSome || limit.isSome)

/-- `extend_query::<Q>`: `filter` = the clause text ALREADY renumbered by `encode_tag_filter::<Q>` and its number of
    arguments; it is appended verbatim.  Result: final text, final number of bound parameters, and the values pushed
    for the window after the filter arguments; `none` = panic. -/
def extendQueryD (d : Dialect) (base : List Char) (nparams : Nat) (filter : Option (List Char × Nat))
    (offset limit : Option Int) (orderBy descending : Bool) : Option (List Char × Nat × List Bind) :=
  let (q, n) := match filter with
    | some (clause, k) => (base ++ " AND ".toList ++ clause, nparams + k)
    | none => (base, nparams)
  if startsWithSelect q then
    let q := if orderBy then orderByQuery q descending else q
    if offset.isSome || limit.isSome then limitQueryD d q n offset limit else some (q, n, [])
  else some (q, n, [])

end Askar.Wql
