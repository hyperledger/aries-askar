/-
C03, byte level — executable, total model of the decrypt paths of the storage layer:

* `askar-storage/src/protect/profile_key.rs`  `ProfileKeyImpl::{encrypt, encrypt_searchable, decrypt, derive_value_key,
                                               decrypt_entry_category/name/value, decrypt_entry_tags}`, `decode_utf8`
* `askar-storage/src/protect/store_key.rs`    `StoreKey::{wrap_data, unwrap_data}`     (D2: `&ciphertext[..12]`, length-checked iff `unwrapChecksLength`)
* `askar-storage/src/protect/mod.rs`          `KeyCache::load_key`                      (error re-mapping; panics re-raised by `unblock`)
* `askar-storage/src/backend/db_utils.rs`     `decode_tags`                             (byte for byte, explicit index arithmetic)
* `askar-crypto/src/alg/chacha20.rs`          `decrypt_in_place`                        (nonce / tag length checks, tag split)
* `askar-storage/src/error.rs`                `From<CryptoError>`                       (Invalid / InvalidNonce -> Input)

Every Rust slice / index / `from_slice` / `drain` carries its bounds check as an explicit `panic` outcome.
Third-party primitives are parameters: the detached ChaCha20-Poly1305 (`Aead`, idealised as `IdealAead`), the HMAC-based
derivation (`H`), `String::from_utf8` (`U`), the CBOR decoder of `ProfileKey::from_slice` (`parse`).  Core Lean only.
-/
import AskarModel.Base.Bytes
import AskarModel.Generated.Flags

namespace Askar.Decrypt

/-- **The one switch for defect D2** (`/verif/proposals/C03-D2.diff`): whether `StoreKey::unwrap_data` compares the length
    with `StoreKeyNonce::SIZE` before it slices `[..12]`.  `tools/extract.py` reads the value from the source on every run
    (`Generated/Flags.lean`); `false` is the variant without the length check. -/
def unwrapChecksLength : Bool := Askar.Generated.Flags.unwrapChecksLength

/-- `askar_storage::ErrorKind` -/
inductive EK
  | Backend | Busy | Custom | Duplicate | Encryption | Input | NotFound | Unexpected | Unsupported
  deriving DecidableEq, Repr

def EK.name : EK → String
  | .Backend => "Backend" | .Busy => "Busy" | .Custom => "Custom" | .Duplicate => "Duplicate" | .Encryption => "Encryption"
  | .Input => "Input" | .NotFound => "NotFound" | .Unexpected => "Unexpected" | .Unsupported => "Unsupported"

inductive Res (α : Type) where
  | ok (a : α)
  | err (k : EK)
  | panic
  deriving DecidableEq, Repr

def Res.bind {α β : Type} : Res α → (α → Res β) → Res β
  | .ok a, f => f a
  | .err e, _ => .err e
  | .panic, _ => .panic

/-! ### Rust slice operations with their bounds checks -/

/-- `&b[..n]` -/
def sliceTo (b : Bytes) (n : Nat) : Res Bytes := if n ≤ b.length then .ok (b.take n) else .panic
/-- `&b[n..]` -/
def sliceFrom (b : Bytes) (n : Nat) : Res Bytes := if n ≤ b.length then .ok (b.drop n) else .panic
/-- `&b[lo..hi]` -/
def sliceRange (b : Bytes) (lo hi : Nat) : Res Bytes :=
  if lo ≤ hi ∧ hi ≤ b.length then .ok ((b.take hi).drop lo) else .panic
/-- `ArrayKey::<N>::from_slice(b)` / `GenericArray::clone_from_slice` (length assertion) -/
def fromSlice (b : Bytes) (n : Nat) : Res Bytes := if b.length = n then .ok b else .panic
/-- `SecretBytes::buffer_remove(0..n)` = `Vec::drain(0..n)` -/
def drainFront (b : Bytes) (n : Nat) : Res Bytes := if n ≤ b.length then .ok (b.drop n) else .panic

/-! ### the AEAD primitive (crate `chacha20poly1305`) as a parameter -/

/-- `enc key nonce aad msg` = ciphertext ‖ tag;  `dec key nonce aad (ciphertext ‖ tag)` -/
structure Aead where
  enc : Bytes → Bytes → Bytes → Bytes → Bytes
  dec : Bytes → Bytes → Bytes → Bytes → Option Bytes

/-- What the theorems use of the AEAD: correctness, the 16-byte tag, and `auth`: whatever decrypts under (k, n, a) IS the
    encryption of the returned message under (k, n, a).  For a scheme that recomputes the tag from (k, n, a, ciphertext) —
    ChaCha20-Poly1305 does — `auth` is an exact law, not an approximation (`toyAead` satisfies it).  The idealisation
    proper — what unforgeability promises only up to negligible probability — is made where bytes are classified:
    corrupted bytes are assumed to lie outside the range of `enc` under the keys in play (`Model/Tamper.lean`: `garbage`),
    and keys in play are `KeySeparatedOn`.  Both are named in the trusted base. -/
structure IdealAead (A : Aead) : Prop where
  enc_len : ∀ k n a m, (A.enc k n a m).length = m.length + 16
  dec_enc : ∀ k n a m, A.dec k n a (A.enc k n a m) = some m
  auth : ∀ k n a ct m, A.dec k n a ct = some m → ct = A.enc k n a m

/-- idealisation: among the keys in play (`S`), a ciphertext made under one key is rejected under any other
    (independent random keys).  Stated over a set of keys: over ALL byte strings it would contradict `enc_len` by counting. -/
def KeySeparatedOn (A : Aead) (S : Bytes → Prop) : Prop :=
  ∀ k k' n a m, S k → S k' → k ≠ k' → A.dec k' n a (A.enc k n a m) = none

/-- `Chacha20Key::<C20P>::decrypt_in_place(buffer, nonce, aad = [])`, error kinds already converted by
    `From<CryptoError> for Error` (`InvalidNonce`, `Invalid` -> `Input`; `Encryption` -> `Encryption`) -/
def c20pDecryptInPlace (A : Aead) (key buffer nonce : Bytes) : Res Bytes :=
  if nonce.length ≠ 12 then .err .Input
  else if buffer.length < 16 then .err .Input                           -- "Invalid size for encrypted data"
  else
    let tagStart := buffer.length - 16
    (sliceFrom buffer tagStart).bind fun t =>                           -- &buffer.as_ref()[tag_start..]
    (fromSlice t 16).bind fun _tag =>                                   -- tag.clone_from_slice(..)
    (sliceTo buffer tagStart).bind fun _ct =>                           -- &mut buffer.as_mut()[..tag_start]
    match A.dec key nonce [] buffer with
    | none => .err .Encryption                                          -- "AEAD decryption error"
    | some m => .ok m                                                   -- buffer_resize(tag_start)

/-! ### `ProfileKeyImpl`  (`protect/profile_key.rs`) -/

/-- `ProfileKeyImpl::encrypt` / `encrypt_searchable` with the nonce made explicit: nonce ‖ enc -/
def pkEncrypt (A : Aead) (key nonce msg : Bytes) : Bytes := nonce ++ A.enc key nonce [] msg

/-- `ProfileKeyImpl::decrypt` -/
def pkDecrypt (A : Aead) (ct key : Bytes) : Res Bytes :=
  if ct.length < 12 then .err .Encryption                               -- "invalid encrypted value"
  else
    (sliceTo ct 12).bind fun s =>                                       -- &buffer.as_ref()[..nonce_len]
    (fromSlice s 12).bind fun nonce =>                                  -- ArrayKey::from_slice
    (drainFront ct 12).bind fun body =>                                 -- buffer.buffer_remove(0..nonce_len)
    c20pDecryptInPlace A key body nonce

/-- the six keys of a profile (CBOR names ick ink ihk tnk tvk thk) -/
structure ProfileKey where
  ick : Bytes
  ink : Bytes
  ihk : Bytes
  tnk : Bytes
  tvk : Bytes
  thk : Bytes
  deriving DecidableEq, Repr

/-- the HMAC input of `derive_value_key`: be32 |category| ‖ category ‖ be32 |name| ‖ name  (`len() as u32` wraps) -/
def valueKeyInput (category name : Bytes) : Bytes :=
  Bytes.be32 category.length ++ category ++ Bytes.be32 name.length ++ name

/-- `derive_value_key`; `H key input` = the HMAC-SHA256 based `FromKeyDerivation` -/
def deriveValueKey (H : Bytes → Bytes → Bytes) (pk : ProfileKey) (category name : Bytes) : Bytes :=
  H pk.ihk (valueKeyInput category name)

/-- `encrypt_searchable`: the nonce is the first 12 bytes of `H hmac_key msg` -/
def encryptSearchable (A : Aead) (H : Bytes → Bytes → Bytes) (encKey hmacKey msg : Bytes) : Bytes :=
  pkEncrypt A encKey ((H hmacKey msg).take 12) msg

def encryptEntryCategory (A : Aead) (H : Bytes → Bytes → Bytes) (pk : ProfileKey) (c : Bytes) : Bytes := encryptSearchable A H pk.ick pk.ihk c
def encryptEntryName (A : Aead) (H : Bytes → Bytes → Bytes) (pk : ProfileKey) (n : Bytes) : Bytes := encryptSearchable A H pk.ink pk.ihk n
def encryptTagName (A : Aead) (H : Bytes → Bytes → Bytes) (pk : ProfileKey) (n : Bytes) : Bytes := encryptSearchable A H pk.tnk pk.thk n
def encryptTagValue (A : Aead) (H : Bytes → Bytes → Bytes) (pk : ProfileKey) (v : Bytes) : Bytes := encryptSearchable A H pk.tvk pk.thk v
/-- `encrypt_entry_value` with its random nonce made explicit -/
def encryptEntryValue (A : Aead) (H : Bytes → Bytes → Bytes) (pk : ProfileKey) (c n nonce v : Bytes) : Bytes :=
  pkEncrypt A (deriveValueKey H pk c n) nonce v

/-- `decode_utf8`: `String::from_utf8(..).map_err(Encryption)`; `U` = UTF-8 validity -/
def decodeUtf8 (U : Bytes → Bool) (b : Bytes) : Res Bytes := if U b then .ok b else .err .Encryption

def decryptEntryCategory (A : Aead) (U : Bytes → Bool) (pk : ProfileKey) (ct : Bytes) : Res Bytes :=
  (pkDecrypt A ct pk.ick).bind (decodeUtf8 U)
def decryptEntryName (A : Aead) (U : Bytes → Bool) (pk : ProfileKey) (ct : Bytes) : Res Bytes :=
  (pkDecrypt A ct pk.ink).bind (decodeUtf8 U)
def decryptEntryValue (A : Aead) (H : Bytes → Bytes → Bytes) (pk : ProfileKey) (c n ct : Bytes) : Res Bytes :=
  pkDecrypt A ct (deriveValueKey H pk c n)
def decryptTagName (A : Aead) (pk : ProfileKey) (ct : Bytes) : Res Bytes := pkDecrypt A ct pk.tnk
def decryptTagValue (A : Aead) (pk : ProfileKey) (ct : Bytes) : Res Bytes := pkDecrypt A ct pk.tvk

/-- `EncEntryTag` -/
structure EncTag where
  name : Bytes
  value : Bytes
  plaintext : Bool
  deriving DecidableEq, Repr

/-- `EntryTag` (`plaintext = true`: `Plaintext(name, value)`) -/
structure Tag where
  plaintext : Bool
  name : Bytes
  value : Bytes
  deriving DecidableEq, Repr

/-- one step of the `try_fold` of `decrypt_entry_tags` -/
def decryptEntryTag (A : Aead) (U : Bytes → Bool) (pk : ProfileKey) (t : EncTag) : Res Tag :=
  ((decryptTagName A pk t.name).bind (decodeUtf8 U)).bind fun name =>
  if t.plaintext then (decodeUtf8 U t.value).bind fun value => .ok ⟨true, name, value⟩
  else ((decryptTagValue A pk t.value).bind (decodeUtf8 U)).bind fun value => .ok ⟨false, name, value⟩

/-- `decrypt_entry_tags`: the first failure aborts -/
def decryptEntryTags (A : Aead) (U : Bytes → Bool) (pk : ProfileKey) : List EncTag → Res (List Tag)
  | [] => .ok []
  | t :: ts => (decryptEntryTag A U pk t).bind fun x => (decryptEntryTags A U pk ts).bind fun xs => .ok (x :: xs)

/-! ### `StoreKey::unwrap_data`, `KeyCache::load_key` -/

/-- `StoreKey::unwrap_data`; `storeKey = none` is the unprotected store.  `chk = false` is the variant without the
    length check (D2): `&ciphertext[..12]` is evaluated whatever the length. -/
def unwrapDataWith (chk : Bool) (A : Aead) (storeKey : Option Bytes) (ct : Bytes) : Res Bytes :=
  match storeKey with
  | none => .ok ct
  | some key =>
    if chk && decide (ct.length < 12) then .err .Encryption             -- the length check
    else
      (sliceTo ct 12).bind fun s =>                                     -- &ciphertext[..StoreKeyNonce::SIZE]   (D2)
      (fromSlice s 12).bind fun nonce =>                                -- StoreKeyNonce::from_slice
      (drainFront ct 12).bind fun body =>                               -- buffer.buffer_remove(0..SIZE)
      c20pDecryptInPlace A key body nonce

def unwrapData (A : Aead) (storeKey : Option Bytes) (ct : Bytes) : Res Bytes :=
  unwrapDataWith unwrapChecksLength A storeKey ct

/-- `KeyCache::load_key`: every unwrap error becomes `Encryption`; `ProfileKey::from_slice` failure is `Unsupported`;
    a panic inside the blocking task is re-raised by `unblock(..).await.expect(..)` -/
def loadKeyWith (chk : Bool) (A : Aead) (parse : Bytes → Option ProfileKey) (storeKey : Option Bytes) (ct : Bytes) : Res ProfileKey :=
  match unwrapDataWith chk A storeKey ct with
  | .ok d => match parse d with
    | some pk => .ok pk
    | none => .err .Unsupported
  | .err _ => .err .Encryption
  | .panic => .panic

def loadKey (A : Aead) (parse : Bytes → Option ProfileKey) (storeKey : Option Bytes) (ct : Bytes) : Res ProfileKey :=
  loadKeyWith unwrapChecksLength A parse storeKey ct

/-! ### `decode_tags`  (`backend/db_utils.rs`) -/

/-- value of one hex digit (crate `hex`: both cases) -/
def nibble (c : UInt8) : Option Nat :=
  if 0x30 ≤ c ∧ c ≤ 0x39 then some (c.toNat - 0x30)
  else if 0x61 ≤ c ∧ c ≤ 0x66 then some (c.toNat - 0x61 + 10)
  else if 0x41 ≤ c ∧ c ≤ 0x46 then some (c.toNat - 0x41 + 10)
  else none

/-- `hex::decode`: odd length or a non-hex character is an error -/
def hexDecode : Bytes → Option Bytes
  | [] => some []
  | [_] => none
  | a :: b :: rest =>
    match nibble a, nibble b, hexDecode rest with
    | some x, some y, some r => some (UInt8.ofNat (x * 16 + y) :: r)
    | _, _, _ => none

/-- the `if idx >= end || tags[idx] == b','` branch of the inner loop -/
def finishTag (tags : Bytes) (nameStart : Nat) (plaintext : Bool) (idx nameEnd : Nat) : Res (EncTag × Nat) :=
  if nameEnd = 0 then .err .Unexpected                                  -- return Err(())
  else
    (sliceRange tags nameStart nameEnd).bind fun nameHex =>             -- &tags[(name_start)..(name_end)]
    match hexDecode nameHex with
    | none => .err .Unexpected
    | some name =>
      (sliceRange tags (nameEnd + 1) idx).bind fun valueHex =>          -- &tags[(name_end + 1)..(idx)]
      match hexDecode valueHex with
      | none => .err .Unexpected
      | some value => .ok (⟨name, value, plaintext⟩, idx)

/-- the inner `loop` (state `idx`, `name_end`); returns the tag and the `idx` at `break`.
    Fuel exhaustion is reported as `panic` (and proved unreachable with the fuel `decodeTags` supplies). -/
def innerLoop (tags : Bytes) (end_ nameStart : Nat) (plaintext : Bool) : Nat → Nat → Nat → Res (EncTag × Nat)
  | 0, _, _ => .panic
  | fuel + 1, idx, nameEnd =>
    if idx ≥ end_ then finishTag tags nameStart plaintext idx nameEnd
    else match tags[idx]? with
      | none => .panic                                                  -- tags[idx]
      | some b =>
        if b = 0x2C then finishTag tags nameStart plaintext idx nameEnd -- b','
        else if b = 0x3A then                                           -- b':'
          if nameEnd ≠ 0 then .err .Unexpected
          else innerLoop tags end_ nameStart plaintext fuel (idx + 1) idx
        else innerLoop tags end_ nameStart plaintext fuel (idx + 1) nameEnd

/-- the outer `loop` -/
def outerLoop (tags : Bytes) (end_ : Nat) : Nat → Nat → List EncTag → Res (List EncTag)
  | 0, _, _ => .panic
  | fuel + 1, idx, acc =>
    if idx ≥ end_ then .ok acc
    else match tags[idx]? with
      | none => .panic                                                  -- tags[idx]
      | some b =>
        let plaintext : Bool := b = 0x31                                -- tags[idx] == b'1'
        match innerLoop tags end_ (idx + 2) plaintext (end_ + 2) (idx + 2) 0 with
        | .ok (t, idx') => outerLoop tags end_ fuel (idx' + 1) (acc ++ [t])
        | .err e => .err e
        | .panic => .panic

/-- `decode_tags`; `Err(())` is rendered as `Unexpected` (what both callers map it to) -/
def decodeTags (tags : Bytes) : Res (List EncTag) := outerLoop tags tags.length (tags.length + 1) 0 []

/-! what SQLite hands to `decode_tags`:
    `GROUP_CONCAT(it.plaintext || ':' || HEX(it.name) || ':' || HEX(it.value))`, NULL (no bytes) for an item without tags -/

def hexUpperDigit (n : Nat) : UInt8 := if n < 10 then UInt8.ofNat (0x30 + n) else UInt8.ofNat (0x41 + (n - 10))

/-- SQLite `HEX()` -/
def hexUpper : Bytes → Bytes
  | [] => []
  | x :: xs => hexUpperDigit (x.toNat / 16) :: hexUpperDigit (x.toNat % 16) :: hexUpper xs

def tagText (t : EncTag) : Bytes :=
  (if t.plaintext then 0x31 else 0x30) :: 0x3A :: (hexUpper t.name ++ 0x3A :: hexUpper t.value)

def groupConcat : List EncTag → Bytes
  | [] => []
  | [t] => tagText t
  | t :: ts => tagText t ++ 0x2C :: groupConcat ts

/-! ### a toy ideal AEAD (non-vacuity of the hypotheses; witnesses) -/

def checksum (b : Bytes) : UInt8 := b.foldl (· ^^^ ·) 0

/-- toy AEAD: the "tag" is the first key byte followed by 15 copies of a checksum over key, nonce, aad and message;
    `dec` recomputes it.  It satisfies `IdealAead` and is `KeySeparatedOn` keys with distinct first bytes. -/
def toyTag (k n a m : Bytes) : Bytes := k.headD 0 :: List.replicate 15 (checksum (k ++ n ++ a ++ m))

def toyAead : Aead :=
  ⟨fun k n a m => m ++ toyTag k n a m,
   fun k n a ct =>
     if ct.length < 16 then none
     else
       let m := ct.take (ct.length - 16)
       if ct.drop (ct.length - 16) = toyTag k n a m then some m else none⟩

end Askar.Decrypt
