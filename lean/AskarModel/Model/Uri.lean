/-
Model B of C08: `askar-storage/src/options.rs` — `Options::parse_uri` / `Options::into_uri`,
with the pieces of the `percent-encoding` 2.3 and `form_urlencoded` 1.2 crates they call.

Strings.  A Rust `str` *is* a byte sequence (with the invariant "valid UTF-8"); every operation of
the modelled code is a byte operation (`splitn` / `find` / `trim_start_matches` on ASCII patterns,
`percent_decode` on `as_bytes()`, `push_str`), and the only place where Unicode enters is
`decode_utf8_lossy`.  The model therefore works on `Str := List UInt8` exactly like the code does,
`lossy` is Rust's `String::from_utf8_lossy` (bytes → bytes, U+FFFD = EF BF BD inserted), and the
type invariant of `str` appears in the theorems as the explicit predicate `validUtf8`.
The `List Char` view is `Uri.utf8 : List Char → Str` at the end of this file; that every image is `validUtf8`
(`validUtf8_utf8`) is in `Lemmas/Uri.lean`; the property theorems are stated for both views.

Slices: `&host[..path_pos]` / `&host[path_pos..]` cut at the index returned by `find('/')`, which
is in range and on a character boundary by construction — there is no panic outcome to model in
this file (unlike store_key.rs, see Model/Keys.lean).

`HashMap<String,String>`: modelled as an association list with distinct keys, newest binding
first (`mapInsert`); its *iteration order* in `into_uri` is unspecified in Rust, so `intoUriWith`
takes the enumeration `qs` explicitly and the theorems quantify over every permutation.
-/
import AskarModel.Base.Bytes
import AskarModel.Generated.Flags

namespace Askar.Uri

abbrev Str := List UInt8

/-- ASCII literal → bytes (only used with ASCII literals) -/
def lit (s : String) : Str := s.toList.map fun c => UInt8.ofNat c.toNat

/-- What `into_uri` writes between two `key=value` pairs of the query.  Read from the SOURCE on
    every run (tools/extract.py → `Generated.Flags.uriQueryAmpersand`): `&` when the loop over
    `self.query` pushes a separator, nothing otherwise (defect D1, fixed in 3030f32). -/
def queryPairSeparator : Str := if Askar.Generated.Flags.uriQueryAmpersand then [0x26] else []

/-! ### Rust string primitives -/

/-- `s.splitn(2, c)`: (first piece, rest after the first `c` if there is one) -/
def splitOnce (c : UInt8) : Str → Str × Option Str
  | [] => ([], none)
  | b :: bs =>
    if b = c then ([], some bs)
    else
      let r := splitOnce c bs
      (b :: r.1, r.2)

/-- all pieces of `s.split(c)` -/
def splitAll (c : UInt8) : Str → List Str
  | [] => [[]]
  | b :: bs =>
    if b = c then [] :: splitAll c bs
    else
      match splitAll c bs with
      | [] => [[b]]            -- unreachable: splitAll never returns []
      | p :: ps => (b :: p) :: ps

/-- `s.trim_start_matches("//")` : strips the pattern repeatedly -/
def trimSlashes : Str → Str
  | 0x2F :: 0x2F :: rest => trimSlashes rest
  | s => s

/-- `char::to_digit(16)` on a byte -/
def hexVal (b : UInt8) : Option Nat :=
  if 0x30 ≤ b ∧ b ≤ 0x39 then some (b.toNat - 0x30)
  else if 0x61 ≤ b ∧ b ≤ 0x66 then some (b.toNat - 0x57)
  else if 0x41 ≤ b ∧ b ≤ 0x46 then some (b.toNat - 0x37)
  else none

def isAlnum (b : UInt8) : Bool :=
  (0x30 ≤ b && b ≤ 0x39) || (0x41 ≤ b && b ≤ 0x5A) || (0x61 ≤ b && b ≤ 0x7A)

/-- upper-case hex digit, as `percent_encode_byte` writes it -/
def hexUp (n : Nat) : UInt8 := if n < 10 then UInt8.ofNat (0x30 + n) else UInt8.ofNat (0x37 + n)

/-- `percent_encode_byte(b)` = `%XX` -/
def pctByte (b : UInt8) : Str := [0x25, hexUp (b.toNat / 16), hexUp (b.toNat % 16)]

/-- `utf8_percent_encode(s, NON_ALPHANUMERIC)`: every byte that is not an ASCII letter or digit
    (in particular every non-ASCII byte) becomes `%XX` -/
def pctEncode (s : Str) : Str := s.flatMap fun b => if isAlnum b then [b] else pctByte b

/-- `percent_decode(bytes)`: `%` followed by two hex digits (either case) is one byte; anything
    else, including a dangling `%`, is copied -/
def pctDecode : Str → Str
  | [] => []
  | [b] => [b]
  | [b, c] => [b, c]
  | b :: h :: l :: rest =>
    if b = 0x25 then
      match hexVal h, hexVal l with
      | some x, some y => UInt8.ofNat (x * 16 + y) :: pctDecode rest
      | _, _ => b :: pctDecode (h :: l :: rest)
    else b :: pctDecode (h :: l :: rest)

/-! ### `String::from_utf8_lossy` (core::str::lossy::Utf8Chunks) -/

def isCont (b : UInt8) : Bool := 0x80 ≤ b && b ≤ 0xBF

/-- U+FFFD in UTF-8 -/
def replacement : Str := [0xEF, 0xBF, 0xBD]

/-- admissible second byte after lead `b0` of a 3-byte sequence (Unicode table 3-7) -/
def second3 (b0 b1 : UInt8) : Bool :=
  if b0 = 0xE0 then 0xA0 ≤ b1 && b1 ≤ 0xBF
  else if b0 = 0xED then 0x80 ≤ b1 && b1 ≤ 0x9F
  else 0x80 ≤ b1 && b1 ≤ 0xBF

/-- admissible second byte after lead `b0` of a 4-byte sequence -/
def second4 (b0 b1 : UInt8) : Bool :=
  if b0 = 0xF0 then 0x90 ≤ b1 && b1 ≤ 0xBF
  else if b0 = 0xF4 then 0x80 ≤ b1 && b1 ≤ 0x8F
  else 0x80 ≤ b1 && b1 ≤ 0xBF

/-- One step of `Utf8Chunks`: given the lead byte and the rest, `(n, ok)` = number of bytes after
    the lead that are consumed together with it, and whether they form a complete scalar.  An
    incomplete sequence is replaced by ONE U+FFFD covering the lead and the accepted continuation
    bytes ("maximal subpart"). -/
def lossyStep (b0 : UInt8) (rest : Str) : Nat × Bool :=
  if b0 < 0x80 then (0, true)
  else if 0xC2 ≤ b0 ∧ b0 ≤ 0xDF then
    match rest with
    | b1 :: _ => if isCont b1 then (1, true) else (0, false)
    | [] => (0, false)
  else if 0xE0 ≤ b0 ∧ b0 ≤ 0xEF then
    match rest with
    | b1 :: r1 =>
      if second3 b0 b1 then
        match r1 with
        | b2 :: _ => if isCont b2 then (2, true) else (1, false)
        | [] => (1, false)
      else (0, false)
    | [] => (0, false)
  else if 0xF0 ≤ b0 ∧ b0 ≤ 0xF4 then
    match rest with
    | b1 :: r1 =>
      if second4 b0 b1 then
        match r1 with
        | b2 :: r2 =>
          if isCont b2 then
            match r2 with
            | b3 :: _ => if isCont b3 then (3, true) else (2, false)
            | [] => (2, false)
          else (1, false)
        | [] => (1, false)
      else (0, false)
    | [] => (0, false)
  else (0, false)

/-- `String::from_utf8_lossy(bytes).into_bytes()`.  The first argument counts bytes that were
    already consumed together with the previous lead byte (keeps the recursion structural). -/
def lossyAux : Nat → Str → Str
  | _, [] => []
  | skip + 1, _ :: rest => lossyAux skip rest
  | 0, b0 :: rest =>
    let st := lossyStep b0 rest
    (if st.2 then b0 :: rest.take st.1 else replacement) ++ lossyAux st.1 rest

def lossy (s : Str) : Str := lossyAux 0 s

/-- Well-formed UTF-8 (Unicode 15 table 3-7), written independently of `lossy`:
    the type invariant of a Rust `str`. -/
def validUtf8 : Str → Bool
  | [] => true
  | b0 :: rest =>
    if b0 < 0x80 then validUtf8 rest
    else if 0xC2 ≤ b0 ∧ b0 ≤ 0xDF then
      match rest with
      | b1 :: r => isCont b1 && validUtf8 r
      | _ => false
    else if 0xE0 ≤ b0 ∧ b0 ≤ 0xEF then
      match rest with
      | b1 :: b2 :: r => second3 b0 b1 && isCont b2 && validUtf8 r
      | _ => false
    else if 0xF0 ≤ b0 ∧ b0 ≤ 0xF4 then
      match rest with
      | b1 :: b2 :: b3 :: r => second4 b0 b1 && isCont b2 && isCont b3 && validUtf8 r
      | _ => false
    else false

/-- options.rs `percent_decode(s)` = `percent_decode_str(s).decode_utf8_lossy()` -/
def dec (s : Str) : Str := lossy (pctDecode s)

/-! ### form_urlencoded -/

/-- `byte_serialized_unchanged` -/
def formUnchanged (b : UInt8) : Bool :=
  b = 0x2A || b = 0x2D || b = 0x2E || b = 0x5F || isAlnum b

/-- `form_urlencoded::byte_serialize(bytes)` concatenated -/
def formSerialize (s : Str) : Str :=
  s.flatMap fun b => if formUnchanged b then [b] else if b = 0x20 then [0x2B] else pctByte b

def replacePlus (s : Str) : Str := s.map fun b => if b = 0x2B then 0x20 else b

/-- form_urlencoded `decode` -/
def formDecode (s : Str) : Str := lossy (pctDecode (replacePlus s))

/-- `form_urlencoded::parse(query)` collected in order: split at `&`, skip empty pieces, split
    each piece at its first `=` -/
def formParse (q : Str) : List (Str × Str) :=
  ((splitAll 0x26 q).filter fun p => !p.isEmpty).map fun p =>
    let r := splitOnce 0x3D p
    (formDecode r.1, formDecode (r.2.getD []))

/-! ### Options -/

abbrev QueryMap := List (Str × Str)

/-- `HashMap::insert`: the new binding replaces an existing one for the same key -/
def mapInsert (m : QueryMap) (kv : Str × Str) : QueryMap := kv :: m.filter fun e => e.1 ≠ kv.1

def mapGet (m : QueryMap) (k : Str) : Option Str := (m.find? fun e => e.1 = k).map (·.2)

structure Options where
  scheme : Str := []
  user : Str := []
  password : Str := []
  host : Str := []
  path : Str := []
  query : QueryMap := []
  fragment : Str := []
  deriving DecidableEq, Repr, Inhabited

/-- `PartialEq` of `Options` as Rust computes it: component-wise, the query compared *as a map*
    (for association lists with distinct keys: equal up to order) -/
def Options.Equiv (a b : Options) : Prop :=
  a.scheme = b.scheme ∧ a.user = b.user ∧ a.password = b.password ∧ a.host = b.host ∧ a.path = b.path ∧
  a.fragment = b.fragment ∧ a.query.Perm b.query

/-- `scheme_and_remain`: raw scheme and the `host_and_query` remainder -/
def splitScheme (uri : Str) : Str × Str :=
  match splitOnce 0x3A uri with
  | (scheme, some remain) => if scheme.isEmpty then ([], uri) else (scheme, trimSlashes remain)
  | (_, none) => ([], uri)

/-- user, password, host, path out of the part before `?` -/
def parseAuthority (hp : Str) : Str × Str × Str × Str :=
  let up := splitOnce 0x40 hp
  let uph : Str × Str × Str :=
    match up.2 with
    | some host =>
      let upw := splitOnce 0x3A up.1
      (dec upw.1, dec (upw.2.getD []), host)
    | none => ([], [], up.1)
  -- `host.find('/')`
  let host := uph.2.2.takeWhile (· ≠ 0x2F)
  let path := uph.2.2.dropWhile (· ≠ 0x2F)
  (uph.1, uph.2.1, dec host, dec path)

def parseQuery : Option Str → QueryMap
  | some q => (formParse q).foldl mapInsert []
  | none => []

/-- `Options::parse_uri` (it cannot fail: the `Result` is always `Ok`) -/
def parseUri (uri : Str) : Options :=
  let fr := splitOnce 0x23 uri
  let sh := splitScheme fr.1
  let hq := splitOnce 0x3F sh.2
  let a := parseAuthority hq.1
  { scheme := dec sh.1, user := a.1, password := a.2.1, host := a.2.2.1, path := a.2.2.2,
    query := parseQuery hq.2, fragment := dec (fr.2.getD []) }

/-- the query text written for the enumeration `qs`, pairs separated by `sep` -/
def joinPairs (sep : Str) : List (Str × Str) → Str
  | [] => []
  | [kv] => formSerialize kv.1 ++ [0x3D] ++ formSerialize kv.2
  | kv :: rest => formSerialize kv.1 ++ [0x3D] ++ formSerialize kv.2 ++ sep ++ joinPairs sep rest

/-- `Options::into_uri` when the hash map enumerates its entries in the order `qs`,
    with `sep` written between consecutive pairs. -/
def intoUriSep (sep : Str) (qs : List (Str × Str)) (o : Options) : Str :=
  (if o.scheme.isEmpty then [] else pctEncode o.scheme ++ [0x3A, 0x2F, 0x2F]) ++
  (if o.user.isEmpty && o.password.isEmpty then []
   else pctEncode o.user ++ [0x3A] ++ pctEncode o.password ++ [0x40]) ++
  o.host ++ o.path ++
  (if qs.isEmpty then [] else 0x3F :: joinPairs sep qs) ++
  (if o.fragment.isEmpty then [] else 0x23 :: pctEncode o.fragment)

/-- `Options::into_uri` of the current tree for the enumeration order `qs` -/
def intoUriWith (qs : List (Str × Str)) (o : Options) : Str := intoUriSep queryPairSeparator qs o

/-- one admissible run: the entries in the order the association list holds them -/
def intoUri (o : Options) : Str := intoUriWith o.query o

/-! ### The well-formedness predicate of the round-trip theorem -/

/-- a `%` followed by two hex digits occurs in `s` (such a triple is altered by `percent_decode`) -/
def hasEscape : Str → Bool
  | [] => false
  | b :: rest =>
    (match rest with
     | h :: l :: _ => b = 0x25 && (hexVal h).isSome && (hexVal l).isSome
     | _ => false) || hasEscape rest

def startsWith2Slash : Str → Bool
  | 0x2F :: 0x2F :: _ => true
  | _ => false

def noUserInfo (o : Options) : Bool := o.user.isEmpty && o.password.isEmpty

/-- Explicit, decidable domain of the round-trip theorems (`C08.UriRoundtripFor`).  Each clause is a feature of the URI *syntax*
    that `into_uri` writes (host and path are written verbatim, not escaped):
    * every component is a Rust `str` (valid UTF-8), query keys are distinct (it is a map);
    * host: no `/ ? #`, no `%hh` triple; path: empty or starts with `/`, no `? #`, no `%hh` triple;
    * without user-info, host+path contain no `@`;
    * with an empty scheme: a user-info must have an empty user (`:pw@…`), and without user-info
      host+path contain no `:` unless the host starts with one;
    * with a scheme, no user-info and an empty host, the path does not start with `//`
      (`trim_start_matches("//")` strips repeatedly). -/
def Options.WF (o : Options) : Bool :=
  validUtf8 o.scheme && validUtf8 o.user && validUtf8 o.password && validUtf8 o.host &&
  validUtf8 o.path && validUtf8 o.fragment &&
  o.query.all (fun kv => validUtf8 kv.1 && validUtf8 kv.2) &&
  decide (o.query.map (·.1)).Nodup &&
  !o.host.contains 0x2F && !o.host.contains 0x3F && !o.host.contains 0x23 && !hasEscape o.host &&
  (o.path.isEmpty || o.path.head? = some 0x2F) &&
  !o.path.contains 0x3F && !o.path.contains 0x23 && !hasEscape o.path &&
  (!noUserInfo o || !(o.host ++ o.path).contains 0x40) &&
  (!o.scheme.isEmpty ||
     (if noUserInfo o then !(o.host ++ o.path).contains 0x3A || o.host.head? = some 0x3A
      else o.user.isEmpty)) &&
  (o.scheme.isEmpty || !noUserInfo o || !o.host.isEmpty || !startsWith2Slash o.path)

/-! ### the `List Char` view of a Rust string -/


/-- UTF-8 encoding of one Unicode scalar value (RFC 3629), arithmetic form -/
def encChar (c : Char) : Str :=
  let v := c.toNat
  if v < 0x80 then [UInt8.ofNat v]
  else if v < 0x800 then [UInt8.ofNat (0xC0 + v / 64), UInt8.ofNat (0x80 + v % 64)]
  else if v < 0x10000 then [UInt8.ofNat (0xE0 + v / 4096), UInt8.ofNat (0x80 + v / 64 % 64), UInt8.ofNat (0x80 + v % 64)]
  else [UInt8.ofNat (0xF0 + v / 262144), UInt8.ofNat (0x80 + v / 4096 % 64), UInt8.ofNat (0x80 + v / 64 % 64),
        UInt8.ofNat (0x80 + v % 64)]

/-- the bytes of a Rust `String` holding the characters `cs` -/
def utf8 (cs : List Char) : Str := cs.flatMap encChar

example : encChar 'é' = String.utf8EncodeChar 'é' := by decide
example : encChar '€' = String.utf8EncodeChar '€' := by decide
example : encChar '𝄞' = String.utf8EncodeChar '𝄞' := by decide


end Askar.Uri
