/-
C12 — executable model of the AEAD / key-wrap code that askar itself owns:

* `askar-crypto/src/alg/aes/cbc_hmac.rs`   (encrypt-then-MAC composition, order of checks, the two error messages)
* `askar-crypto/src/alg/aes/key_wrap.rs`   (RFC 3394 loops as written in the Rust, IV check)
* `askar-crypto/src/alg/aes/mod.rs`, `alg/chacha20.rs` (wrappers around the third-party detached AEADs)
* `askar-crypto/src/alg/any.rs`            (dispatch), `src/kms/local_key.rs`, `src/kms/enc.rs` (buffer layout)

The model follows the code in /repo, defect D5 behind the switch `d5Fixed`.  Third-party primitives (AES block,
HMAC, AES-GCM, (X)ChaCha20-Poly1305) are PARAMETERS (`BlockCipher`, `Mac`, `AeadPrim`); their laws are
separate `Lawful` propositions used as hypotheses by the theorems, a toy lawful instance shows they are
satisfiable, and the driver instantiates them with the executable specifications of `Crypto/`.
CBC mode and PKCS#7 (crates `cbc`, `cipher`, `block-padding`) are modelled concretely by the
specification `Crypto/Cbc.lean`.  Every slice / `from_slice` / `copy_from_slice` / `unwrap` of the Rust
is an explicit `panic` outcome, never totalised silently.  Core Lean only.
-/
import AskarModel.Base.Bytes
import AskarModel.Crypto.Cbc
import AskarModel.Generated.Flags

namespace Askar.Aead
open Askar.Crypto

/-- **The one switch for defect D5** (`/verif/proposals/C12-D5.diff`).  `false` = pinned tree: the CBC
    padding verdict is reported before the tag verdict.  The value is the flag `cbcHmacTagFirst` extracted from the source. -/
def d5Fixed : Bool := Askar.Generated.Flags.cbcHmacTagFirst

/-! ### outcomes -/

/-- `askar_crypto::ErrorKind` -/
inductive Kind
  | Custom | Encryption | ExceededBuffer | Invalid | InvalidKeyData | InvalidNonce | MissingSecretKey
  | Unexpected | Usage | Unsupported
  deriving DecidableEq, Repr

/-- the message literals used by the modelled code (`default` = no message: the kind's own text) -/
inductive Msg
  | default
  | cbcTagSize      -- "AES-CBC-HMAC tag size exceeds maximum supported"
  | cbcAadSize      -- "AES-CBC-HMAC AAD size exceeds maximum supported"
  | cbcEncrypt      -- "AES-CBC encryption error"
  | cbcDecrypt      -- "AES-CBC decryption error"
  | aeadEncrypt     -- "AEAD encryption error"
  | aeadDecrypt     -- "AEAD decryption error"
  | invalidSize     -- "Invalid size for encrypted data"
  | kwNonce         -- "Custom nonce not supported"
  | kwAad           -- "AAD not supported"
  | kwLen           -- "Data length must be a multiple of 8 bytes"
  | aeadUnsupported -- "AEAD is not supported for this key type"
  deriving DecidableEq, Repr

structure Err where
  kind : Kind
  msg : Msg
  deriving DecidableEq, Repr

/-- the Rust operation that would panic -/
inductive Panic
  | sliceOob        -- `&buf[a..b]` out of range
  | fromSliceLen    -- `GenericArray::from_slice` / `clone_from_slice` with a wrong length
  | copyLen         -- `copy_from_slice` length mismatch
  | unwrapNone      -- `.unwrap()` / `.expect()` on a failed conversion
  | drainOob        -- `Vec::drain` range out of bounds
  | arithOverflow   -- `a - b` with b > a on `usize` (overflow check; without the check the wrapped index is out of range)
  | assertFailed    -- `assert!(…)`
  deriving DecidableEq, Repr

inductive Res (α : Type) where
  | ok (a : α)
  | err (e : Err)
  | panic (p : Panic)
  deriving DecidableEq, Repr

def Res.bind {α β : Type} : Res α → (α → Res β) → Res β
  | .ok a, f => f a
  | .err e, _ => .err e
  | .panic p, _ => .panic p

instance : Monad Res where
  pure := Res.ok
  bind := Res.bind

def Res.isPanic {α : Type} : Res α → Bool
  | .panic _ => true
  | _ => false

def aeadDecErr : Err := ⟨.Encryption, .aeadDecrypt⟩
def cbcDecErr : Err := ⟨.Encryption, .cbcDecrypt⟩

/-! ### Rust slice operations with their bounds checks -/

/-- `&b[..n]` -/
def sliceTo (b : Bytes) (n : Nat) : Res Bytes := if n ≤ b.length then .ok (b.take n) else .panic .sliceOob
/-- `&b[n..]` -/
def sliceFrom (b : Bytes) (n : Nat) : Res Bytes := if n ≤ b.length then .ok (b.drop n) else .panic .sliceOob
/-- `&b[lo..hi]` -/
def sliceRange (b : Bytes) (lo hi : Nat) : Res Bytes :=
  if lo ≤ hi ∧ hi ≤ b.length then .ok ((b.take hi).drop lo) else .panic .sliceOob
/-- `GenericArray::<u8, N>::from_slice(b)` / `clone_from_slice` into an N-array -/
def fromSlice (b : Bytes) (n : Nat) : Res Bytes := if b.length = n then .ok b else .panic .fromSliceLen
/-- `buf[lo..hi].copy_from_slice(src)` -/
def copyInto (buf : Bytes) (lo hi : Nat) (src : Bytes) : Res Bytes :=
  if lo ≤ hi ∧ hi ≤ buf.length then
    if src.length = hi - lo then .ok (buf.take lo ++ src ++ buf.drop hi) else .panic .copyLen
  else .panic .sliceOob
/-- `TryInto::<&[u8; 8]>::try_into(s).unwrap()` -/
def tryInto8 (s : Bytes) : Res Bytes := if s.length = 8 then .ok s else .panic .unwrapNone
/-- `Vec::drain(0..n)` -/
def drainFront (b : Bytes) (n : Nat) : Res Bytes := if n ≤ b.length then .ok (b.drop n) else .panic .drainOob

def zeros (n : Nat) : Bytes := List.replicate n 0

/-! ### third-party primitives as parameters -/

/-- a 16-byte block cipher (crate `aes`): `enc key block`, `dec key block` -/
structure BlockCipher where
  enc : Bytes → Bytes → Bytes
  dec : Bytes → Bytes → Bytes

/-- what the theorems assume of a block cipher: it maps 16-byte blocks to 16-byte blocks and
    decryption inverts encryption under the same key -/
structure BlockCipher.Lawful (C : BlockCipher) : Prop where
  enc_len : ∀ k b, b.length = 16 → (C.enc k b).length = 16
  dec_len : ∀ k b, b.length = 16 → (C.dec k b).length = 16
  dec_enc : ∀ k b, b.length = 16 → C.dec k (C.enc k b) = b

/-- a MAC with fixed output length (crate `hmac` over `sha2`) -/
structure Mac where
  outLen : Nat
  mac : Bytes → Bytes → Bytes

structure Mac.Lawful (M : Mac) : Prop where
  mac_len : ∀ k m, (M.mac k m).length = M.outLen

/-- a detached AEAD (crates `aes-gcm`, `chacha20poly1305`): `enc key nonce aad pt = some (ct, tag)`
    (`none` = the crate's length-limit error), `dec key nonce aad ct tag` -/
structure AeadPrim where
  tagLen : Nat
  enc : Bytes → Bytes → Bytes → Bytes → Option (Bytes × Bytes)
  dec : Bytes → Bytes → Bytes → Bytes → Bytes → Option Bytes

structure AeadPrim.Lawful (A : AeadPrim) : Prop where
  enc_len : ∀ k n a m c t, A.enc k n a m = some (c, t) → c.length = m.length ∧ t.length = A.tagLen
  dec_enc : ∀ k n a m c t, A.enc k n a m = some (c, t) → A.dec k n a c t = some m

/-! ### AES-CBC-HMAC  (`alg/aes/cbc_hmac.rs`) -/

/-- `aad.len() as u64 > u64::MAX / 8` -/
def aadTooLong (aad : Bytes) : Bool := decide (aad.length > (2 ^ 64 - 1) / 8)

/-- the MAC input: aad ‖ nonce ‖ ciphertext ‖ be64(8·|aad|) -/
def macInput (aad nonce ct : Bytes) : Bytes := aad ++ nonce ++ ct ++ Bytes.be64 (aad.length * 8)

/-- `AesCbcHmac::padding_length` -/
def cbcPaddingLength (len : Nat) : Nat := 16 - len % 16

/-- crate `cipher`: `decrypt_padded_mut::<Pkcs7>`: `UnpadError` when the input is not a whole number of
    blocks, when there is no block, or when the padding of the last block is malformed -/
def cbcDecryptPadded (inv : Bytes → Bytes) (iv data : Bytes) : Option Bytes :=
  if data.length % 16 ≠ 0 then none else Cbc.pkcs7Unpad 16 (Cbc.decrypt inv iv data)

/-- `encrypt_in_place`; `K` = `C::KeySize` = size of each key half = tag size.
    Returns the buffer (ciphertext ‖ tag) and `ctext_end`. -/
def cbcHmacEncrypt (C : BlockCipher) (M : Mac) (K : Nat) (key buffer nonce aad : Bytes) : Res (Bytes × Nat) :=
  if nonce.length ≠ 16 then .err ⟨.InvalidNonce, .default⟩
  else if K > M.outLen then .err ⟨.Encryption, .cbcTagSize⟩
  else if aadTooLong aad then .err ⟨.Encryption, .cbcAadSize⟩
  else
    let msgLen := buffer.length
    let padLen := cbcPaddingLength msgLen
    let buf1 := buffer ++ zeros (padLen + K)                                   -- buffer_extend
    do
      let encKey ← fromSlice (← sliceFrom key K) K
      let iv ← fromSlice nonce 16
      -- crate `cipher`, `encrypt_padded_mut(buf, msg_len)`: PadError when the padded message does not fit
      if (msgLen / 16 + 1) * 16 > buf1.length then Res.err ⟨.Encryption, .cbcEncrypt⟩ else
      let ct := Cbc.encrypt (C.enc encKey) iv (Cbc.pkcs7Pad 16 (buf1.take msgLen))
      let ctextEnd := msgLen + padLen
      let buf2 := ct ++ buf1.drop ctextEnd                                     -- encrypted in place
      let macKey ← sliceTo key K
      let mac := M.mac macKey (macInput aad nonce (← sliceTo buf2 ctextEnd))
      let buf3 ← copyInto buf2 ctextEnd (ctextEnd + K) (← sliceTo mac K)
      Res.ok (buf3, ctextEnd)

/-- `decrypt_in_place`.  `fixed = false` is the pinned tree: the tag verdict is only looked at after the
    CBC decryption (and its padding check) has succeeded — defect D5.  `fixed = true` is the tree with
    `/verif/proposals/C12-D5.diff` applied: a tag mismatch is reported before anything is decrypted. -/
def cbcHmacDecrypt (fixed : Bool) (C : BlockCipher) (M : Mac) (K : Nat) (key buffer nonce aad : Bytes) : Res Bytes :=
  if nonce.length ≠ 16 then .err ⟨.InvalidNonce, .default⟩
  else if aadTooLong aad then .err ⟨.Encryption, .cbcAadSize⟩
  else if buffer.length < K then .err ⟨.Encryption, .invalidSize⟩
  else
    let ctextEnd := buffer.length - K
    do
      let tag ← fromSlice (← sliceFrom buffer ctextEnd) K
      let macKey ← sliceTo key K
      let mac := M.mac macKey (macInput aad nonce (← sliceTo buffer ctextEnd))
      let macT ← sliceTo mac K
      let tagMatch : Bool := decide (tag = macT)                               -- ct_eq
      if fixed && !tagMatch then Res.err aeadDecErr else
      let encKey ← fromSlice (← sliceFrom key K) K
      let iv ← fromSlice nonce 16
      let ctBuf ← sliceTo buffer ctextEnd
      match cbcDecryptPadded (C.dec encKey) iv ctBuf with
      | none => Res.err cbcDecErr
      | some pt =>                                                             -- buffer_resize(dec_len)
        if !tagMatch then Res.err aeadDecErr else Res.ok pt

/-! ### AES key wrap  (`alg/aes/key_wrap.rs`) -/

/-- `AES_KW_DEFAULT_IV` -/
def kwIv : Bytes := List.replicate 8 0xA6

/-- body of the inner loop of `encrypt_in_place`: (iv, chunk) ↦ (iv', chunk') with counter `t` -/
def kwWrapStep (enc : Bytes → Bytes) (t : Nat) (iv chunk : Bytes) : Bytes × Bytes :=
  let block := enc (iv ++ chunk)
  (Cbc.xor (block.take 8) (Bytes.be64 t), block.drop 8)

/-- body of the inner loop of `decrypt_in_place` -/
def kwUnwrapStep (dec : Bytes → Bytes) (t : Nat) (iv chunk : Bytes) : Bytes × Bytes :=
  let block := dec (Cbc.xor iv (Bytes.be64 t) ++ chunk)
  (block.take 8, block.drop 8)

/-- `for (i, chunk) in chunks.enumerate()` from index `i` on, with `t = base + i + 1` -/
def kwWrapPass (enc : Bytes → Bytes) (base : Nat) : Bytes → List Bytes → Nat → Bytes × List Bytes
  | iv, [], _ => (iv, [])
  | iv, c :: cs, i =>
    let s := kwWrapStep enc (base + i + 1) iv c
    let r := kwWrapPass enc base s.1 cs (i + 1)
    (r.1, s.2 :: r.2)

/-- `for (i, chunk) in chunks.enumerate().rev()` -/
def kwUnwrapPass (dec : Bytes → Bytes) (base : Nat) : Bytes → List Bytes → Nat → Bytes × List Bytes
  | iv, [], _ => (iv, [])
  | iv, c :: cs, i =>
    let r := kwUnwrapPass dec base iv cs (i + 1)
    let s := kwUnwrapStep dec (base + i + 1) r.1 c
    (s.1, s.2 :: r.2)

/-- `for j in j0 .. j0 + k` with `base = blocks * j` -/
def kwWrapPasses (enc : Bytes → Bytes) (blocks : Nat) : Nat → Nat → Bytes → List Bytes → Bytes × List Bytes
  | 0, _, iv, cs => (iv, cs)
  | k + 1, j, iv, cs =>
    let r := kwWrapPass enc (blocks * j) iv cs 0
    kwWrapPasses enc blocks k (j + 1) r.1 r.2

/-- `for j in (j0 .. j0 + k).rev()` -/
def kwUnwrapPasses (dec : Bytes → Bytes) (blocks : Nat) : Nat → Nat → Bytes → List Bytes → Bytes × List Bytes
  | 0, _, iv, cs => (iv, cs)
  | k + 1, j, iv, cs =>
    let r := kwUnwrapPasses dec blocks k (j + 1) iv cs
    kwUnwrapPass dec (blocks * j) r.1 r.2 0

/-- `encrypt_in_place`; returns the buffer and its length (the Rust returns `buf_len`, not a tag position) -/
def kwEncrypt (C : BlockCipher) (key buffer nonce aad : Bytes) : Res (Bytes × Nat) :=
  if !nonce.isEmpty then .err ⟨.Unsupported, .kwNonce⟩
  else if !aad.isEmpty then .err ⟨.Unsupported, .kwAad⟩
  else if buffer.length % 8 ≠ 0 then .err ⟨.Unsupported, .kwLen⟩
  else
    let blocks := buffer.length / 8
    let buf1 := zeros 8 ++ buffer                                              -- buffer_insert(0, [0; 8])
    do
      let body ← sliceFrom buf1 8
      let r := kwWrapPasses (C.enc key) blocks 6 0 kwIv (Cbc.chunks 8 body)
      let buf2 := buf1.take 8 ++ r.2.flatten ++ body.drop (8 * (body.length / 8))   -- chunks written back
      let buf3 ← copyInto buf2 0 8 r.1
      Res.ok (buf3, buf3.length)

/-- `decrypt_in_place` -/
def kwDecrypt (C : BlockCipher) (key buffer nonce aad : Bytes) : Res Bytes :=
  if !nonce.isEmpty then .err ⟨.Unsupported, .kwNonce⟩
  else if !aad.isEmpty then .err ⟨.Unsupported, .kwAad⟩
  else if buffer.length % 8 ≠ 0 then .err ⟨.Encryption, .kwLen⟩
  else if buffer.length / 8 < 1 then .err ⟨.Encryption, .default⟩
  else
    let blocks := buffer.length / 8 - 1
    do
      let iv0 ← tryInto8 (← sliceRange buffer 0 8)
      let body ← drainFront buffer 8                                           -- buffer_remove(0..8)
      let r := kwUnwrapPasses (C.dec key) blocks 6 0 iv0 (Cbc.chunks 8 body)
      let out := r.2.flatten ++ body.drop (8 * (body.length / 8))
      if r.1 = kwIv then Res.ok out else Res.err ⟨.Encryption, .default⟩

/-! ### wrappers of the detached AEADs  (`alg/aes/mod.rs`, `alg/chacha20.rs`) -/

def streamEncrypt (A : AeadPrim) (nonceLen : Nat) (key buffer nonce aad : Bytes) : Res (Bytes × Nat) :=
  if nonce.length ≠ nonceLen then .err ⟨.InvalidNonce, .default⟩
  else do
    let n ← fromSlice nonce nonceLen
    match A.enc key n aad buffer with
    | none => Res.err ⟨.Encryption, .aeadEncrypt⟩
    | some (ct, tag) => Res.ok (ct ++ tag, buffer.length)                      -- in place; buffer_write(tag)

/-- `shortKind`: the kind used for "Invalid size for encrypted data" (`Encryption` in `aes/mod.rs`,
    `Invalid` in `chacha20.rs`) -/
def streamDecrypt (A : AeadPrim) (nonceLen : Nat) (shortKind : Kind) (key buffer nonce aad : Bytes) : Res Bytes :=
  if nonce.length ≠ nonceLen then .err ⟨.InvalidNonce, .default⟩
  else if buffer.length < A.tagLen then .err ⟨shortKind, .invalidSize⟩
  else
    let tagStart := buffer.length - A.tagLen
    do
      let n ← fromSlice nonce nonceLen
      let tag ← fromSlice (← sliceFrom buffer tagStart) A.tagLen
      let ct ← sliceTo buffer tagStart
      match A.dec key n aad ct tag with
      | none => Res.err aeadDecErr
      | some pt => Res.ok pt                                                   -- buffer_resize(tag_start)

/-! ### keys and dispatch  (`alg/any.rs`) -/

inductive Alg
  | A128Gcm | A256Gcm | A128CbcHs256 | A256CbcHs512 | A128Kw | A256Kw | C20P | XC20P
  | Ed25519      -- representative of the key types without AEAD support
  deriving DecidableEq, Repr

/-- secret key length in bytes -/
def Alg.keyLen : Alg → Nat
  | .A128Gcm => 16 | .A256Gcm => 32 | .A128CbcHs256 => 32 | .A256CbcHs512 => 64
  | .A128Kw => 16 | .A256Kw => 32 | .C20P => 32 | .XC20P => 32 | .Ed25519 => 32

/-- `KeyAeadInPlace::aead_params` = (nonce_length, tag_length) -/
def Alg.params : Alg → Nat × Nat
  | .A128Gcm => (12, 16) | .A256Gcm => (12, 16) | .A128CbcHs256 => (16, 16) | .A256CbcHs512 => (16, 32)
  | .A128Kw => (0, 8) | .A256Kw => (0, 8) | .C20P => (12, 16) | .XC20P => (24, 16) | .Ed25519 => (0, 0)

structure Key where
  alg : Alg
  bytes : Bytes
  deriving DecidableEq, Repr

structure Prims where
  aes128 : BlockCipher
  aes256 : BlockCipher
  hmac256 : Mac
  hmac512 : Mac
  gcm128 : AeadPrim
  gcm256 : AeadPrim
  c20p : AeadPrim
  xc20p : AeadPrim

/-- the type-level facts of the Rust instantiation (tag and digest sizes) plus the primitives' laws -/
structure Prims.Lawful (P : Prims) : Prop where
  aes128 : P.aes128.Lawful
  aes256 : P.aes256.Lawful
  hmac256 : P.hmac256.Lawful
  hmac512 : P.hmac512.Lawful
  gcm128 : P.gcm128.Lawful
  gcm256 : P.gcm256.Lawful
  c20p : P.c20p.Lawful
  xc20p : P.xc20p.Lawful
  hmac256_len : P.hmac256.outLen = 32
  hmac512_len : P.hmac512.outLen = 64
  gcm128_tag : P.gcm128.tagLen = 16
  gcm256_tag : P.gcm256.tagLen = 16
  c20p_tag : P.c20p.tagLen = 16
  xc20p_tag : P.xc20p.tagLen = 16

/-- `KeySecretBytes::from_secret_bytes` via `from_secret_bytes_any` -/
def fromSecretBytes (alg : Alg) (secret : Bytes) : Res Key :=
  if secret.length ≠ alg.keyLen then .err ⟨.InvalidKeyData, .default⟩ else .ok ⟨alg, secret⟩

def unsupportedErr : Err := ⟨.Unsupported, .aeadUnsupported⟩

/-- `AnyKey::encrypt_in_place` -/
def encryptInPlace (P : Prims) (k : Key) (buffer nonce aad : Bytes) : Res (Bytes × Nat) :=
  match k.alg with
  | .A128Gcm => streamEncrypt P.gcm128 12 k.bytes buffer nonce aad
  | .A256Gcm => streamEncrypt P.gcm256 12 k.bytes buffer nonce aad
  | .A128CbcHs256 => cbcHmacEncrypt P.aes128 P.hmac256 16 k.bytes buffer nonce aad
  | .A256CbcHs512 => cbcHmacEncrypt P.aes256 P.hmac512 32 k.bytes buffer nonce aad
  | .A128Kw => kwEncrypt P.aes128 k.bytes buffer nonce aad
  | .A256Kw => kwEncrypt P.aes256 k.bytes buffer nonce aad
  | .C20P => streamEncrypt P.c20p 12 k.bytes buffer nonce aad
  | .XC20P => streamEncrypt P.xc20p 24 k.bytes buffer nonce aad
  | .Ed25519 => .err unsupportedErr

/-- `AnyKey::decrypt_in_place` -/
def decryptInPlace (fixed : Bool) (P : Prims) (k : Key) (buffer nonce aad : Bytes) : Res Bytes :=
  match k.alg with
  | .A128Gcm => streamDecrypt P.gcm128 12 .Encryption k.bytes buffer nonce aad
  | .A256Gcm => streamDecrypt P.gcm256 12 .Encryption k.bytes buffer nonce aad
  | .A128CbcHs256 => cbcHmacDecrypt fixed P.aes128 P.hmac256 16 k.bytes buffer nonce aad
  | .A256CbcHs512 => cbcHmacDecrypt fixed P.aes256 P.hmac512 32 k.bytes buffer nonce aad
  | .A128Kw => kwDecrypt P.aes128 k.bytes buffer nonce aad
  | .A256Kw => kwDecrypt P.aes256 k.bytes buffer nonce aad
  | .C20P => streamDecrypt P.c20p 12 .Invalid k.bytes buffer nonce aad
  | .XC20P => streamDecrypt P.xc20p 24 .Invalid k.bytes buffer nonce aad
  | .Ed25519 => .err unsupportedErr

/-- `AnyKey::aead_padding` -/
def aeadPadding (k : Key) (msgLen : Nat) : Nat :=
  match k.alg with
  | .A128CbcHs256 | .A256CbcHs512 => cbcPaddingLength msgLen
  | _ => 0

/-! ### `LocalKey`  (`src/kms/local_key.rs`, `src/kms/enc.rs`) -/

/-- `LocalKey::aead_params` -/
def aeadParams (k : Key) : Res (Nat × Nat) :=
  if k.alg.params.2 = 0 then .err unsupportedErr else .ok k.alg.params

/-- `kms::Encrypted` -/
structure Encrypted where
  buffer : Bytes
  tagPos : Nat
  noncePos : Nat
  deriving DecidableEq, Repr

/-- `Encrypted::ciphertext` -/
def Encrypted.ciphertext (e : Encrypted) : Res Bytes := sliceRange e.buffer 0 e.tagPos
/-- `Encrypted::tag` -/
def Encrypted.tag (e : Encrypted) : Res Bytes := sliceRange e.buffer e.tagPos e.noncePos
/-- `Encrypted::nonce` -/
def Encrypted.nonce (e : Encrypted) : Res Bytes := sliceFrom e.buffer e.noncePos

/-- `LocalKey::aead_encrypt`.  `rnd` is the value `aead_random_nonce` returns (used only when the caller
    passes an empty nonce and the algorithm has a nonce). -/
def aeadEncrypt (P : Prims) (rnd : Bytes) (k : Key) (message nonce aad : Bytes) : Res Encrypted :=
  let nonce' := if nonce.isEmpty && k.alg.params.1 > 0 then rnd else nonce
  do
    let r ← encryptInPlace P k message nonce' aad
    let noncePos := r.1.length
    let buf := if !nonce'.isEmpty then r.1 ++ nonce' else r.1
    Res.ok ⟨buf, r.2, noncePos⟩

/-- `LocalKey::aead_decrypt` with `ToDecrypt { ciphertext, tag }` (`into_secret` concatenates) -/
def aeadDecrypt (fixed : Bool) (P : Prims) (k : Key) (ciphertext tag nonce aad : Bytes) : Res Bytes :=
  decryptInPlace fixed P k (ciphertext ++ tag) nonce aad

/-- `LocalKey::wrap_key` (payload keys with exportable secret bytes) -/
def wrapKey (P : Prims) (k payload : Key) (nonce : Bytes) : Res Encrypted := do
  let r ← encryptInPlace P k payload.bytes nonce []
  let noncePos := r.1.length
  Res.ok ⟨r.1 ++ nonce, r.2, noncePos⟩

/-- `LocalKey::unwrap_key` -/
def unwrapKey (fixed : Bool) (P : Prims) (k : Key) (alg : Alg) (ciphertext tag nonce : Bytes) : Res Key := do
  let buf ← decryptInPlace fixed P k (ciphertext ++ tag) nonce []
  fromSecretBytes alg buf

/-! ### a toy lawful instance (non-vacuity of the hypotheses; witnesses) -/

def xorByte (c : UInt8) (b : Bytes) : Bytes := b.map (· ^^^ c)
def checksum (b : Bytes) : UInt8 := b.foldl (· ^^^ ·) 0

/-- "block cipher": xor every byte with the first key byte -/
def toyCipher : BlockCipher := ⟨fun k b => xorByte (k.headD 0) b, fun k b => xorByte (k.headD 0) b⟩
/-- "MAC": `n` copies of the xor of all key and message bytes -/
def toyMac (n : Nat) : Mac := ⟨n, fun k m => List.replicate n (checksum (k ++ m))⟩
/-- "AEAD": xor stream, checksum tag -/
def toyAead : AeadPrim :=
  ⟨16,
   fun k n a m => some (xorByte (k.headD 0) m, List.replicate 16 (checksum (k ++ n ++ a ++ m))),
   fun k n a c t =>
     let m := xorByte (k.headD 0) c
     if t = List.replicate 16 (checksum (k ++ n ++ a ++ m)) then some m else none⟩

def toyPrims : Prims := ⟨toyCipher, toyCipher, toyMac 32, toyMac 64, toyAead, toyAead, toyAead, toyAead⟩

end Askar.Aead
