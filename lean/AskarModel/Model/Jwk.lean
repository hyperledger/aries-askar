/-
C14 — model of key export / import (askar-crypto: jwk/parts.rs, jwk/encode.rs, jwk/mod.rs, alg/any.rs,
alg/{ed25519,x25519,p256,p384,k256,bls,chacha20}.rs, alg/aes/mod.rs) on the tree in /repo.

Layers
* `b64encode` / `b64decode`: strict unpadded base64url (what `base64::URL_SAFE_NO_PAD` computes: no padding accepted,
  trailing bits must be zero, length ≡ 1 (mod 4) rejected) and `decodeBase64` = `OptAttr::decode_base64` with its
  `max_input` bound.
* token level: `visit` = `JwkMapVisitor::visit_map` over a member list, following serde-json-core's `MapAccess`
  protocol (a value that is not consumed makes the following `next_key` fail).
* byte level: `parseJwk` = `serde_json_core::from_str::<JwkParts>` (the subset of the deserializer that is reachable:
  borrowed strings without escape processing, the `key_ops` sequence, `IgnoredAny`).  This is what the driver runs.
* keys: `fromSecretBytes`, `fromPublicBytes`, `fromJwkParts`, `fromJwkAny`, `encodeJwk`, per algorithm, with every length
  check in front of a fixed-size conversion; Rust conversions that panic are `Res.panic`.
Curve arithmetic is a parameter (`Prims`).

`Cfg` records the two places where the pinned tree is known to be defective (D3, D4); `Cfg.current` is what /repo does now.
-/
import AskarModel.Base.Bytes
import AskarModel.Generated.Flags

namespace Askar.Jwk

/-! ## outcomes -/

/-- `askar_crypto::ErrorKind` values that occur on these paths -/
inductive Err
  | invalid | invalidKeyData | unsupported | missingSecretKey | unexpected
  deriving DecidableEq, Repr, Inhabited

def Err.name : Err → String
  | .invalid => "Invalid"
  | .invalidKeyData => "InvalidKeyData"
  | .unsupported => "Unsupported"
  | .missingSecretKey => "MissingSecretKey"
  | .unexpected => "Unexpected"

/-- result of a library call: a value, an `Err`, or a Rust panic (with the site) -/
inductive Res (α : Type)
  | ok (a : α)
  | err (e : Err)
  | panic (site : String)
  deriving Repr

namespace Res
def bind {α β} (r : Res α) (f : α → Res β) : Res β :=
  match r with
  | .ok a => f a
  | .err e => .err e
  | .panic s => .panic s

instance : Monad Res where
  pure := .ok
  bind := Res.bind

def isPanic {α} : Res α → Bool
  | .panic _ => true
  | _ => false

def isOk {α} : Res α → Bool
  | .ok _ => true
  | _ => false

@[simp] theorem bind_ok {α β} (a : α) (f : α → Res β) : (Res.ok a >>= f) = f a := rfl
@[simp] theorem bind_err {α β} (e : Err) (f : α → Res β) : (Res.err e >>= f) = .err e := rfl
@[simp] theorem bind_panic {α β} (s : String) (f : α → Res β) : (Res.panic s >>= f) = .panic s := rfl
end Res

/-- configuration = which of the two known defects the code has -/
structure Cfg where
  /-- `visit_map` consumes the value of an unknown member (`next_value::<IgnoredAny>()`); false = D4 -/
  consumeUnknown : Bool
  /-- p256/p384/k256 `from_secret_bytes` checks the length before converting to a `GenericArray`; false = D3 -/
  ecLenCheck : Bool
  deriving DecidableEq, Repr

def Cfg.pinned : Cfg := { consumeUnknown := false, ecLenCheck := false }
def Cfg.fixed : Cfg := { consumeUnknown := true, ecLenCheck := true }
/-- what /repo does NOW: read from the source by tools/extract.py (Generated/Flags.lean) -/
def Cfg.current : Cfg :=
  { consumeUnknown := Askar.Generated.Flags.jwkConsumesUnknown, ecLenCheck := Askar.Generated.Flags.ecSecretLenCheck }

/-! ## base64url, strict, unpadded -/

/-- alphabet: value → character code -/
def symN (n : Nat) : Nat :=
  if n < 26 then 65 + n else if n < 52 then 71 + n else if n < 62 then n - 4 else if n = 62 then 45 else 95

/-- alphabet: character code → value -/
def valN (c : Nat) : Option Nat :=
  if 65 ≤ c ∧ c ≤ 90 then some (c - 65)
  else if 97 ≤ c ∧ c ≤ 122 then some (c - 71)
  else if 48 ≤ c ∧ c ≤ 57 then some (c + 4)
  else if c = 45 then some 62
  else if c = 95 then some 63
  else none

def sym (n : Nat) : UInt8 := UInt8.ofNat (symN n)
def val (c : UInt8) : Option Nat := valN c.toNat

def b64encode : Bytes → Bytes
  | a :: b :: c :: rest =>
    sym (a.toNat / 4) :: sym (a.toNat % 4 * 16 + b.toNat / 16) :: sym (b.toNat % 16 * 4 + c.toNat / 64)
      :: sym (c.toNat % 64) :: b64encode rest
  | [a, b] => [sym (a.toNat / 4), sym (a.toNat % 4 * 16 + b.toNat / 16), sym (b.toNat % 16 * 4)]
  | [a] => [sym (a.toNat / 4), sym (a.toNat % 4 * 16)]
  | [] => []

/-- strict decoding: every character in the alphabet (so no `=`), no dangling single character,
    unused trailing bits zero -/
def b64decode : Bytes → Option Bytes
  | [] => some []
  | [_] => none
  | [c0, c1] =>
    match val c0, val c1 with
    | some v0, some v1 => if v1 % 16 = 0 then some [UInt8.ofNat (v0 * 4 + v1 / 16)] else none
    | _, _ => none
  | [c0, c1, c2] =>
    match val c0, val c1, val c2 with
    | some v0, some v1, some v2 =>
      if v2 % 4 = 0 then some [UInt8.ofNat (v0 * 4 + v1 / 16), UInt8.ofNat (v1 % 16 * 16 + v2 / 4)] else none
    | _, _, _ => none
  | c0 :: c1 :: c2 :: c3 :: rest =>
    match val c0, val c1, val c2, val c3, b64decode rest with
    | some v0, some v1, some v2, some v3, some r =>
      some (UInt8.ofNat (v0 * 4 + v1 / 16) :: UInt8.ofNat (v1 % 16 * 16 + v2 / 4) :: UInt8.ofNat (v2 % 4 * 64 + v3) :: r)
    | _, _, _, _, _ => none

/-- `OptAttr::decode_base64(&self, output: &mut [u8; n])`: the decoded bytes (their count is the returned `usize`) -/
def decodeBase64 (attr : Option Bytes) (n : Nat) : Res Bytes :=
  match attr with
  | none => .err .invalid                                   -- "Empty attribute"
  | some s =>
    if s.length > (n * 4 + 2) / 3 then .err .invalid        -- "Base64 length exceeds max"
    else match b64decode s with
      | none => .err .invalid                               -- "Base64 decoding error"
      | some b => .ok b

/-- the idiom `if attr.decode_base64(arr)? != arr.len() { Err(InvalidKeyData) }` -/
def decodeExact (attr : Option Bytes) (n : Nat) : Res Bytes :=
  match decodeBase64 attr n with
  | .ok b => if b.length ≠ n then .err .invalidKeyData else .ok b
  | .err e => .err e
  | .panic s => .panic s

/-! ## parsed JWK -/

/-- `JwkParts` (`keyOps` = the `KeyOpsSet` bit set) -/
structure Parts where
  kty : Bytes
  kid : Option Bytes := none
  alg : Option Bytes := none
  crv : Option Bytes := none
  x : Option Bytes := none
  y : Option Bytes := none
  d : Option Bytes := none
  k : Option Bytes := none
  keyOps : Option Nat := none
  deriving DecidableEq, Repr

/-- the visitor's local variables -/
structure Acc where
  kty : Option Bytes := none
  kid : Option Bytes := none
  alg : Option Bytes := none
  crv : Option Bytes := none
  x : Option Bytes := none
  y : Option Bytes := none
  d : Option Bytes := none
  k : Option Bytes := none
  keyOps : Option Nat := none
  deriving DecidableEq, Repr

def Acc.finish (a : Acc) : Option Parts :=
  match a.kty with
  | some kty => some { kty := kty, kid := a.kid, alg := a.alg, crv := a.crv, x := a.x, y := a.y, d := a.d, k := a.k, keyOps := a.keyOps }
  | none => none

/-- bytes of an ASCII string constant (kernel-reducible, unlike `String.toUTF8`) -/
def sb (s : String) : Bytes := s.toList.map fun c => UInt8.ofNat c.toNat

/-- `KeyOps::try_from_str` as a bit -/
def opBit (s : Bytes) : Option Nat :=
  if s = sb "encrypt" then some 1 else if s = sb "decrypt" then some 2 else if s = sb "sign" then some 4
  else if s = sb "verify" then some 8 else if s = sb "wrapKey" then some 16 else if s = sb "unwrapKey" then some 32
  else if s = sb "deriveKey" then some 64 else if s = sb "deriveBits" then some 128 else none

/-- `"use"` values -/
def useOps (s : Bytes) : Nat :=
  if s = sb "enc" then 1 ||| 2 ||| 16 ||| 32 else if s = sb "sig" then 4 ||| 8 else 0

/-- `KeyOpsVisitor::visit_seq` over the element strings -/
def opsOf : List Bytes → Nat → Option Nat
  | [], acc => some acc
  | s :: rest, acc =>
    match opBit s with
    | some b => if acc &&& b ≠ 0 then none else opsOf rest (acc ||| b)
    | none => opsOf rest acc

/-! ## token level: the member visitor -/

/-- a member value as far as the visitor can tell values apart -/
inductive JVal
  | str (s : Bytes)
  | strArr (xs : List Bytes)        -- an array all of whose elements are strings
  | num | bool | null | arr | obj   -- anything else (an array with a non-string element is `arr`)
  deriving DecidableEq, Repr

inductive Field | kty | kid | alg | crv | x | y | d | k | use | keyOps
  deriving DecidableEq, Repr

def fieldOf (key : Bytes) : Option Field :=
  if key = sb "kty" then some .kty else if key = sb "kid" then some .kid else if key = sb "alg" then some .alg
  else if key = sb "crv" then some .crv else if key = sb "x" then some .x else if key = sb "y" then some .y
  else if key = sb "d" then some .d else if key = sb "k" then some .k else if key = sb "use" then some .use
  else if key = sb "key_ops" then some .keyOps else none

def Acc.setUse (a : Acc) (s : Bytes) : Acc :=
  let ops := useOps s
  if ops ≠ 0 then { a with keyOps := some (a.keyOps.getD 0 ||| ops) } else a

/-- one turn of the `while let Some(key) = access.next_key()?` loop.  `none` = the deserializer reports an error
    (wrong value type; or, when the value of an unknown member is left unconsumed, the error raised by the
    following `next_key`, which finds `:` where it expects `,` or `}`) -/
def visitStep (cfg : Cfg) (a : Acc) (m : Bytes × JVal) : Option Acc :=
  match fieldOf m.1, m.2 with
  | some .kty, .str s => some { a with kty := some s }
  | some .kid, .str s => some { a with kid := some s }
  | some .alg, .str s => some { a with alg := some s }
  | some .crv, .str s => some { a with crv := some s }
  | some .x, .str s => some { a with x := some s }
  | some .y, .str s => some { a with y := some s }
  | some .d, .str s => some { a with d := some s }
  | some .k, .str s => some { a with k := some s }
  | some .use, .str s => some (a.setUse s)
  | some .keyOps, .strArr xs => (opsOf xs 0).map fun o => { a with keyOps := some o }
  | some _, _ => none
  | none, _ => if cfg.consumeUnknown then some a else none

def visitFrom (cfg : Cfg) (a : Acc) : List (Bytes × JVal) → Option Acc
  | [] => some a
  | m :: ms => match visitStep cfg a m with
    | some a' => visitFrom cfg a' ms
    | none => none

/-- `JwkMapVisitor::visit_map` over the members of a well-formed object -/
def visit (cfg : Cfg) (ms : List (Bytes × JVal)) : Option Parts :=
  match visitFrom cfg {} ms with
  | some a => a.finish
  | none => none

/-! ## byte level: `serde_json_core::from_str::<JwkParts>` -/

def isWs (c : UInt8) : Bool := c = 32 || c = 10 || c = 9 || c = 13

/-- `parse_whitespace` -/
def skipWs : Bytes → Bytes
  | [] => []
  | c :: rest => if isWs c then skipWs rest else c :: rest

/-- `parse_str` after the opening quote (`odd` = an odd number of backslashes immediately precedes); no escape
    processing: the raw bytes between the quotes are the string.  Returns the string and the input after the closing quote. -/
def strBody : Bytes → Bool → Bytes → Option (Bytes × Bytes)
  | [], _, _ => none
  | c :: rest, odd, acc =>
    if c = 34 then (if odd then strBody rest false (c :: acc) else some (acc.reverse, rest))
    else if c = 92 then strBody rest (!odd) (c :: acc)
    else strBody rest false (c :: acc)

/-- `deserialize_str` -/
def deStr (inp : Bytes) : Option (Bytes × Bytes) :=
  match skipWs inp with
  | c :: rest => if c = 34 then strBody rest false [] else none
  | [] => none

/-- `parse_object_colon` -/
def colon (inp : Bytes) : Option Bytes :=
  match skipWs inp with
  | c :: rest => if c = 58 then some rest else none
  | [] => none

/-- `SeqAccess::next_element_seed` up to the point where the element is deserialised:
    `none` = error, `some none` = end of sequence (input left at `]`), `some (some (inp', first'))` = element starts at `inp'` -/
def seqNext (inp : Bytes) (first : Bool) : Option (Option (Bytes × Bool)) :=
  match skipWs inp with
  | [] => none
  | c :: rest =>
    if c = 93 then some none
    else if c = 44 then
      match skipWs rest with
      | [] => none
      | p :: r => if p = 93 then none else some (some (p :: r, first))
    else if first then some (some (c :: rest, false))
    else none

/-- `KeyOpsVisitor::visit_seq`; returns the set and the input at the closing `]` -/
def keyOpsLoop : Nat → Bytes → Bool → Nat → Option (Nat × Bytes)
  | 0, _, _, _ => none
  | fuel + 1, inp, first, ops =>
    match seqNext inp first with
    | none => none
    | some none => some (ops, skipWs inp)
    | some (some (inp', first')) =>
      match deStr inp' with
      | none => none
      | some (s, rest) =>
        match opBit s with
        | some b => if ops &&& b ≠ 0 then none else keyOpsLoop fuel rest first' (ops ||| b)
        | none => keyOpsLoop fuel rest first' ops

/-- `deserialize_seq(KeyOpsVisitor)` including `end_seq` -/
def deKeyOps (inp : Bytes) : Option (Nat × Bytes) :=
  match skipWs inp with
  | c :: rest =>
    if c = 91 then
      match keyOpsLoop (rest.length + 2) rest true 0 with
      | some (ops, r) => match r with
        | c' :: r' => if c' = 93 then some (ops, r') else none
        | [] => none
      | none => none
    else none
  | [] => none

/-- the "chomp until a delimiter" branch of `deserialize_ignored_any` -/
def chomp : Bytes → Option Bytes
  | [] => none
  | c :: rest => if c = 44 || c = 125 || c = 93 then some (c :: rest) else chomp rest

/-- `MapAccess::next_key_seed` up to the point where the key is deserialised:
    `none` = error, `some none` = end of map (input left at `}`), `some (some inp')` = key string starts at `inp'`.
    After a successful call `first` is false. -/
def mapNext (inp : Bytes) (first : Bool) : Option (Option Bytes) :=
  match skipWs inp with
  | [] => none
  | c :: rest =>
    if c = 125 then some none
    else
      let peek : Option Bytes :=
        if c = 44 && !first then (match skipWs rest with | [] => none | r => some r)
        else if first then some (c :: rest) else none
      match peek with
      | some (p :: r) => if p = 34 then some (some (p :: r)) else none
      | _ => none

mutual
/-- `deserialize_ignored_any` -/
def ignoredAny : Nat → Bytes → Option Bytes
  | 0, _ => none
  | fuel + 1, inp =>
    match skipWs inp with
    | [] => none
    | c :: rest =>
      if c = 34 then (strBody rest false []).map (·.2)
      else if c = 91 then
        match ignoredSeq fuel rest true with
        | some (c' :: r') => if c' = 93 then some r' else none
        | _ => none
      else if c = 123 then
        match ignoredMap fuel rest true with
        | some (c' :: r') => if c' = 125 then some r' else none
        | _ => none
      else if c = 44 || c = 125 || c = 93 then none
      else chomp (c :: rest)
/-- `IgnoredAny::visit_seq`; returns the input at the closing `]` -/
def ignoredSeq : Nat → Bytes → Bool → Option Bytes
  | 0, _, _ => none
  | fuel + 1, inp, first =>
    match seqNext inp first with
    | none => none
    | some none => some (skipWs inp)
    | some (some (inp', first')) =>
      match ignoredAny fuel inp' with
      | some rest => ignoredSeq fuel rest first'
      | none => none
/-- `IgnoredAny::visit_map`; returns the input at the closing `}` -/
def ignoredMap : Nat → Bytes → Bool → Option Bytes
  | 0, _, _ => none
  | fuel + 1, inp, first =>
    match mapNext inp first with
    | none => none
    | some none => some (skipWs inp)
    | some (some inp') =>
      match deStr inp' with
      | none => none
      | some (_, rest) =>
        match colon rest with
        | none => none
        | some rest' =>
          match ignoredAny fuel rest' with
          | some rest'' => ignoredMap fuel rest'' false
          | none => none
end

/-- `next_value::<&str>()` -/
def valueStr (inp : Bytes) : Option (Bytes × Bytes) :=
  match colon inp with
  | some r => deStr r
  | none => none

/-- the `while let Some(key) = access.next_key::<&str>()?` loop of `visit_map`; returns the variables and the input at `}` -/
def mapLoop (cfg : Cfg) : Nat → Bytes → Bool → Acc → Option (Acc × Bytes)
  | 0, _, _, _ => none
  | fuel + 1, inp, first, a =>
    match mapNext inp first with
    | none => none
    | some none => some (a, skipWs inp)
    | some (some inp') =>
      match deStr inp' with
      | none => none
      | some (key, rest) =>
        match fieldOf key with
        | some .use =>
          (match valueStr rest with
           | some (s, r) => mapLoop cfg fuel r false (a.setUse s)
           | none => none)
        | some .keyOps =>
          (match colon rest with
           | some r => (match deKeyOps r with
             | some (ops, r') => mapLoop cfg fuel r' false { a with keyOps := some ops }
             | none => none)
           | none => none)
        | some f =>
          (match valueStr rest with
           | some (s, r) =>
             let a' : Acc := match f with
               | .kty => { a with kty := some s } | .kid => { a with kid := some s } | .alg => { a with alg := some s }
               | .crv => { a with crv := some s } | .x => { a with x := some s } | .y => { a with y := some s }
               | .d => { a with d := some s } | .k => { a with k := some s } | _ => a
             mapLoop cfg fuel r false a'
           | none => none)
        | none =>
          if cfg.consumeUnknown then
            (match colon rest with
             | some r => (match ignoredAny (r.length + 2) r with
               | some r' => mapLoop cfg fuel r' false a
               | none => none)
             | none => none)
          else mapLoop cfg fuel rest false a       -- value NOT consumed (D4)

/-- `JwkParts::try_from_str`: `deserialize_map`, `visit_map`, `end_map`, `Deserializer::end` -/
def parseJwk (cfg : Cfg) (inp : Bytes) : Option Parts :=
  match skipWs inp with
  | c :: rest =>
    if c = 123 then
      match mapLoop cfg (rest.length + 2) rest true {} with
      | some (a, r) =>
        match a.finish, r with
        | some p, c' :: r' => if c' = 125 ∧ skipWs r' = [] then some p else none
        | _, _ => none
      | none => none
    else none
  | [] => none

/-! ## keys -/

inductive Alg
  | a128gcm | a256gcm | a128cbcHs256 | a256cbcHs512 | a128kw | a256kw
  | blsG1 | blsG2 | blsG1G2 | c20p | xc20p | ed25519 | x25519 | k256 | p256 | p384
  deriving DecidableEq, Repr, Inhabited

def Alg.all : List Alg :=
  [.a128gcm, .a256gcm, .a128cbcHs256, .a256cbcHs512, .a128kw, .a256kw, .blsG1, .blsG2, .blsG1G2, .c20p, .xc20p,
   .ed25519, .x25519, .k256, .p256, .p384]

/-- `KeyAlg::as_str` -/
def Alg.name : Alg → String
  | .a128gcm => "a128gcm" | .a256gcm => "a256gcm" | .a128cbcHs256 => "a128cbchs256" | .a256cbcHs512 => "a256cbchs512"
  | .a128kw => "a128kw" | .a256kw => "a256kw" | .blsG1 => "bls12381g1" | .blsG2 => "bls12381g2" | .blsG1G2 => "bls12381g1g2"
  | .c20p => "c20p" | .xc20p => "xc20p" | .ed25519 => "ed25519" | .x25519 => "x25519" | .k256 => "k256" | .p256 => "p256"
  | .p384 => "p384"

def Alg.isSymmetric : Alg → Bool
  | .a128gcm | .a256gcm | .a128cbcHs256 | .a256cbcHs512 | .a128kw | .a256kw | .c20p | .xc20p => true
  | _ => false

def Alg.isEc : Alg → Bool
  | .k256 | .p256 | .p384 => true
  | _ => false

def Alg.isBls : Alg → Bool
  | .blsG1 | .blsG2 | .blsG1G2 => true
  | _ => false

/-- length of the secret key bytes -/
def Alg.secretLen : Alg → Nat
  | .a128gcm | .a128kw => 16
  | .a256cbcHs512 => 64
  | .p384 => 48
  | _ => 32

/-- length of the stored public key: `x‖y` for the three Weierstrass curves, the encoded key otherwise, 0 for symmetric keys -/
def Alg.pubLen : Alg → Nat
  | .ed25519 | .x25519 => 32
  | .k256 | .p256 => 64
  | .p384 => 96
  | .blsG1 => 48 | .blsG2 => 96 | .blsG1G2 => 144
  | _ => 0

/-- `T::JWK_ALG` of the symmetric key types -/
def Alg.jwkAlg : Alg → String
  | .a128gcm => "A128GCM" | .a256gcm => "A256GCM" | .a128cbcHs256 => "A128CBC-HS256" | .a256cbcHs512 => "A256CBC-HS512"
  | .a128kw => "A128KW" | .a256kw => "A256KW" | .c20p => "C20P" | .xc20p => "XC20P" | _ => ""

/-- `JWK_CURVE` -/
def Alg.jwkCrv : Alg → String
  | .ed25519 => "Ed25519" | .x25519 => "X25519" | .k256 => "secp256k1" | .p256 => "P-256" | .p384 => "P-384"
  | .blsG1 => "BLS12381_G1" | .blsG2 => "BLS12381_G2" | .blsG1G2 => "BLS12381_G1G2" | _ => ""

/-- `JWK_KEY_TYPE` -/
def Alg.jwkKty (a : Alg) : String :=
  if a.isSymmetric then "oct" else if a.isEc then "EC" else "OKP"

/-- a key: algorithm, secret bytes if any, public key (`x‖y` for EC, the encoded public key for the other
    asymmetric algorithms, empty for symmetric keys) -/
structure Key where
  alg : Alg
  secret : Option Bytes
  pub : Bytes
  deriving DecidableEq, Repr

/-- third-party curve operations (p256 / p384 / k256 / curve25519-dalek / ed25519-dalek / bls12_381 crates) -/
structure Prims where
  /-- public key of a secret of the right length; `none` = the crate rejects the scalar (zero or ≥ order for the
      Weierstrass curves, ≥ r for BLS; never for Ed25519 / X25519) -/
  pubOf : Alg → Bytes → Option Bytes
  /-- EC: `PublicKey::from_encoded_point(from_affine_coordinates(x, y))`: `some (x‖y)` iff the point is on the curve -/
  fromAffine : Alg → Bytes → Bytes → Option Bytes
  /-- EC: `PublicKey::from_sec1_bytes` on input of any length → `x‖y`;
      Ed25519: `VerifyingKey::from_bytes` on 32 bytes; BLS G1/G2: `from_compressed` on 48/96 bytes → the canonical encoding -/
  decodePub : Alg → Bytes → Option Bytes

/-- SEC1 compressed form of `x‖y` (`to_encoded_point(true)`) -/
def compress (n : Nat) (xy : Bytes) : Bytes :=
  let y := xy.drop n
  (if (y.getLast?.getD 0) % 2 = 1 then (3 : UInt8) else 2) :: xy.take n

/-- `KeySecretBytes::from_secret_bytes` per algorithm -/
def fromSecretBytes (cfg : Cfg) (P : Prims) (alg : Alg) (b : Bytes) : Res Key :=
  if alg.isSymmetric then
    if b.length ≠ alg.secretLen then .err .invalidKeyData else .ok { alg := alg, secret := some b, pub := [] }
  else if alg.isEc then
    -- `if let Ok(key) = key.try_into()`: the conversion found is `From<&[u8]> for &GenericArray`, which asserts the length
    if b.length ≠ alg.secretLen then
      (if cfg.ecLenCheck then .err .invalidKeyData else .panic "GenericArray::from_slice (from_secret_bytes)")
    else match P.pubOf alg b with
      | some p => .ok { alg := alg, secret := some b, pub := p }
      | none => .err .invalidKeyData
  else
    if b.length ≠ alg.secretLen then .err .invalidKeyData
    else match P.pubOf alg b with
      | some p => .ok { alg := alg, secret := some b, pub := p }
      | none => .err .invalidKeyData

/-- `BlsPublicKeyType::from_public_bytes` / `KeyPublicBytes::from_public_bytes` -/
def decodePublic (P : Prims) (alg : Alg) (b : Bytes) : Res Bytes :=
  match alg with
  | .ed25519 =>
    if b.length ≠ 32 then .err .invalidKeyData
    else match P.decodePub .ed25519 b with | some p => .ok p | none => .err .invalidKeyData
  | .x25519 => if b.length ≠ 32 then .err .invalidKeyData else .ok b
  | .blsG1 =>
    if b.length ≠ 48 then .err .invalidKeyData
    else match P.decodePub .blsG1 b with | some p => .ok p | none => .err .invalidKeyData
  | .blsG2 =>
    if b.length ≠ 96 then .err .invalidKeyData
    else match P.decodePub .blsG2 b with | some p => .ok p | none => .err .invalidKeyData
  | .blsG1G2 =>
    if b.length ≠ 144 then .err .invalidKeyData
    else match P.decodePub .blsG1 (b.take 48), P.decodePub .blsG2 (b.drop 48) with
      | some p1, some p2 => .ok (p1 ++ p2)
      | _, _ => .err .invalidKeyData
  | .k256 | .p256 | .p384 =>
    match P.decodePub alg b with | some p => .ok p | none => .err .invalidKeyData
  | _ => .err .unsupported                                   -- "Unsupported algorithm for public key import"

def fromPublicBytes (P : Prims) (alg : Alg) (b : Bytes) : Res Key :=
  match decodePublic P alg b with
  | .ok p => .ok { alg := alg, secret := none, pub := p }
  | .err e => .err e
  | .panic s => .panic s

/-- `ToSecretBytes::to_secret_bytes` -/
def toSecretBytes (k : Key) : Res Bytes :=
  match k.secret with
  | some s => .ok s
  | none => .err .missingSecretKey

/-- `ToPublicBytes::to_public_bytes` -/
def toPublicBytes (k : Key) : Res Bytes :=
  if k.alg.isSymmetric then .err .unsupported
  else if k.alg.isEc then .ok (compress k.alg.secretLen k.pub)
  else .ok k.pub

inductive Mode | publicKey | secretKey | thumbprint
  deriving DecidableEq, Repr

/-- `Pk::get_jwk_curve(enc.alg())` / `Pk::with_bytes(.., enc.alg(), ..)` for BLS keys -/
def blsView (k : Key) (algParam : Option Alg) : String × Bytes :=
  if k.alg = .blsG1G2 ∧ algParam = some .blsG1 then (Alg.blsG1.jwkCrv, k.pub.take 48)
  else if k.alg = .blsG1G2 ∧ algParam = some .blsG2 then (Alg.blsG2.jwkCrv, k.pub.drop 48)
  else (k.alg.jwkCrv, k.pub)

/-- a JWK member as the encoder writes it: name and (string) value -/
abbrev Member := String × Bytes

/-- `ToJwk::encode_jwk` per algorithm: the members in the order written -/
def encodeJwk (k : Key) (mode : Mode) (algParam : Option Alg) : Res (List Member) :=
  if k.alg.isSymmetric then
    if mode = .publicKey then .err .unsupported              -- "Cannot export as a public key"
    else
      .ok ((if mode = .thumbprint then [] else [("alg", sb k.alg.jwkAlg)])
        ++ [("k", b64encode (k.secret.getD [])), ("kty", sb "oct")])
  else
    let dpart : List Member :=
      if mode = .secretKey then (match k.secret with | some s => [("d", b64encode s)] | none => []) else []
    if k.alg.isEc then
      let n := k.alg.secretLen
      .ok ([("crv", sb k.alg.jwkCrv), ("kty", sb "EC"), ("x", b64encode (k.pub.take n)), ("y", b64encode (k.pub.drop n))] ++ dpart)
    else if k.alg.isBls then
      let v := blsView k algParam
      .ok ([("crv", sb v.1), ("kty", sb "OKP"), ("x", b64encode v.2)] ++ dpart)
    else
      .ok ([("crv", sb k.alg.jwkCrv), ("kty", sb "OKP"), ("x", b64encode k.pub)] ++ dpart)

/-- `JwkBufferEncoder`: `{"name":"value",…}`, nothing when no member was written -/
def renderMembers : List Member → Bytes
  | [] => []
  | ms => sb "{" ++ (List.intercalate (sb ",") (ms.map fun m => sb "\"" ++ sb m.1 ++ sb "\":\"" ++ m.2 ++ sb "\"")) ++ sb "}"

def toJwk (k : Key) (mode : Mode) (algParam : Option Alg) : Res Bytes :=
  match encodeJwk k mode algParam with
  | .ok ms => .ok (renderMembers ms)
  | .err e => .err e
  | .panic s => .panic s

/-- `check_public_bytes` -/
def checkPublic (k : Key) (pk : Bytes) : Res Key :=
  if k.pub = pk then .ok k else .err .invalidKeyData

/-- `FromJwk::from_jwk_parts` for the type that `from_jwk_any` selected -/
def fromJwkParts (cfg : Cfg) (P : Prims) (alg : Alg) (j : Parts) : Res Key :=
  if alg.isEc then
    if j.kty ≠ sb "EC" then .err .invalidKeyData
    else if j.crv ≠ some (sb alg.jwkCrv) then .err .invalidKeyData
    else do
      let n := alg.secretLen
      let x ← decodeExact j.x n
      let y ← decodeExact j.y n
      match P.fromAffine alg x y with
      | none => .err .invalidKeyData
      | some pk =>
        if j.d.isSome then do
          let d ← decodeExact j.d n
          let kp ← fromSecretBytes cfg P alg d
          if kp.pub ≠ pk then .err .invalidKeyData else .ok kp
        else .ok { alg := alg, secret := none, pub := pk }
  else if alg.isBls then
    if j.kty ≠ sb "OKP" ∧ j.kty ≠ sb "EC" then .err .invalidKeyData
    else if j.crv ≠ some (sb alg.jwkCrv) then .err .invalidKeyData
    else do
      let x ← decodeExact j.x alg.pubLen
      if j.d.isSome then do
        let d ← decodeExact j.d 32
        let kp ← fromSecretBytes cfg P alg d
        checkPublic kp x
      else fromPublicBytes P alg x
  else if alg = .ed25519 ∨ alg = .x25519 then
    if j.kty ≠ sb "OKP" then .err .invalidKeyData
    else if j.crv ≠ some (sb alg.jwkCrv) then .err .invalidKeyData
    else do
      let x ← decodeExact j.x 32
      if j.d.isSome then do
        let d ← decodeExact j.d 32
        let kp ← fromSecretBytes cfg P alg d
        checkPublic kp x
      else fromPublicBytes P alg x
  else .err .unsupported

/-- the `(kty, crv)` dispatch of `from_jwk_any` (there is no `oct` branch: D15) -/
def selectAlg (j : Parts) : Option Alg :=
  let crv := j.crv.getD []
  let okp := j.kty = sb "OKP"
  let ec := j.kty = sb "EC"
  if okp ∧ crv = sb "Ed25519" then some .ed25519
  else if okp ∧ crv = sb "X25519" then some .x25519
  else if (okp ∨ ec) ∧ crv = sb "BLS12381_G1" then some .blsG1
  else if (okp ∨ ec) ∧ crv = sb "BLS12381_G2" then some .blsG2
  else if (okp ∨ ec) ∧ crv = sb "BLS12381_G1G2" then some .blsG1G2
  else if ec ∧ crv = sb "secp256k1" then some .k256
  else if ec ∧ crv = sb "P-256" then some .p256
  else if ec ∧ crv = sb "P-384" then some .p384
  else none

def fromJwkAny (cfg : Cfg) (P : Prims) (j : Parts) : Res Key :=
  match selectAlg j with
  | some alg => fromJwkParts cfg P alg j
  | none => .err .unsupported                                -- "Unsupported JWK for key import"

/-- `FromJwk::from_jwk(&str)` -/
def fromJwk (cfg : Cfg) (P : Prims) (text : Bytes) : Res Key :=
  match parseJwk cfg text with
  | some j => fromJwkAny cfg P j
  | none => .err .invalid                                    -- "Error parsing JWK"

/-- import through the token-level visitor (used by the theorems) -/
def fromMembers (cfg : Cfg) (P : Prims) (ms : List (Bytes × JVal)) : Res Key :=
  match visit cfg ms with
  | some j => fromJwkAny cfg P j
  | none => .err .invalid

/-- RFC 7638: the required members per key type, in lexicographic order -/
def rfc7638Members (kty : String) : List String :=
  if kty = "EC" then ["crv", "kty", "x", "y"]
  else if kty = "OKP" then ["crv", "kty", "x"]        -- RFC 8037 §2
  else if kty = "oct" then ["k", "kty"]
  else []

/-! ## `JwkBufferEncoder` with `key_ops` / `kid` (jwk/encode.rs `finalize`, jwk/ops.rs)

`finalize` appends `"key_ops":` + the elements + `]` and then `"kid":"…"` (through `add_str`: the raw bytes, nothing is
escaped) to the members `encode_jwk` wrote, and closes the object when anything was written.  In the defective variant (D38) the
opening `[` of the `key_ops` array is never written; `bracket` is that one byte (false = not written, true = written). -/

/-- does `finalize` write the opening `[` of `key_ops`?  What the source in /repo does (generated by tools/extract.py:
    true iff `finalize` in askar-crypto/src/jwk/encode.rs contains `buffer_write(b"[")` or `b"[\""`). -/
def keyOpsBracketCurrent : Bool := Askar.Generated.Flags.jwkKeyOpsOpenBracket

/-- `OPS` with `KeyOps::as_str`: bit and name, in the order `KeyOpsIter` yields them -/
def opTable : List (Nat × String) :=
  [(1, "encrypt"), (2, "decrypt"), (4, "sign"), (8, "verify"), (16, "wrapKey"), (32, "unwrapKey"), (64, "deriveKey"),
   (128, "deriveBits")]

/-- `(&KeyOpsSet).into_iter()` as names -/
def opsNames (ops : Nat) : List Bytes := (opTable.filter fun p => ops &&& p.1 ≠ 0).map fun p => sb p.2

/-- `"s"` -/
def quoted (s : Bytes) : Bytes := 34 :: (s ++ [34])

/-- the elements after the first: `,"name"` each -/
def opsTail : List Bytes → Bytes
  | [] => []
  | n :: ns => 44 :: (quoted n ++ opsTail ns)

/-- the elements as `finalize` writes them: `"a"` then `,"b"` … -/
def opsElems : List Bytes → Bytes
  | [] => []
  | n :: ns => quoted n ++ opsTail ns

/-- the value text written for `key_ops`: (`[` in the repaired variant only,) the elements, `]` -/
def opsText (bracket : Bool) (ops : Nat) : Bytes :=
  (if bracket then [91] else []) ++ (opsElems (opsNames ops) ++ [93])

/-- one attribute as written: `"name":` + value text -/
def attrText (name : Bytes) (value : Bytes) : Bytes := quoted name ++ 58 :: value

/-- the attributes in the order written: the members of `encode_jwk`, then `key_ops`, then `kid` -/
def attrTexts (bracket : Bool) (ms : List Member) (ops : Option Nat) (kid : Option Bytes) : List Bytes :=
  ms.map (fun m => attrText (sb m.1) (quoted m.2))
    ++ (match ops with | some o => [attrText (sb "key_ops") (opsText bracket o)] | none => [])
    ++ (match kid with | some k => [attrText (sb "kid") (quoted k)] | none => [])

/-- attributes after the first: `,attr` each -/
def attrsTail : List Bytes → Bytes
  | [] => []
  | t :: ts => 44 :: (t ++ attrsTail ts)

/-- the whole buffer after `finalize`: nothing at all when no attribute was written (`empty` still true) -/
def renderAttrs : List Bytes → Bytes
  | [] => []
  | t :: ts => 123 :: (t ++ (attrsTail ts ++ [125]))

def renderJwk (bracket : Bool) (ms : List Member) (ops : Option Nat) (kid : Option Bytes) : Bytes :=
  renderAttrs (attrTexts bracket ms ops kid)

/-- `JwkBufferEncoder::new(buf, mode).alg(a).key_ops(ops).kid(kid)`, `key.encode_jwk(&mut enc)?`, `enc.finalize()?` -/
def toJwkWith (bracket : Bool) (k : Key) (mode : Mode) (algParam : Option Alg) (ops : Option Nat) (kid : Option Bytes) :
    Res Bytes :=
  match encodeJwk k mode algParam with
  | .ok ms => .ok (renderJwk bracket ms ops kid)
  | .err e => .err e
  | .panic s => .panic s

/-! ## keypair bytes (`KeypairBytes` of Ed25519 / X25519 / K-256 / P-256 / P-384) -/

/-- the types that implement `KeypairBytes` -/
def Alg.hasKeypairBytes : Alg → Bool
  | .ed25519 | .x25519 | .k256 | .p256 | .p384 => true
  | _ => false

/-- length of `to_public_bytes`: the compressed SEC1 form for the Weierstrass curves -/
def Alg.pubBytesLen (a : Alg) : Nat := if a.isEc then a.secretLen + 1 else a.pubLen

/-- `KeypairBytes::from_keypair_bytes`: length check, `from_secret_bytes(&kp[..n])` (EC: every error mapped to InvalidKeyData),
    `check_public_bytes(&kp[n..])` = comparison with `to_public_bytes` of the derived key.  Both slices are in bounds after the
    length check.  `Unsupported` stands for "the type has no such impl" (a compile-time fact in Rust). -/
def fromKeypairBytes (cfg : Cfg) (P : Prims) (alg : Alg) (b : Bytes) : Res Key :=
  if alg.hasKeypairBytes = false then .err .unsupported
  else if b.length ≠ alg.secretLen + alg.pubBytesLen then .err .invalidKeyData
  else match fromSecretBytes cfg P alg (b.take alg.secretLen) with
    | .ok k =>
      (match toPublicBytes k with
       | .ok pb => if pb = b.drop alg.secretLen then .ok k else .err .invalidKeyData
       | .err e => .err e
       | .panic s => .panic s)
    | .err e => if alg.isEc then .err .invalidKeyData else .err e
    | .panic s => .panic s

/-- `KeypairBytes::to_keypair_bytes`: secret ‖ public, MissingSecretKey for a public-only key -/
def toKeypairBytes (k : Key) : Res Bytes :=
  if k.alg.hasKeypairBytes = false then .err .unsupported
  else match k.secret with
    | none => .err .missingSecretKey
    | some s =>
      match toPublicBytes k with
      | .ok pb => .ok (s ++ pb)
      | .err e => .err e
      | .panic s => .panic s

/-! ## key conversion (`convert_key_any`, `Ed25519KeyPair::to_x25519_keypair`, `From<&BlsKeyPair<G1G2>>`) -/

/-- third-party operations of the Ed25519 → X25519 conversion -/
structure ConvPrims where
  /-- `sha2::Sha512::digest` (64 bytes) -/
  sha512 : Bytes → Bytes
  /-- `CompressedEdwardsY(b).decompress()` followed by `.to_montgomery().to_bytes()`; `none` = `decompress` fails -/
  edToMontgomery : Bytes → Option Bytes

/-- `curve25519_dalek::scalar::clamp_integer` on 32 bytes: `b[0] &= 248; b[31] &= 127; b[31] |= 64` -/
def clampBytes (h : Bytes) : Bytes :=
  h.mapIdx fun i x => if i = 0 then x &&& 248 else if i = 31 then (x &&& 127) ||| 64 else x

/-- `Ed25519KeyPair::to_x25519_keypair`: with a secret, the clamped first half of SHA-512(secret) and its X25519 public key;
    without, `decompress().unwrap()` of the stored public bytes — a panic when they do not decompress -/
def toX25519 (P : Prims) (C : ConvPrims) (k : Key) : Res Key :=
  match k.secret with
  | some s =>
    let xs := clampBytes ((C.sha512 s).take 32)
    .ok { alg := .x25519, secret := some xs, pub := (P.pubOf .x25519 xs).getD [] }
  | none =>
    match C.edToMontgomery k.pub with
    | some u => .ok { alg := .x25519, secret := none, pub := u }
    | none => .panic "CompressedEdwardsY::decompress().unwrap() (to_x25519_keypair)"

/-- `convert_key_any` -/
def convertKey (P : Prims) (C : ConvPrims) (k : Key) (to : Alg) : Res Key :=
  if k.alg = .blsG1G2 ∧ to = .blsG1 then .ok { alg := .blsG1, secret := k.secret, pub := k.pub.take 48 }
  else if k.alg = .blsG1G2 ∧ to = .blsG2 then .ok { alg := .blsG2, secret := k.secret, pub := k.pub.drop 48 }
  else if k.alg = .ed25519 ∧ to = .x25519 then toX25519 P C k
  else .err .unsupported                                     -- "Unsupported key conversion operation"

/-! ## the concrete key types' own `from_jwk`, and the length accessors -/

/-- `<K as FromJwk>::from_jwk(text)` of a CONCRETE key type `K` (the 8 asymmetric types implement it; for the symmetric algorithms
    `fromJwkParts` answers `Unsupported`, which stands for "no such impl"): `JwkParts::try_from_str`, then `K::from_jwk_parts` —
    no `(kty, crv)` dispatch in front, so the type's own "Unsupported key type / algorithm" arms decide -/
def fromJwkTyped (cfg : Cfg) (P : Prims) (alg : Alg) (text : Bytes) : Res Key :=
  match parseJwk cfg text with
  | some j => fromJwkParts cfg P alg j
  | none => .err .invalid

/-- what a concrete type accepts as `kty` -/
def Alg.ktyOk (alg : Alg) (kty : Bytes) : Bool :=
  if alg.isEc then kty = sb "EC" else if alg.isBls then (kty = sb "OKP" || kty = sb "EC") else kty = sb "OKP"

/-- `ToPublicBytes::public_bytes_length` (`PublicKeySize::USIZE`; `key_to_public` refuses symmetric keys) -/
def publicBytesLen (k : Key) : Res Nat :=
  if k.alg.isSymmetric then .err .unsupported else .ok k.alg.pubBytesLen

/-- `ToSecretBytes::secret_bytes_length` (`KeySize::USIZE`, whether or not the key holds a secret) -/
def secretBytesLen (k : Key) : Res Nat := .ok k.alg.secretLen

end Askar.Jwk
