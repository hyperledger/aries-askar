/- Lemmas about the store model: scan paging and windows, the order of ids, what a successful write has done to the
   table, and `Effect`: everything one call can do to the table, from which the order of ids, the frame of the other
   profiles and the unique index follow. -/
import AskarModel.Model.Store
import AskarModel.Lemmas.Run
import AskarModel.Lemmas.List
namespace Askar.Store

theorem batches_flatten {α} (p : Nat) (rows : List α) : (batches p rows).flatten = rows := by
  fun_induction batches p rows with
  | case1 => simp
  | case2 rows hp hle he => simpa using he.symm
  | case3 rows hp hle he => simp
  | case4 rows hp hgt ih => simp [ih]

theorem batches_sizes {α} (p : Nat) (hp : 0 < p) (rows : List α) :
    ∀ b ∈ batches p rows, 0 < b.length ∧ b.length ≤ p := by
  fun_induction batches p rows with
  | case1 => omega
  | case2 rows hp' hle he => simp
  | case3 rows hp' hle he =>
    intro b hb
    simp at hb; subst hb
    refine ⟨?_, hle⟩
    cases b with
    | nil => simp at he
    | cons => simp
  | case4 rows hp' hgt ih =>
    intro b hb
    simp at hb
    rcases hb with rfl | hb
    · simp; omega
    · exact ih b hb

theorem batches_full {α} (p : Nat) (rows : List α) :
    ∀ pre b post, batches p rows = pre ++ b :: post → post ≠ [] → b.length = p := by
  fun_induction batches p rows with
  | case1 => intro pre b post h; cases pre <;> simp at h; simp [h.2]
  | case2 rows hp' hle he => intro pre b post h; simp at h
  | case3 rows hp' hle he => intro pre b post h; cases pre <;> simp at h; simp [h.2]
  | case4 rows hp' hgt ih =>
    intro pre b post h hne
    cases pre with
    | nil => simp at h; rw [← h.1]; simp; omega
    | cons x pre => simp at h; exact ih pre b post h.2 hne

theorem drainScan_of_full {α} (p : Nat) (bs : List (List α))
    (h : ∀ pre b post, bs = pre ++ b :: post → post ≠ [] → b.length = p) : drainScan p bs = bs := by
  induction bs with
  | nil => simp [drainScan]
  | cons b bs ih =>
    simp only [drainScan]
    by_cases hb : bs = []
    · subst hb; split <;> simp [drainScan]
    · have := h [] b bs rfl hb
      simp [this]
      exact ih (fun pre b' post hh hne => h (b :: pre) b' post (by simp [hh]) hne)

theorem drain_batches {α} (p : Nat) (rows : List α) : drainScan p (batches p rows) = batches p rows :=
  drainScan_of_full p _ (batches_full p rows)

theorem batches_length {α} (p : Nat) (hp : 0 < p) (rows : List α) :
    (batches p rows).length = (rows.length + p - 1) / p := by
  fun_induction batches p rows with
  | case1 => exact absurd hp (by simp [*])
  | case2 rows hp' hle he =>
    have : rows.length = 0 := by simpa using he
    rw [this, Nat.zero_add, List.length_nil, Nat.div_eq_of_lt (Nat.sub_lt hp Nat.one_pos)]
  | case3 rows hp' hle he =>
    obtain ⟨k, hk⟩ : ∃ k, rows.length = k + 1 := by cases rows <;> simp at he ⊢
    rw [hk, Nat.add_right_comm, Nat.add_sub_cancel, Nat.add_div_right _ hp,
      Nat.div_eq_of_lt (by rw [hk] at hle; exact hle)]
    rfl
  | case4 rows hp' hgt ih =>
    obtain ⟨m, hm⟩ : ∃ m, rows.length = m + p := ⟨rows.length - p, (Nat.sub_add_cancel (Nat.le_of_not_le hgt)).symm⟩
    rw [List.length_cons, ih, List.length_drop, hm, Nat.add_sub_cancel,
      Nat.sub_add_comm (Nat.le_trans hp (Nat.le_add_left p m)), Nat.add_div_right _ hp]

theorem consecutive_flatten {α} (rows : List α) (ws : List Nat) (off : Nat) :
    (consecutive rows off ws).flatten = rows.drop off := by
  induction ws generalizing off with
  | nil => simp [consecutive, window]
  | cons w ws ih =>
    simp only [consecutive, List.flatten_cons, ih]
    simp only [window, Option.getD_some, Int.toNat_natCast]
    have : ¬ ((w : Int) < 0) := by omega
    simp only [this, if_false]
    rw [← List.drop_drop]
    exact List.take_append_drop w (rows.drop off)

theorem le_foldl_max (l : List Nat) (a : Nat) : a ≤ l.foldl max a ∧ ∀ x ∈ l, x ≤ l.foldl max a := by
  induction l generalizing a with
  | nil => simp
  | cons y l ih =>
    simp only [List.foldl_cons]
    have h := ih (max a y)
    refine ⟨by omega, ?_⟩
    intro x hx
    simp at hx
    rcases hx with rfl | hx
    · omega
    · exact h.2 x hx

theorem lt_nextId (ids : List Nat) : ∀ x ∈ ids, x < nextId ids := by
  intro x hx
  have := (le_foldl_max ids 0).2 x hx
  unfold nextId; omega

theorem insertById_of_le (x : Item) (l : List Item) (h : ∀ y ∈ l, x.id ≤ y.id) : insertById x l = x :: l := by
  cases l with
  | nil => rfl
  | cons y ys => simp [insertById, h y (by simp)]

theorem sortById_of_sorted (l : List Item) (h : (l.map (·.id)).Pairwise (· < ·)) : sortById l = l := by
  induction l with
  | nil => rfl
  | cons x l ih =>
    simp only [List.map_cons, List.pairwise_cons] at h
    have : sortById (x :: l) = insertById x (sortById l) := rfl
    rw [this, ih h.2]
    apply insertById_of_le
    intro y hy
    exact Nat.le_of_lt (h.1 y.id (List.mem_map_of_mem hy))

theorem sorted_filter (l : List Item) (p : Item → Bool) (h : (l.map (·.id)).Pairwise (· < ·)) :
    ((l.filter p).map (·.id)).Pairwise (· < ·) := by
  rw [List.pairwise_map] at *
  exact h.sublist List.filter_sublist

theorem sortById_filter {db : Db} (h : Sorted db) (p : Item → Bool) : sortById (db.items.filter p) = db.items.filter p :=
  sortById_of_sorted _ (sorted_filter _ p h)

theorem mem_insertById {x y : Item} {l : List Item} : y ∈ insertById x l ↔ y = x ∨ y ∈ l := by
  induction l with
  | nil => simp [insertById]
  | cons z zs ih =>
    simp only [insertById]
    split
    · simp
    · simp only [List.mem_cons, ih]
      exact or_left_comm

theorem mem_sortById {y : Item} {l : List Item} : y ∈ sortById l ↔ y ∈ l := by
  induction l with
  | nil => simp [sortById]
  | cons x xs ih =>
    have : sortById (x :: xs) = insertById x (sortById xs) := rfl
    rw [this, mem_insertById, ih]; simp

namespace Lemmas

/-! ### generic list facts -/

theorem filter_map_of_fix {α} (p : α → Bool) (f : α → α) (l : List α)
    (h1 : ∀ x, p (f x) = p x) (h2 : ∀ x, p x = true → f x = x) : (l.map f).filter p = l.filter p := by
  induction l with
  | nil => rfl
  | cons x l ih =>
    simp only [List.map_cons, List.filter_cons, h1, ih]
    split
    · rename_i hx; rw [h2 x hx]
    · rfl

theorem take_split {α} (l : List α) (m n : Nat) (h : m ≤ n) : l.take n = l.take m ++ (l.take n).drop m := by
  have h1 : (l.take n).take m = l.take m := by
    rw [List.take_take, Nat.min_eq_left h]
  rw [← h1]; exact (List.take_append_drop m (l.take n)).symm

theorem window_map {α β} (f : α → β) (off lim : Option Int) (l : List α) :
    window off lim (l.map f) = (window off lim l).map f := by
  unfold window
  split
  · rfl
  · simp only []
    split
    · simp [List.map_drop]
    · simp [List.map_drop, List.map_take]

theorem mem_of_mem_window {α} (off lim : Option Int) (l : List α) (x : α) (h : x ∈ window off lim l) : x ∈ l := by
  unfold window at h
  split at h
  · exact h
  · simp only [] at h
    split at h
    · exact List.mem_of_mem_drop h
    · exact List.mem_of_mem_drop (List.mem_of_mem_take h)

theorem mem_selectRows {like : Bytes → Bytes → Bool} {db : Db} {now : Int} {pid key : Nat} {kind : Option Kind}
    {cat : Option String} {f : Option (Wql.Query String)} {off lim : Option Int} {desc : Bool} {it : Item}
    (h : it ∈ selectRows like db now pid key kind cat f off lim desc) :
    it ∈ db.items ∧ (it.inScope pid key kind cat && live now it && matchFilter like f it) = true := by
  have h1 := mem_of_mem_window _ _ _ _ h
  have h2 : it ∈ sortById (db.items.filter fun it => it.inScope pid key kind cat && live now it && matchFilter like f it) := by
    cases desc
    · simpa using h1
    · simpa using h1
  exact List.mem_filter.1 (mem_sortById.1 h2)

theorem sameIdent_iff (it : Item) (pid key : Nat) (k : Kind) (c n : String) :
    it.sameIdent pid key k c n = true ↔ it.pid = pid ∧ it.key = key ∧ it.kind = k ∧ it.cat = c ∧ it.name = n := by
  simp [Item.sameIdent, and_assoc]

theorem live_of_none (now : Int) (it : Item) (h : it.expiry = none) : live now it = true := by
  simp [live, h]

/-! ### the expiry computation in front of `doInsert`, `doReplace` and their statement-level versions

`doInsert` / `doReplace` (Model/Store) and `insertF` / `replaceF` (Model/Fault) start with the same expiry computation;
`withExpiry` names it, so that C06 compares only what follows it (`insertCore` against `insertCoreF`, `replaceCore` against
`replaceCoreF`). -/

def withExpiry {α} (now : Int) (e : Option Int) (body : Option Int → Except Err α) : Except Err α :=
  match (match e with | none => Except.ok none | some ms => (expiryTimestamp now ms).map some) with
  | .error er => .error er
  | .ok exp => body exp

theorem withExpiry_cases {α} (now : Int) (e : Option Int) :
    (∀ body : Option Int → Except Err α, withExpiry now e body = .error .unexpected) ∨
    (∀ body : Option Int → Except Err α, withExpiry now e body = body (e.map (now + ·))) := by
  cases e with
  | none => right; intro body; rfl
  | some ms =>
    by_cases h : (now + ms > chronoMaxMs || now + ms < chronoMinMs) = true
    · left; intro body; simp [withExpiry, expiryTimestamp, h, Except.map]
    · right; intro body; simp [withExpiry, expiryTimestamp, h, Except.map]

theorem withExpiry_ok {α} {now : Int} {e : Option Int} {body : Option Int → Except Err α} {x : α}
    (h : withExpiry now e body = .ok x) : body (e.map (now + ·)) = .ok x := by
  rcases withExpiry_cases (α := α) now e with h' | h' <;> rw [h'] at h
  · cases h
  · exact h

def insertCore (db : Db) (s : Sess) (k : Kind) (c n : String) (v : Bytes)
    (t : Option (List Wql.Tag)) (exp : Option Int) : Except Err Db :=
  if db.items.any (·.sameIdent s.pid s.key k c n) then .error .duplicate
  else
    .ok { db with items := db.items ++ [{ id := nextId (db.items.map (·.id)), pid := s.pid, key := s.key, kind := k,
                                          cat := c, name := n, value := v, tags := t.getD [], expiry := exp }] }

def replaceCore (db : Db) (s : Sess) (k : Kind) (c n : String) (v : Bytes)
    (t : Option (List Wql.Tag)) (exp : Option Int) : Except Err Db :=
  if db.items.any (·.sameIdent s.pid s.key k c n) then
    .ok { db with items := db.items.map fun it =>
            if it.sameIdent s.pid s.key k c n then { it with value := v, tags := t.getD [], expiry := exp } else it }
  else .error .notFound

theorem doInsert_eq (db : Db) (now : Int) (s : Sess) (k : Kind) (c n : String) (v : Bytes)
    (t : Option (List Wql.Tag)) (e : Option Int) :
    doInsert db now s k c n v t e = withExpiry now e (insertCore db s k c n v t) := rfl

theorem doReplace_eq (db : Db) (now : Int) (s : Sess) (k : Kind) (c n : String) (v : Bytes)
    (t : Option (List Wql.Tag)) (e : Option Int) :
    doReplace db now s k c n v t e = withExpiry now e (replaceCore db s k c n v t) := rfl

theorem doInsert_none (db : Db) (now : Int) (s : Sess) (k : Kind) (c n : String) (v : Bytes) (t : Option (List Wql.Tag)) :
    doInsert db now s k c n v t none =
      if db.items.any (·.sameIdent s.pid s.key k c n) then .error .duplicate
      else .ok { db with items := db.items ++
        [({ id := nextId (db.items.map (·.id)), pid := s.pid, key := s.key, kind := k,
            cat := c, name := n, value := v, tags := t.getD [], expiry := none } : Item)] } := rfl

theorem doReplace_none (db : Db) (now : Int) (s : Sess) (k : Kind) (c n : String) (v : Bytes) (t : Option (List Wql.Tag)) :
    doReplace db now s k c n v t none =
      if db.items.any (·.sameIdent s.pid s.key k c n) then
        .ok { db with items := db.items.map fun it =>
              if it.sameIdent s.pid s.key k c n then { it with value := v, tags := t.getD [], expiry := none } else it }
      else .error .notFound := rfl

theorem doInsert_inv {db : Db} {now : Int} {s : Sess} {k : Kind} {c n : String} {v : Bytes} {t : Option (List Wql.Tag)}
    {e : Option Int} {db' : Db} (h : doInsert db now s k c n v t e = .ok db') :
    db.items.any (·.sameIdent s.pid s.key k c n) = false ∧
    db' = { db with items := db.items ++ [{ id := nextId (db.items.map (·.id)), pid := s.pid, key := s.key, kind := k,
                                            cat := c, name := n, value := v, tags := t.getD [],
                                            expiry := e.map (now + ·) }] } := by
  rw [doInsert_eq] at h
  have h := withExpiry_ok h
  unfold insertCore at h
  split at h
  · cases h
  · next hany => injection h with h; exact ⟨by simpa using hany, h.symm⟩

theorem doReplace_inv {db : Db} {now : Int} {s : Sess} {k : Kind} {c n : String} {v : Bytes} {t : Option (List Wql.Tag)}
    {e : Option Int} {db' : Db} (h : doReplace db now s k c n v t e = .ok db') :
    db' = { db with items := db.items.map fun it =>
      if it.sameIdent s.pid s.key k c n then { it with value := v, tags := t.getD [], expiry := e.map (now + ·) } else it } := by
  rw [doReplace_eq] at h
  have h := withExpiry_ok h
  unfold replaceCore at h
  split at h
  · injection h with h; exact h.symm
  · cases h

theorem doRemove_inv {db : Db} {s : Sess} {k : Kind} {c n : String} {db' : Db} (h : doRemove db s k c n = .ok db') :
    db' = { db with items := db.items.filter fun it => !it.sameIdent s.pid s.key k c n } := by
  unfold doRemove at h
  split at h
  · injection h with h; exact h.symm
  · cases h

end Lemmas

theorem doReplace_ok {db : Db} {now s k c n v t e db'} (h : doReplace db now s k c n v t e = .ok db') :
    db'.items.map (·.id) = db.items.map (·.id) ∧ db'.items.map (·.pid) = db.items.map (·.pid) ∧ db'.profiles = db.profiles := by
  rw [Lemmas.doReplace_inv h]
  refine ⟨?_, ?_, rfl⟩ <;>
  · simp only [List.map_map]; congr 1; funext it; simp only [Function.comp]; split <;> rfl

theorem doRemove_ok {db : Db} {s k c n db'} (h : doRemove db s k c n = .ok db') :
    db'.items = db.items.filter (fun it => !it.sameIdent s.pid s.key k c n) ∧ db'.profiles = db.profiles := by
  rw [Lemmas.doRemove_inv h]
  exact ⟨rfl, rfl⟩

/-! ### what a call does to the table -/

/-- What one call of session `s` can do to the table: nothing; append a row of its own whose identity is new;
    rewrite rows of its own without touching what identifies them; delete rows of its own.  What a call means for
    the order of ids, for the other profiles and for the unique index follows from this alone. -/
inductive Effect (s : Sess) (db : Db) : Db → Prop
  | none : Effect s db db
  | append (row : Item) (hid : row.id = nextId (db.items.map (·.id))) (hpid : row.pid = s.pid) (hkey : row.key = s.key)
      (hnew : db.items.any (·.sameIdent s.pid s.key row.kind row.cat row.name) = false) :
      Effect s db { db with items := db.items ++ [row] }
  | update (f : Item → Item)
      (hf : ∀ x, (f x).id = x.id ∧ (f x).pid = x.pid ∧ (f x).key = x.key ∧ (f x).kind = x.kind ∧ (f x).cat = x.cat ∧
        (f x).name = x.name)
      (hother : ∀ x, x.pid ≠ s.pid → f x = x) : Effect s db { db with items := db.items.map f }
  | delete (P : Item → Bool) (hP : ∀ it, P it = true → it.pid = s.pid) :
      Effect s db { db with items := db.items.filter fun it => !P it }

theorem step_effect (like) (page now s) (db : Db) (op : Op) : Effect s db (step like page now s db op).1 := by
  cases op with
  | insert k c n v t e =>
    simp only [step]
    split
    · next db' h =>
      obtain ⟨hnew, rfl⟩ := Lemmas.doInsert_inv h
      exact .append _ rfl rfl rfl hnew
    · exact .none
  | replace k c n v t e =>
    simp only [step]
    split
    · next db' h =>
      rw [Lemmas.doReplace_inv h]
      refine .update _ (fun x => by split <;> exact ⟨rfl, rfl, rfl, rfl, rfl, rfl⟩) fun x hx => if_neg fun h => ?_
      exact hx ((Lemmas.sameIdent_iff x _ _ _ _ _).1 h).1
    · exact .none
  | remove k c n =>
    simp only [step]
    split
    · next db' h =>
      rw [Lemmas.doRemove_inv h]
      exact .delete _ fun it h => ((Lemmas.sameIdent_iff it _ _ _ _ _).1 h).1
    · exact .none
  | removeAll k c f =>
    refine .delete (fun it => it.inScope s.pid s.key k c && matchFilter like f it) ?_
    intro it h
    simp only [Item.inScope, Bool.and_eq_true, beq_iff_eq] at h
    exact h.1.1.1
  | fetch => exact .none
  | fetchAll => simp only [step]; split <;> exact .none
  | count => exact .none
  | scan => simp only [step]; split <;> exact .none

theorem Effect.sorted {s : Sess} {db db' : Db} (h : Effect s db db') (hs : Sorted db) : Sorted db' := by
  unfold Sorted at *
  cases h with
  | none => exact hs
  | append row hid =>
    simp only [List.map_append, List.map_cons, List.map_nil, List.pairwise_append, hs, true_and]
    refine ⟨by simp, ?_⟩
    intro a ha b hb
    simp at hb; subst hb; rw [hid]
    exact lt_nextId _ a ha
  | update f hf =>
    have : db.items.map ((fun x => x.id) ∘ f) = db.items.map fun x => x.id := List.map_congr_left fun x _ => (hf x).1
    rw [List.map_map, this]
    exact hs
  | delete P hP => exact sorted_filter _ _ hs

theorem Effect.frame {s : Sess} {db db' : Db} (h : Effect s db db') :
    db'.items.filter (·.pid != s.pid) = db.items.filter (·.pid != s.pid) ∧ db'.profiles = db.profiles := by
  cases h with
  | none => exact ⟨rfl, rfl⟩
  | append row hid hpid => simp [List.filter_append, hpid]
  | update f hf hother =>
    refine ⟨Lemmas.filter_map_of_fix _ _ _ (fun x => by rw [(hf x).2.1]) fun x hx => hother x ?_, rfl⟩
    simpa using hx
  | delete P hP =>
    refine ⟨?_, rfl⟩
    rw [List.filter_filter]
    apply List.filter_congr
    intro it _
    cases hp : P it
    · simp
    · simp [hP it hp]

theorem Effect.unique {s : Sess} {db db' : Db} (h : Effect s db db')
    (hu : db.items.Pairwise fun a b => ¬(a.pid = b.pid ∧ a.key = b.key ∧ a.kind = b.kind ∧ a.cat = b.cat ∧ a.name = b.name)) :
    db'.items.Pairwise fun a b => ¬(a.pid = b.pid ∧ a.key = b.key ∧ a.kind = b.kind ∧ a.cat = b.cat ∧ a.name = b.name) := by
  cases h with
  | none => exact hu
  | append row hid hpid hkey hnew =>
    simp only [List.pairwise_append, hu, true_and]
    refine ⟨by simp, ?_⟩
    intro a ha b hb
    rw [List.mem_singleton.1 hb, hpid, hkey]
    exact fun hh => List.any_eq_false.1 hnew a ha ((Lemmas.sameIdent_iff _ _ _ _ _ _).2 hh)
  | update f hf =>
    rw [List.pairwise_map]
    refine hu.imp fun {a b} hab => ?_
    obtain ⟨_, a1, a2, a3, a4, a5⟩ := hf a
    obtain ⟨_, b1, b2, b3, b4, b5⟩ := hf b
    rw [a1, a2, a3, a4, a5, b1, b2, b3, b4, b5]
    exact hab
  | delete P hP => exact hu.sublist List.filter_sublist

theorem step_sorted (like) (page now s) (db : Db) (op : Op) (h : Sorted db) : Sorted (step like page now s db op).1 :=
  (step_effect like page now s db op).sorted h

theorem run_eq (like) (page now s) : ∀ (db : Db) (ops : List Op),
    run like page now s db ops = Run.run (step like page now s) db ops
  | _, [] => rfl
  | db, op :: ops => by simp only [run, Run.run, run_eq like page now s _ ops]

theorem run_sorted (like) (page now s) (ops : List Op) (db : Db) (h : Sorted db) : Sorted (run like page now s db ops).1 := by
  rw [run_eq]
  exact Run.run_inv Sorted (step_sorted like page now s) h ops

theorem run_append (like : Bytes → Bytes → Bool) (page : Nat) (now : Int) (s : Sess) (db : Db) (a b : List Op) :
    (run like page now s db (a ++ b)).1 = (run like page now s (run like page now s db a).1 b).1 := by
  simp only [run_eq]; exact Run.run_append_fst _ db a b

end Askar.Store
