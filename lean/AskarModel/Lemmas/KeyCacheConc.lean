/- Lemmas for the key-cache interleaving model (C10 / D35).  Core Lean only. -/
import AskarModel.Model.KeyCacheConc
import AskarModel.Generated.Flags
import AskarModel.Lemmas.Run

namespace Askar.KeyCacheConc

/-- whether `/repo` has the repair (read from the source by tools/extract.py): `add_profile_unless_removed`
    in both inserting paths and the counter bump in `KeyCache::remove_profile`.
    `keycache_current` and `keycache_status` (Props/C10) are stated with it; the lemmas below fix the guard to `true` or take it as a parameter. -/
def currentGuard : Bool := Askar.Generated.Flags.keyCacheRemovalGuard

theorem mem_eraseName {l : List Row} {p : Name} {e : Row} : e ∈ eraseName l p ↔ e ∈ l ∧ e.1 ≠ p := by
  simp [eraseName, List.mem_filter]

theorem mem_insertRow {l : List Row} {p : Name} {v : Pid × KeyId} {e : Row} :
    e ∈ insertRow l p v ↔ e = (p, v) ∨ (e ∈ l ∧ e.1 ≠ p) := by
  simp [insertRow, mem_eraseName]

theorem lookupRow_eq_find? (l : List Row) (p : Name) : lookupRow l p = (l.find? (·.1 == p)).map (·.2) := by
  induction l with
  | nil => rfl
  | cons a l ih =>
    obtain ⟨q, v⟩ := a
    by_cases hq : q = p <;> simp [lookupRow, hq, ih]

theorem lookupRow_mem {l : List Row} {p : Name} {v : Pid × KeyId} (h : lookupRow l p = some v) : (p, v) ∈ l := by
  rw [lookupRow_eq_find?, Option.map_eq_some_iff] at h
  obtain ⟨⟨q, w⟩, hf, rfl⟩ := h
  have hq : q = p := by simpa using List.find?_some hf
  exact hq ▸ List.mem_of_find?_eq_some hf

theorem lookupRow_none {l : List Row} {p : Name} (h : lookupRow l p = none) (v : Pid × KeyId) : (p, v) ∉ l := by
  rw [lookupRow_eq_find?, Option.map_eq_none_iff] at h
  intro hm
  simpa using List.find?_eq_none.mp h _ hm

theorem lookupRow_none_names {l : List Row} {p : Name} (h : lookupRow l p = none) : p ∉ l.map (·.1) := by
  intro hm
  obtain ⟨e, he, rfl⟩ := List.mem_map.1 hm
  exact lookupRow_none h e.2 he

theorem nodup_functional {l : List Row} (hn : (l.map (·.1)).Nodup) {p : Name} {v w : Pid × KeyId}
    (hv : (p, v) ∈ l) (hw : (p, w) ∈ l) : v = w := by
  have hp : l.Pairwise (fun a b => a.1 ≠ b.1) := List.pairwise_map.mp hn
  exact (Prod.mk.inj (List.Pairwise.forall_of_forall_of_flip (R := fun a b : Row => a.1 = b.1 → a = b) (fun _ _ _ => rfl)
    (hp.imp fun h e => absurd e h) (hp.imp fun h e => absurd e.symm h) hv hw rfl)).2

theorem lookupRow_of_mem {l : List Row} (hn : (l.map (·.1)).Nodup) {p : Name} {v : Pid × KeyId}
    (hv : (p, v) ∈ l) : lookupRow l p = some v := by
  cases hw : lookupRow l p with
  | none => exact absurd hv (lookupRow_none hw v)
  | some w => rw [nodup_functional hn (lookupRow_mem hw) hv]

theorem nodup_eraseName {l : List Row} (hn : (l.map (·.1)).Nodup) (p : Name) :
    ((eraseName l p).map (·.1)).Nodup :=
  List.Nodup.sublist (List.Sublist.map _ List.filter_sublist) hn

theorem lookupRow_eraseName_self (l : List Row) (p : Name) : lookupRow (eraseName l p) p = none := by
  cases h : lookupRow (eraseName l p) p with
  | none => rfl
  | some v => exact absurd rfl (mem_eraseName.1 (lookupRow_mem h)).2

theorem lookupRow_eraseName_ne (l : List Row) {p q : Name} (h : q ≠ p) :
    lookupRow (eraseName l p) q = lookupRow l q := by
  rw [lookupRow_eq_find?, lookupRow_eq_find?, eraseName, List.find?_filter]
  congr 2
  funext e
  by_cases he : e.1 = q <;> simp [he, h]

theorem lookupRow_insertRow_self (l : List Row) (p : Name) (v : Pid × KeyId) :
    lookupRow (insertRow l p v) p = some v := by
  simp [insertRow, lookupRow]

theorem lookupRow_insertRow_ne (l : List Row) {p q : Name} (v : Pid × KeyId) (h : q ≠ p) :
    lookupRow (insertRow l p v) q = lookupRow l q := by
  have : p ≠ q := fun e => h e.symm
  simp [insertRow, lookupRow, this, lookupRow_eraseName_ne l h]

/-! ### the in-flight table -/

theorem getPend_eq_find? (l : List (Tid × Pending)) (t : Tid) : getPend l t = (l.find? (·.1 == t)).map (·.2) := by
  induction l with
  | nil => rfl
  | cons a l ih =>
    obtain ⟨u, x⟩ := a
    by_cases hu : u = t <;> simp [getPend, hu, ih]

theorem getPend_mem {l : List (Tid × Pending)} {t : Tid} {ph : Pending} (h : getPend l t = some ph) : (t, ph) ∈ l := by
  rw [getPend_eq_find?, Option.map_eq_some_iff] at h
  obtain ⟨⟨u, x⟩, hf, rfl⟩ := h
  have hu : u = t := by simpa using List.find?_some hf
  exact hu ▸ List.mem_of_find?_eq_some hf

theorem getPend_none {l : List (Tid × Pending)} {t : Tid} (h : getPend l t = none) (ph : Pending) : (t, ph) ∉ l := by
  rw [getPend_eq_find?, Option.map_eq_none_iff] at h
  intro hm
  simpa using List.find?_eq_none.mp h _ hm

theorem mem_erasePend {l : List (Tid × Pending)} {t u : Tid} {x : Pending} :
    (u, x) ∈ erasePend l t ↔ (u, x) ∈ l ∧ u ≠ t := by
  simp [erasePend, List.mem_filter]

theorem mem_setPend {l : List (Tid × Pending)} {t u : Tid} {ph x : Pending} :
    (u, x) ∈ setPend l t ph ↔ (u = t ∧ x = ph) ∨ ((u, x) ∈ l ∧ u ≠ t) := by
  simp [setPend, mem_erasePend]

theorem getPend_erasePend_ne (l : List (Tid × Pending)) {t u : Tid} (h : u ≠ t) :
    getPend (erasePend l t) u = getPend l u := by
  rw [getPend_eq_find?, getPend_eq_find?, erasePend, List.find?_filter]
  congr 2
  funext e
  by_cases he : e.1 = u <;> simp [he, h]

theorem getPend_erasePend_self (l : List (Tid × Pending)) (t : Tid) : getPend (erasePend l t) t = none := by
  cases h : getPend (erasePend l t) t with
  | none => rfl
  | some v => exact absurd rfl (mem_erasePend.1 (getPend_mem h)).2

theorem getPend_setPend_self (l : List (Tid × Pending)) (t : Tid) (ph : Pending) :
    getPend (setPend l t ph) t = some ph := by
  simp [setPend, getPend]

theorem getPend_setPend_ne (l : List (Tid × Pending)) {t u : Tid} (ph : Pending) (h : u ≠ t) :
    getPend (setPend l t ph) u = getPend l u := by
  have : t ≠ u := fun e => h e.symm
  simp [setPend, getPend, this, getPend_erasePend_ne l h]

/-- the table is a partial function of the thread id -/
def PendFun (l : List (Tid × Pending)) : Prop := ∀ t ph, (t, ph) ∈ l → getPend l t = some ph

theorem PendFun.erase {l : List (Tid × Pending)} (h : PendFun l) (t : Tid) : PendFun (erasePend l t) := by
  intro u x hm
  obtain ⟨hm, hu⟩ := mem_erasePend.1 hm
  rw [getPend_erasePend_ne l hu]; exact h u x hm

theorem PendFun.set {l : List (Tid × Pending)} (h : PendFun l) (t : Tid) (ph : Pending) : PendFun (setPend l t ph) := by
  intro u x hm
  rcases mem_setPend.1 hm with ⟨rfl, rfl⟩ | ⟨hm, hu⟩
  · exact getPend_setPend_self l u x
  · rw [getPend_setPend_ne l ph hu]; exact h u x hm

/-- a thread whose call in flight carries a counter value (or that has none in flight) is not removing.
    Called with `rfl` for `ho`: `none` passes, and every phase but `removeDeleted` has a `gen`. -/
theorem not_removing {l : List (Tid × Pending)} {t : Tid} {o : Option Pending} (hp : getPend l t = o)
    (ho : o.all (·.gen.isSome) = true) : ∀ q f, getPend l t ≠ some (.removeDeleted q f) := by
  intro q f e
  rw [hp] at e
  subst e
  cases ho

theorem RemPending.set {l : List (Tid × Pending)} (hf : PendFun l) {t : Tid} {ph : Pending} {p : Name}
    (ht : ∀ f, getPend l t ≠ some (.removeDeleted p f)) (h : RemPending l p) : RemPending (setPend l t ph) p := by
  obtain ⟨u, f, hm⟩ := h
  have hu : u ≠ t := fun e => ht f (e ▸ hf u _ hm)
  exact ⟨u, f, mem_setPend.2 (Or.inr ⟨hm, hu⟩)⟩

theorem RemPending.erase {l : List (Tid × Pending)} (hf : PendFun l) {t : Tid} {p : Name}
    (ht : ∀ f, getPend l t ≠ some (.removeDeleted p f)) (h : RemPending l p) : RemPending (erasePend l t) p := by
  obtain ⟨u, f, hm⟩ := h
  have hu : u ≠ t := fun e => ht f (e ▸ hf u _ hm)
  exact ⟨u, f, mem_erasePend.2 ⟨hm, hu⟩⟩

/-! ### the invariant is inductive (guard = true) -/

theorem Pending.gen_of_insertee {ph : Pending} {g : Nat} {e : Row} (h : ph.insertee = some (g, e)) : ph.gen = some g := by
  cases ph <;> simp_all [Pending.insertee, Pending.gen]


theorem Inv.pend_set {s : St} (h : Inv s) (t : Tid) (ph : Pending)
    (ht : ∀ q f, getPend s.pend t ≠ some (.removeDeleted q f))
    (hg : ∀ g, ph.gen = some g → g ≤ s.removals)
    (hi : ∀ g e, ph.insertee = some (g, e) → s.removals = g → e ∈ s.db ∨ RemPending s.pend e.1) :
    Inv { s with pend := setPend s.pend t ph } where
  pendFun := PendFun.set h.pendFun t ph
  dbNodup := h.dbNodup
  cacheOk e he := (h.cacheOk e he).imp id (RemPending.set h.pendFun (ht _))
  insOk u x g e hm hx hr := by
    rcases mem_setPend.1 hm with ⟨_, rfl⟩ | ⟨hm, _⟩
    · exact (hi g e hx hr).imp id (RemPending.set h.pendFun (ht _))
    · exact (h.insOk u x g e hm hx hr).imp id (RemPending.set h.pendFun (ht _))
  genLe u x g hm hx := by
    rcases mem_setPend.1 hm with ⟨_, rfl⟩ | ⟨hm, _⟩
    · exact hg g hx
    · exact h.genLe u x g hm hx

theorem Inv.pend_erase {s : St} (h : Inv s) (t : Tid)
    (ht : ∀ q f, getPend s.pend t ≠ some (.removeDeleted q f)) :
    Inv { s with pend := erasePend s.pend t } where
  pendFun := PendFun.erase h.pendFun t
  dbNodup := h.dbNodup
  cacheOk e he := (h.cacheOk e he).imp id (RemPending.erase h.pendFun (ht _))
  insOk u x g e hm hx hr :=
    (h.insOk u x g e (mem_erasePend.1 hm).1 hx hr).imp id (RemPending.erase h.pendFun (ht _))
  genLe u x g hm hx := h.genLe u x g (mem_erasePend.1 hm).1 hx

theorem Inv.cacheInsert {s : St} (h : Inv s) (p : Name) (v : Pid × KeyId)
    (hv : (p, v) ∈ s.db ∨ RemPending s.pend p) :
    Inv { s with cache := insertRow s.cache p v } where
  pendFun := h.pendFun
  dbNodup := h.dbNodup
  cacheOk e he := by
    rcases mem_insertRow.1 he with rfl | ⟨he, _⟩
    · exact hv
    · exact h.cacheOk e he
  insOk := h.insOk
  genLe := h.genLe

theorem Inv.insert_guarded {s : St} (h : Inv s) {t : Tid} {ph : Pending} {g0 : Nat} {p : Name} {pid : Pid} {key : KeyId}
    (hm : getPend s.pend t = some ph) (hi : ph.insertee = some (g0, p, pid, key)) :
    Inv { s with cache := guardedInsert true s g0 p pid key } := by
  unfold guardedInsert
  by_cases hr : s.removals = g0
  · have : (true && s.removals != g0) = false := by simp [hr]
    rw [this]
    exact h.cacheInsert p (pid, key) (h.insOk t ph g0 _ (getPend_mem hm) hi hr)
  · have : (true && s.removals != g0) = true := by simp [hr]
    rw [this]
    exact h

theorem Inv.dbInsert {s : St} (h : Inv s) (p : Name) (v : Pid × KeyId) (k : Nat) (hp : lookupRow s.db p = none) :
    Inv { s with db := (p, v) :: s.db, nextKey := k } where
  pendFun := h.pendFun
  dbNodup := by
    show ((p, v) :: s.db |>.map (·.1)).Nodup
    rw [List.map_cons, List.nodup_cons]
    exact ⟨lookupRow_none_names hp, h.dbNodup⟩
  cacheOk e he := (h.cacheOk e he).imp (List.mem_cons_of_mem _) id
  insOk u x g e hm hx hr := (h.insOk u x g e hm hx hr).imp (List.mem_cons_of_mem _) id
  genLe := h.genLe

theorem Inv.dbDelete {s : St} (h : Inv s) (t : Tid) (p : Name) (f : Bool) (ht : getPend s.pend t = none) :
    Inv { s with db := eraseName s.db p, pend := setPend s.pend t (.removeDeleted p f) } := by
  have ht' := not_removing ht rfl
  have key : ∀ e : Row, e ∈ s.db ∨ RemPending s.pend e.1 →
      e ∈ eraseName s.db p ∨ RemPending (setPend s.pend t (.removeDeleted p f)) e.1 := by
    intro e he
    rcases he with he | he
    · by_cases hp : e.1 = p
      · exact Or.inr ⟨t, f, mem_setPend.2 (Or.inl ⟨rfl, by rw [hp]⟩)⟩
      · exact Or.inl (mem_eraseName.2 ⟨he, hp⟩)
    · exact Or.inr (RemPending.set h.pendFun (ht' _) he)
  exact {
    pendFun := PendFun.set h.pendFun t _
    dbNodup := nodup_eraseName h.dbNodup p
    cacheOk := fun e he => key e (h.cacheOk e he)
    insOk := by
      intro u x g e hm hx hr
      rcases mem_setPend.1 hm with ⟨_, rfl⟩ | ⟨hm, _⟩
      · cases hx
      · exact key e (h.insOk u x g e hm hx hr)
    genLe := by
      intro u x g hm hx
      rcases mem_setPend.1 hm with ⟨_, rfl⟩ | ⟨hm, _⟩
      · cases hx
      · exact h.genLe u x g hm hx }

theorem Inv.evict {s : St} (h : Inv s) (t : Tid) (p : Name) (f : Bool) (ht : getPend s.pend t = some (.removeDeleted p f)) :
    Inv { s with cache := eraseName s.cache p, removals := s.removals + 1, pend := erasePend s.pend t } where
  pendFun := PendFun.erase h.pendFun t
  dbNodup := h.dbNodup
  cacheOk e he := by
    obtain ⟨he, hp⟩ := mem_eraseName.1 he
    refine (h.cacheOk e he).imp id (RemPending.erase h.pendFun ?_)
    intro f' hc; rw [ht] at hc; cases hc; exact hp rfl
  insOk u x g e hm hx hr := by
    have := h.genLe u x g (mem_erasePend.1 hm).1 (Pending.gen_of_insertee hx)
    exact absurd hr (by show s.removals + 1 ≠ g; omega)
  genLe u x g hm hx := Nat.le_succ_of_le (h.genLe u x g (mem_erasePend.1 hm).1 hx)

theorem Inv.finishInsert {s : St} (h : Inv s) {t : Tid} {ph : Pending} {g0 : Nat} {p : Name} {pid : Pid} {key : KeyId}
    (hp : getPend s.pend t = some ph) (hi : ph.insertee = some (g0, p, pid, key)) :
    Inv { s with cache := guardedInsert true s g0 p pid key, pend := erasePend s.pend t } :=
  Inv.pend_erase (s := { s with cache := guardedInsert true s g0 p pid key }) (h.insert_guarded hp hi) t
    (not_removing (l := s.pend) hp (by simp [Pending.gen_of_insertee hi]))

theorem step_inv {s : St} (h : Inv s) (σ : Step) : Inv (step true s σ).1 := by
  cases σ with
  | resolveStart t p | createStart t p =>
    simp only [step]; split
    · next hn =>
      exact h.pend_set t _ (not_removing hn rfl) (by intro g hg; cases hg; exact Nat.le_refl _) (by intro g e hx; cases hx)
    · exact h
  | resolveLookup t =>
    simp only [step]; split
    · next p g0 hp =>
      have ht := not_removing hp rfl
      split
      · exact h.pend_erase t ht
      · exact h.pend_set t _ ht (fun g hg => h.genLe t _ g (getPend_mem hp) (by cases hg; rfl)) (by intro g e hx; cases hx)
    · exact h
  | resolveSelect t =>
    simp only [step]; split
    · next p g0 hp =>
      have ht := not_removing hp rfl
      split
      · next pid key hl =>
        refine h.pend_set t _ ht (fun g hg => h.genLe t _ g (getPend_mem hp) (by cases hg; rfl)) ?_
        intro g e hx _; cases hx
        exact Or.inl (lookupRow_mem hl)
      · exact h.pend_erase t ht
    · exact h
  | resolveInsert t | createCache t =>
    simp only [step]; split
    · next p g0 pid key hp => exact h.finishInsert hp rfl
    · exact h
  | createInsert t =>
    simp only [step]; split
    · next p g0 hp =>
      have ht := not_removing hp rfl
      split
      · exact h.pend_erase t ht
      · next hl =>
        refine Inv.pend_set (s := { s with db := (p, nextPid s.db, s.nextKey) :: s.db, nextKey := s.nextKey + 1 })
          (h.dbInsert p _ _ hl) t _ ht (fun g hg => h.genLe t _ g (getPend_mem hp) (by cases hg; rfl)) ?_
        intro g e hx _; cases hx
        exact Or.inl List.mem_cons_self
    · exact h
  | removeDelete t p =>
    simp only [step]; split
    · next hn => exact h.dbDelete t p _ hn
    · exact h
  | removeEvict t =>
    simp only [step]; split
    · next p f hp => exact h.evict t p f hp
    · exact h

theorem run_eq (guard : Bool) : ∀ (s : St) (σs : List Step), run guard s σs = Run.run (step guard) s σs
  | _, [] => rfl
  | s, σ :: rest => by simp only [run, Run.run, run_eq guard _ rest]

theorem run_inv {s : St} (h : Inv s) (σs : List Step) : Inv (run true s σs).1 := by
  rw [run_eq]; exact Run.run_inv Inv (fun _ σ h => step_inv h σ) h σs

theorem Init.inv {s : St} (h : Init s) : Inv s where
  pendFun := by rw [h.noPend]; intro t ph hm; cases hm
  dbNodup := h.dbNodup
  cacheOk e he := Or.inl (h.cacheSub e he)
  insOk := by rw [h.noPend]; intro t ph g e hm; cases hm
  genLe := by rw [h.noPend]; intro t ph g hm; cases hm

theorem init_Init : Init init := ⟨rfl, nofun, List.nodup_nil⟩

/-! ### quiescent states -/

theorem quiescent_iff {s : St} : quiescent s = true ↔ s.pend = [] := by
  simp [quiescent]

theorem not_remPending_of_quiescent {s : St} (hq : quiescent s = true) (p : Name) : ¬ RemPending s.pend p := by
  rw [quiescent_iff.1 hq]; rintro ⟨t, f, hm⟩; cases hm

theorem Inv.cache_sub_db {s : St} (h : Inv s) (hq : quiescent s = true) : ∀ e, e ∈ s.cache → e ∈ s.db :=
  fun e he => (h.cacheOk e he).resolve_right (not_remPending_of_quiescent hq _)

theorem Inv.openResult_eq {s : St} (h : Inv s) (hq : quiescent s = true) (p : Name) :
    openResult s p = match lookupRow s.db p with
      | some (pid, key) => .resolved p pid key
      | none => .notFound p := by
  unfold openResult
  split
  · next pid key hl => rw [lookupRow_of_mem h.dbNodup (h.cache_sub_db hq _ (lookupRow_mem hl))]
  · rfl

theorem Inv.open_resolved_iff {s : St} (h : Inv s) (hq : quiescent s = true) (p : Name) (pid : Pid) (key : KeyId) :
    openResult s p = .resolved p pid key ↔ (p, pid, key) ∈ s.db := by
  rw [h.openResult_eq hq]
  constructor
  · intro ho
    split at ho
    · next pid' key' hl => cases ho; exact lookupRow_mem hl
    · cases ho
  · intro hm
    rw [lookupRow_of_mem h.dbNodup hm]

theorem Inv.open_notFound_iff {s : St} (h : Inv s) (hq : quiescent s = true) (p : Name) :
    openResult s p = .notFound p ↔ ∀ pid key, (p, pid, key) ∉ s.db := by
  rw [h.openResult_eq hq]
  constructor
  · intro ho pid key hm
    rw [lookupRow_of_mem h.dbNodup hm] at ho
    cases ho
  · intro hn
    split
    · next pid key hl => exact absurd (lookupRow_mem hl) (hn _ _)
    · rfl

theorem run_append (guard : Bool) (s : St) (a b : List Step) :
    (run guard s (a ++ b)).1 = (run guard (run guard s a).1 b).1 := by
  simp only [run_eq]; exact Run.run_append_fst _ s a b

/-! ### progress: without removals the guard never refuses -/

/-- no remove in flight and every captured counter value is the current one -/
def NoRem (s : St) : Prop := ∀ t ph, (t, ph) ∈ s.pend → ph.gen = some s.removals

theorem NoRem.not_remPending {s : St} (hn : NoRem s) (p : Name) : ¬ RemPending s.pend p := by
  rintro ⟨t, f, hm⟩; have := hn t _ hm; cases this

/- `NoRem` reads `removals` and `pend` only: after `simp only [step]` the new state is a structure literal whose `db`, `cache` and
   `nextKey` differ from case to case, so the next two lemmas leave those three arbitrary. -/
theorem NoRem.set {s : St} (hn : NoRem s) (t : Tid) (ph : Pending) (hg : ph.gen = some s.removals)
    (db cache : List Row) (k : Nat) :
    NoRem { db := db, nextKey := k, cache := cache, removals := s.removals, pend := setPend s.pend t ph } := by
  intro u x hm
  rcases mem_setPend.1 hm with ⟨_, rfl⟩ | ⟨hm, _⟩
  · exact hg
  · exact hn u x hm

theorem NoRem.erase {s : St} (hn : NoRem s) (t : Tid) (db cache : List Row) (k : Nat) :
    NoRem { db := db, nextKey := k, cache := cache, removals := s.removals, pend := erasePend s.pend t } :=
  fun u x hm => hn u x (mem_erasePend.1 hm).1

theorem step_noRem {s : St} (hn : NoRem s) (σ : Step) (hσ : σ.isRemove = false) : NoRem (step true s σ).1 := by
  cases σ with
  | resolveStart t p | createStart t p =>
    simp only [step]; split
    · exact hn.set t _ rfl _ _ _
    · exact hn
  | resolveLookup t | createInsert t =>
    simp only [step]; split
    · next p g0 hp =>
      have : some g0 = some s.removals := hn t _ (getPend_mem hp)
      split
      · exact hn.erase t _ _ _
      · exact hn.set t _ (by exact this) _ _ _
    · exact hn
  | resolveSelect t =>
    simp only [step]; split
    · next p g0 hp =>
      have : some g0 = some s.removals := hn t _ (getPend_mem hp)
      split
      · exact hn.set t _ (by exact this) _ _ _
      · exact hn.erase t _ _ _
    · exact hn
  | resolveInsert t | createCache t =>
    simp only [step]; split
    · exact hn.erase t _ _ _
    · exact hn
  | removeDelete t p | removeEvict t => cases hσ

theorem guardedInsert_noRem {s : St} (h : Inv s) (hn : NoRem s) {t : Tid} {ph : Pending} {g0 : Nat} {p : Name}
    {pid : Pid} {key : KeyId} (hm : getPend s.pend t = some ph) (hi : ph.insertee = some (g0, p, pid, key)) :
    lookupRow (guardedInsert true s g0 p pid key) p = some (pid, key) ∧
    ∀ q v, lookupRow s.cache q = some v → lookupRow (guardedInsert true s g0 p pid key) q = some v := by
  have hg : s.removals = g0 := Option.some.inj ((hn t ph (getPend_mem hm)).symm.trans (Pending.gen_of_insertee hi))
  have hdb : (p, pid, key) ∈ s.db :=
    (h.insOk t ph g0 _ (getPend_mem hm) hi hg).resolve_right (hn.not_remPending _)
  have : guardedInsert true s g0 p pid key = insertRow s.cache p (pid, key) := by
    simp [guardedInsert, hg]
  rw [this]
  refine ⟨lookupRow_insertRow_self _ _ _, ?_⟩
  intro q v hq
  by_cases hqp : q = p
  · subst hqp
    have hc : (q, v) ∈ s.db := (h.cacheOk _ (lookupRow_mem hq)).resolve_right (hn.not_remPending _)
    rw [nodup_functional h.dbNodup hc hdb]
    exact lookupRow_insertRow_self _ _ _
  · rw [lookupRow_insertRow_ne _ _ hqp]; exact hq

def Ret.opens : Ret → Bool
  | .resolved .. => true
  | .created .. => true
  | _ => false

/-- what a step without removal does to the cache, from `c` to `c'` with return `r`: cached stays cached (same id, same key),
    and a resolve or create that completes leaves its profile cached with what it returned -/
def Progress (c c' : List Row) (r : Option Ret) : Prop :=
  (∀ q v, lookupRow c q = some v → lookupRow c' q = some v) ∧
  (∀ p pid key, (r = some (.resolved p pid key) ∨ r = some (.created p pid key)) → lookupRow c' p = some (pid, key))

theorem Progress.quiet (c : List Row) {r : Option Ret} (hr : r.any Ret.opens = false) : Progress c c r :=
  ⟨fun _ _ hq => hq, fun p pid key h => by rcases h with rfl | rfl <;> cases hr⟩

theorem Progress.opened {c c' : List Row} {p : Name} {pid : Pid} {key : KeyId} {r : Option Ret}
    (hr : r = some (.resolved p pid key) ∨ r = some (.created p pid key))
    (hkeep : ∀ q v, lookupRow c q = some v → lookupRow c' q = some v) (hp : lookupRow c' p = some (pid, key)) :
    Progress c c' r := by
  refine ⟨hkeep, ?_⟩
  intro p' pid' key' hr'
  rcases hr with rfl | rfl <;> rcases hr' with hr' | hr' <;> cases hr' <;> exact hp

theorem step_progress {s : St} (h : Inv s) (hn : NoRem s) (σ : Step) :
    Progress s.cache (step true s σ).1.cache (step true s σ).2 := by
  generalize hr : step true s σ = r
  cases σ with
  | resolveStart t p | createStart t p =>
    simp only [step] at hr; split at hr <;> subst hr <;> exact Progress.quiet s.cache rfl
  | resolveLookup t =>
    simp only [step] at hr; split at hr
    · split at hr <;> subst hr
      · next pid key hl => exact Progress.opened (Or.inl rfl) (fun _ _ hq => hq) hl
      · exact Progress.quiet s.cache rfl
    · subst hr; exact Progress.quiet s.cache rfl
  | resolveSelect t | createInsert t =>
    simp only [step] at hr; split at hr
    · split at hr <;> subst hr <;> exact Progress.quiet s.cache rfl
    · subst hr; exact Progress.quiet s.cache rfl
  | resolveInsert t =>
    simp only [step] at hr; split at hr <;> subst hr
    · next p g0 pid key hp =>
      have := guardedInsert_noRem h hn hp rfl
      exact Progress.opened (Or.inl rfl) this.2 this.1
    · exact Progress.quiet s.cache rfl
  | createCache t =>
    simp only [step] at hr; split at hr <;> subst hr
    · next p g0 pid key hp =>
      have := guardedInsert_noRem h hn hp rfl
      exact Progress.opened (Or.inr rfl) this.2 this.1
    · exact Progress.quiet s.cache rfl
  | removeDelete t p =>
    -- not used by the progress theorem (the schedule has no remove step), but true: DELETE leaves the cache alone
    simp only [step] at hr; split at hr <;> subst hr <;> exact Progress.quiet s.cache rfl
  | removeEvict t =>
    simp only [step] at hr; split at hr <;> subst hr
    · next p f hp => exact absurd (hn t _ (getPend_mem hp)) nofun
    · exact Progress.quiet s.cache rfl

theorem run_noRem {s : St} (h : Inv s) (hn : NoRem s) (σs : List Step) (hσ : ∀ x ∈ σs, x.isRemove = false) :
    NoRem (run true s σs).1 ∧
    ∀ q v, lookupRow s.cache q = some v → lookupRow (run true s σs).1.cache q = some v := by
  rw [run_eq]
  have := Run.run_inv_on (step := step true)
    (fun s' => Inv s' ∧ NoRem s' ∧ ∀ q v, lookupRow s.cache q = some v → lookupRow s'.cache q = some v)
    (fun σ => σ.isRemove = false)
    (fun s' σ ⟨h', hn', hc⟩ hσ =>
      ⟨step_inv h' σ, step_noRem hn' σ hσ, fun q v hq => (step_progress h' hn' σ).1 q v (hc q v hq)⟩)
    ⟨h, hn, fun _ _ hq => hq⟩ σs hσ
  exact this.2

theorem Init.noRem {s : St} (h : Init s) : NoRem s := by
  intro t ph hm; rw [h.noPend] at hm; cases hm

end Askar.KeyCacheConc
