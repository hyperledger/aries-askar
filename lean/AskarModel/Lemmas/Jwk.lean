/-
C14 — lemmas about the key export / import model (`AskarModel/Model/Jwk.lean`).
The definitions made here that statements in `Props/C14.lean` mention: `Parts.core` (§ member order), `Key.Consistent`
(§ accepted keys), `Clean`, `MembersClean`, `toks` (§ the parser on a member), `Key.WellSized`, `Key.OnCurve`, `Key.PubCanonical`,
`Prims.CurveLaws`, `exportParts` (§ export, then import).
-/
import AskarModel.Model.Jwk

namespace Askar.Jwk

-- outcomes can be compared by evaluation (used for the test vectors)
deriving instance DecidableEq for Res

/-- A string literal unifies with `String.ofList _`, so rewriting with this turns `sb "…"` into a `map` over the characters
    without running `String.toList`, whose UTF-8 decoding of a literal takes the kernel time quadratic in the length. -/
theorem sb_ofList (cs : List Char) : sb (String.ofList cs) = cs.map fun c => UInt8.ofNat c.toNat := by
  rw [sb, String.toList_ofList]

theorem Alg.mem_all (alg : Alg) : alg ∈ Alg.all := by cases alg <;> decide +kernel

/-! ## base64url -/

theorem valN_symN : ∀ n, n < 64 → valN (symN n) = some n := by decide +kernel

theorem symN_valN {c v : Nat} (hc : c < 256) (h : valN c = some v) : symN v = c ∧ v < 64 := by
  -- all 256 bytes, by evaluation (`v ∈ valN c` is `valN c = some v`, and a `∀ v ∈ o` over an option is decidable)
  have table : ∀ c, c < 256 → ∀ v ∈ valN c, symN v = c ∧ v < 64 := by decide +kernel
  exact table c hc v h

theorem symN_alphabet (n : Nat) : symN n < 256 ∧ symN n ≠ 34 ∧ symN n ≠ 92 := by
  by_cases h : n < 64
  · exact (by decide +kernel : ∀ n, n < 64 → symN n < 256 ∧ symN n ≠ 34 ∧ symN n ≠ 92) n h
  · -- outside the alphabet `symN` answers `_`
    have : symN n = 95 := by
      rw [symN, if_neg (by omega), if_neg (by omega), if_neg (by omega), if_neg (by omega)]
    rw [this]
    decide

theorem sym_clean (n : Nat) : sym n ≠ 34 ∧ sym n ≠ 92 := by
  obtain ⟨h1, h2, h3⟩ := symN_alphabet n
  unfold sym
  constructor <;> intro h <;> have := congrArg UInt8.toNat h <;> rw [UInt8.toNat_ofNat_of_lt' h1] at this <;> simp_all

theorem val_sym {n : Nat} (h : n < 64) : val (sym n) = some n := by
  unfold val sym
  rw [UInt8.toNat_ofNat_of_lt' (symN_alphabet n).1]
  exact valN_symN n h

theorem sym_val {c : UInt8} {v : Nat} (h : val c = some v) : sym v = c ∧ v < 64 := by
  unfold val at h
  have := symN_valN (UInt8.toNat_lt_size c) h
  refine ⟨?_, this.2⟩
  unfold sym
  rw [this.1, UInt8.ofNat_toNat]

theorem digits {k lo : Nat} (hi : Nat) (h : lo < k) : (hi * k + lo) / k = hi ∧ (hi * k + lo) % k = lo := by
  have hk : 0 < k := Nat.zero_lt_of_lt h
  rw [Nat.mul_comm, Nat.mul_add_div hk, Nat.mul_add_mod, Nat.div_eq_of_lt h, Nat.mod_eq_of_lt h]
  exact ⟨rfl, rfl⟩

theorem digits_lt {k lo hi n : Nat} (hh : hi < n) (hl : lo < k) : hi * k + lo < n * k :=
  calc hi * k + lo < hi * k + k := Nat.add_lt_add_left hl _
    _ = (hi + 1) * k := (Nat.succ_mul hi k).symm
    _ ≤ n * k := Nat.mul_le_mul_right k hh

/-- three bytes as four sextets, and back -/
theorem group_pack {a b c : Nat} (ha : a < 256) (hb : b < 256) (hc : c < 256) :
    a / 4 < 64 ∧ a % 4 * 16 + b / 16 < 64 ∧ b % 16 * 4 + c / 64 < 64 ∧ c % 64 < 64 ∧
    a / 4 * 4 + (a % 4 * 16 + b / 16) / 16 = a ∧ (a % 4 * 16 + b / 16) % 16 * 16 + (b % 16 * 4 + c / 64) / 4 = b ∧
    (b % 16 * 4 + c / 64) % 4 * 64 + c % 64 = c := by
  have hb' : b / 16 < 16 := Nat.div_lt_of_lt_mul hb
  have hc' : c / 64 < 4 := Nat.div_lt_of_lt_mul hc
  obtain ⟨e1, e2⟩ := digits (a % 4) hb'
  obtain ⟨e3, e4⟩ := digits (b % 16) hc'
  rw [e1, e2, e3, e4]
  exact ⟨Nat.div_lt_of_lt_mul ha, digits_lt (Nat.mod_lt a (by decide)) hb', digits_lt (Nat.mod_lt b (by decide)) hc',
    Nat.mod_lt c (by decide), Nat.div_add_mod' a 4, Nat.div_add_mod' b 16, Nat.div_add_mod' c 64⟩

/-- four sextets as three bytes, and back -/
theorem group_unpack {v0 v1 v2 v3 : Nat} (h0 : v0 < 64) (h1 : v1 < 64) (h2 : v2 < 64) (h3 : v3 < 64) :
    v0 * 4 + v1 / 16 < 256 ∧ v1 % 16 * 16 + v2 / 4 < 256 ∧ v2 % 4 * 64 + v3 < 256 ∧
    (v0 * 4 + v1 / 16) / 4 = v0 ∧ (v0 * 4 + v1 / 16) % 4 * 16 + (v1 % 16 * 16 + v2 / 4) / 16 = v1 ∧
    (v1 % 16 * 16 + v2 / 4) % 16 * 4 + (v2 % 4 * 64 + v3) / 64 = v2 ∧ (v2 % 4 * 64 + v3) % 64 = v3 := by
  have h1' : v1 / 16 < 4 := Nat.div_lt_of_lt_mul h1
  have h2' : v2 / 4 < 16 := Nat.div_lt_of_lt_mul h2
  obtain ⟨e1, e2⟩ := digits v0 h1'
  obtain ⟨e3, e4⟩ := digits (v1 % 16) h2'
  obtain ⟨e5, e6⟩ := digits (v2 % 4) h3
  rw [e1, e2, e3, e4, e5, e6]
  exact ⟨digits_lt h0 h1', digits_lt (Nat.mod_lt v1 (by decide)) h2', digits_lt (Nat.mod_lt v2 (by decide)) h3, rfl,
    Nat.div_add_mod' v1 16, Nat.div_add_mod' v2 4, rfl⟩

theorem b64_roundtrip (b : Bytes) : b64decode (b64encode b) = some b := by
  fun_induction b64encode b with
  | case1 a b c rest ih =>
    obtain ⟨l0, l1, l2, l3, ea, eb, ec⟩ := group_pack (UInt8.toNat_lt_size a) (UInt8.toNat_lt_size b) (UInt8.toNat_lt_size c)
    simp only [b64decode]
    rw [val_sym l0, val_sym l1, val_sym l2, val_sym l3, ih]
    simp only
    rw [ea, eb, ec, UInt8.ofNat_toNat, UInt8.ofNat_toNat, UInt8.ofNat_toNat]
  | case2 a b =>
    -- a short group is a full group whose missing bytes are 0
    obtain ⟨l0, l1, l2, -, ea, eb, -⟩ := group_pack (UInt8.toNat_lt_size a) (UInt8.toNat_lt_size b) (show 0 < 256 by decide)
    rw [Nat.zero_div, Nat.add_zero] at l2 eb
    simp only [b64decode]
    rw [val_sym l0, val_sym l1, val_sym l2]
    simp only
    rw [if_pos (Nat.mul_mod_left _ 4), ea, eb, UInt8.ofNat_toNat, UInt8.ofNat_toNat]
  | case3 a =>
    obtain ⟨l0, l1, -, -, ea, -, -⟩ := group_pack (UInt8.toNat_lt_size a) (show 0 < 256 by decide) (show 0 < 256 by decide)
    rw [Nat.zero_div, Nat.add_zero] at l1 ea
    simp only [b64decode]
    rw [val_sym l0, val_sym l1]
    simp only
    rw [if_pos (Nat.mul_mod_left _ 16), ea, UInt8.ofNat_toNat]
  | case4 => rfl

theorem b64_canonical {s b : Bytes} (h : b64decode s = some b) : b64encode b = s := by
  fun_induction b64decode s generalizing b with
  | case1 => cases h; rfl
  | case2 c => cases h
  | case3 c0 c1 v0 v1 h1 h0 hm =>
    cases h
    obtain ⟨e0, l0⟩ := sym_val h0; obtain ⟨e1, l1⟩ := sym_val h1
    -- a short group is a full group whose missing sextets are 0; the unused low bits of the last one are 0 too
    obtain ⟨la, -, -, q0, q1, -, -⟩ := group_unpack l0 l1 (show 0 < 64 by decide) (show 0 < 64 by decide)
    simp only [hm, Nat.zero_div, Nat.zero_mul, Nat.add_zero] at q1
    simp only [b64encode]
    rw [UInt8.toNat_ofNat_of_lt' la, q0, q1, e0, e1]
  | case4 => cases h
  | case5 => cases h
  | case6 c0 c1 c2 v0 v1 v2 h2 h1 h0 hm =>
    cases h
    obtain ⟨e0, l0⟩ := sym_val h0; obtain ⟨e1, l1⟩ := sym_val h1; obtain ⟨e2, l2⟩ := sym_val h2
    obtain ⟨la, lb, -, q0, q1, q2, -⟩ := group_unpack l0 l1 l2 (show 0 < 64 by decide)
    simp only [hm, Nat.zero_div, Nat.zero_mul, Nat.add_zero] at q2
    simp only [b64encode]
    rw [UInt8.toNat_ofNat_of_lt' la, UInt8.toNat_ofNat_of_lt' lb, q0, q1, q2, e0, e1, e2]
  | case7 => cases h
  | case8 => cases h
  | case9 c0 c1 c2 c3 rest v0 v1 v2 v3 r hr h3 h2 h1 h0 ih =>
    cases h
    obtain ⟨e0, l0⟩ := sym_val h0; obtain ⟨e1, l1⟩ := sym_val h1; obtain ⟨e2, l2⟩ := sym_val h2
    obtain ⟨e3, l3⟩ := sym_val h3
    obtain ⟨la, lb, lc, q0, q1, q2, q3⟩ := group_unpack l0 l1 l2 l3
    simp only [b64encode]
    rw [UInt8.toNat_ofNat_of_lt' la, UInt8.toNat_ofNat_of_lt' lb, UInt8.toNat_ofNat_of_lt' lc, q0, q1, q2, q3, e0, e1, e2, e3, ih hr]
  | case10 => cases h

theorem b64decode_length {s b : Bytes} (h : b64decode s = some b) : b.length = s.length * 3 / 4 := by
  fun_induction b64decode s generalizing b with
  | case1 => cases h; rfl
  | case2 c => cases h
  | case3 => cases h; simp only [List.length_cons, List.length_nil]
  | case4 => cases h
  | case5 => cases h
  | case6 => cases h; simp only [List.length_cons, List.length_nil]
  | case7 => cases h
  | case8 => cases h
  | case9 c0 c1 c2 c3 rest v0 v1 v2 v3 r hr h3 h2 h1 h0 ih =>
    cases h
    simp only [List.length_cons, ih hr]
    omega
  | case10 => cases h

theorem b64encode_length (b : Bytes) : (b64encode b).length = (b.length * 4 + 2) / 3 := by
  fun_induction b64encode b with
  | case1 a b c rest ih => simp only [List.length_cons, ih]; omega
  | case2 a b => simp
  | case3 a => simp
  | case4 => rfl

/-- `decode_base64` never reports more bytes than the output array holds -/
theorem b64_bounded {attr : Option Bytes} {n : Nat} {b : Bytes} (h : decodeBase64 attr n = .ok b) : b.length ≤ n := by
  unfold decodeBase64 at h
  split at h
  · cases h
  · rename_i s
    split at h
    · cases h
    · rename_i hlen
      split at h
      · cases h
      · rename_i b' hb
        cases h
        rw [b64decode_length hb]
        omega

/-! ## the member visitor -/

theorem visitFrom_append (cfg : Cfg) (a : Acc) (l₁ l₂ : List (Bytes × JVal)) :
    visitFrom cfg a (l₁ ++ l₂) = (visitFrom cfg a l₁).bind fun a' => visitFrom cfg a' l₂ := by
  induction l₁ generalizing a with
  | nil => rfl
  | cons m ms ih =>
    simp only [List.cons_append, visitFrom]
    cases visitStep cfg a m with
    | none => rfl
    | some a' => exact ih a'

theorem visitStep_unknown (cfg : Cfg) (a : Acc) {k : Bytes} (v : JVal) (hk : fieldOf k = none) :
    visitStep cfg a (k, v) = if cfg.consumeUnknown then some a else none := by
  simp only [visitStep, hk]

theorem visit_unknown_ignored {cfg : Cfg} (h : cfg.consumeUnknown = true) (ms₁ ms₂ : List (Bytes × JVal)) (k : Bytes) (v : JVal)
    (hk : fieldOf k = none) : visit cfg (ms₁ ++ (k, v) :: ms₂) = visit cfg (ms₁ ++ ms₂) := by
  unfold visit
  rw [visitFrom_append, visitFrom_append]
  cases visitFrom cfg {} ms₁ with
  | none => rfl
  | some a =>
    simp only [Option.bind_some, visitFrom, visitStep_unknown cfg a v hk, h, if_true]

theorem fieldOf_ext : fieldOf (sb "ext") = none := by decide +kernel
theorem fieldOf_crv : fieldOf (sb "crv") = some .crv := by decide +kernel
theorem fieldOf_kty : fieldOf (sb "kty") = some .kty := by decide +kernel
theorem fieldOf_x : fieldOf (sb "x") = some .x := by decide +kernel
theorem fieldOf_y : fieldOf (sb "y") = some .y := by decide +kernel
theorem fieldOf_d : fieldOf (sb "d") = some .d := by decide +kernel
theorem fieldOf_use : fieldOf (sb "use") = some .use := by decide +kernel
theorem fieldOf_kid : fieldOf (sb "kid") = some .kid := by decide +kernel
theorem fieldOf_key_ops : fieldOf (sb "key_ops") = some .keyOps := by decide +kernel

/-! ## panic-freedom of the byte imports and of the decoding steps -/

theorem decodePublic_no_panic (P : Prims) (alg : Alg) (b : Bytes) (s : String) : decodePublic P alg b ≠ .panic s := by
  unfold decodePublic
  cases alg <;> simp only [] <;> (repeat' split) <;> simp

theorem fromPublicBytes_no_panic (P : Prims) (alg : Alg) (b : Bytes) : (fromPublicBytes P alg b).isPanic = false := by
  unfold fromPublicBytes
  cases h : decodePublic P alg b with
  | ok p => rfl
  | err e => rfl
  | panic s => exact absurd h (decodePublic_no_panic P alg b s)

theorem Alg.not_symmetric_of_ec {alg : Alg} (h : alg.isEc = true) : alg.isSymmetric = false := by
  cases alg <;> first | rfl | cases h

/-- `from_secret_bytes` of every key type: the length check (where the Weierstrass types with `ecLenCheck = false` panic instead of
    answering), then the key; the asymmetric types ask the curve for the public key -/
theorem fromSecretBytes_eq (cfg : Cfg) (P : Prims) (alg : Alg) (b : Bytes) : fromSecretBytes cfg P alg b =
    if b.length ≠ alg.secretLen then
      (if alg.isEc = true ∧ cfg.ecLenCheck = false then .panic "GenericArray::from_slice (from_secret_bytes)"
       else .err .invalidKeyData)
    else if alg.isSymmetric then .ok { alg := alg, secret := some b, pub := [] }
    else match P.pubOf alg b with
      | some p => .ok { alg := alg, secret := some b, pub := p }
      | none => .err .invalidKeyData := by
  unfold fromSecretBytes
  by_cases hl : b.length ≠ alg.secretLen
  · simp only [if_pos hl]
    cases he : alg.isEc
    · cases alg.isSymmetric <;> rfl
    · rw [Alg.not_symmetric_of_ec he]
      cases cfg.ecLenCheck <;> rfl
  · simp only [if_neg hl]
    cases alg.isSymmetric
    · cases alg.isEc <;> rfl
    · rfl

theorem fromSecretBytes_no_panic_of (cfg : Cfg) (P : Prims) (alg : Alg) (b : Bytes)
    (h : alg.isEc = false ∨ b.length = alg.secretLen ∨ cfg.ecLenCheck = true) : (fromSecretBytes cfg P alg b).isPanic = false := by
  rw [fromSecretBytes_eq]
  split
  · rename_i hl
    rw [if_neg]
    · rfl
    · rintro ⟨he, hc⟩
      rcases h with h | h | h
      · rw [he] at h; cases h
      · exact hl h
      · rw [hc] at h; cases h
  · split
    · rfl
    · split <;> rfl

theorem decodeExact_length {attr : Option Bytes} {n : Nat} {b : Bytes} (h : decodeExact attr n = .ok b) : b.length = n := by
  unfold decodeExact at h
  split at h
  · split at h
    · cases h
    · rename_i hl; cases h; simpa using hl
  · cases h
  · cases h

theorem decodeBase64_no_panic (attr : Option Bytes) (n : Nat) (s : String) : decodeBase64 attr n ≠ .panic s := by
  unfold decodeBase64
  (repeat' split) <;> simp

theorem decodeExact_no_panic (attr : Option Bytes) (n : Nat) : (decodeExact attr n).isPanic = false := by
  unfold decodeExact
  cases h : decodeBase64 attr n with
  | ok b => simp only []; split <;> rfl
  | err e => rfl
  | panic s => exact absurd h (decodeBase64_no_panic attr n s)

theorem checkPublic_no_panic (k : Key) (pk : Bytes) : (checkPublic k pk).isPanic = false := by
  unfold checkPublic; split <;> rfl

/-! ## exports -/

/-- the public members of an asymmetric key, in the order `encode_jwk` writes them -/
def pubMembers (k : Key) (a : Option Alg) : List Member :=
  if k.alg.isEc then
    [("crv", sb k.alg.jwkCrv), ("kty", sb "EC"), ("x", b64encode (k.pub.take k.alg.secretLen)),
     ("y", b64encode (k.pub.drop k.alg.secretLen))]
  else [("crv", sb (blsView k a).1), ("kty", sb "OKP"), ("x", b64encode (blsView k a).2)]

/-- the `d` member: written in secret mode when the key has a secret -/
def secretMember (k : Key) (mode : Mode) : List Member :=
  if mode = .secretKey then (match k.secret with | some s => [("d", b64encode s)] | none => []) else []

theorem blsView_of_not_bls {k : Key} (h : k.alg.isBls = false) (a : Option Alg) : blsView k a = (k.alg.jwkCrv, k.pub) := by
  have : k.alg ≠ .blsG1G2 := fun e => by rw [e] at h; cases h
  simp [blsView, this]

theorem blsView_none (k : Key) : blsView k none = (k.alg.jwkCrv, k.pub) := by
  simp [blsView]

theorem encodeJwk_asym {k : Key} (h : k.alg.isSymmetric = false) (mode : Mode) (a : Option Alg) :
    encodeJwk k mode a = .ok (pubMembers k a ++ secretMember k mode) := by
  unfold encodeJwk pubMembers
  rw [h]
  cases he : k.alg.isEc
  · cases hb : k.alg.isBls
    · rw [blsView_of_not_bls hb]; rfl
    · rfl
  · rfl

theorem encodeJwk_sym {k : Key} (h : k.alg.isSymmetric = true) (mode : Mode) (a : Option Alg) :
    encodeJwk k mode a = if mode = .publicKey then .err .unsupported else
      .ok ((if mode = .thumbprint then [] else [("alg", sb k.alg.jwkAlg)])
        ++ [("k", b64encode (k.secret.getD [])), ("kty", sb "oct")]) := by
  unfold encodeJwk
  rw [if_pos h]

theorem pubMembers_names (k : Key) (a : Option Alg) :
    (pubMembers k a).map (·.1) = if k.alg.isEc then ["crv", "kty", "x", "y"] else ["crv", "kty", "x"] := by
  unfold pubMembers
  split <;> rfl

theorem secretMember_of_ne (k : Key) {mode : Mode} (h : mode ≠ .secretKey) : secretMember k mode = [] := if_neg h

theorem toPublicBytes_independent_of_secret (k : Key) (s' : Option Bytes) :
    toPublicBytes { k with secret := s' } = toPublicBytes k := rfl

theorem render_example :
    renderMembers [("crv", sb "Ed25519"), ("kty", sb "OKP"), ("x", sb "AA")] = sb "{\"crv\":\"Ed25519\",\"kty\":\"OKP\",\"x\":\"AA\"}" := by
  repeat rw [sb_ofList]
  decide +kernel

/-! ## member order -/

/-- what one member does to the visitor's variables -/
inductive Upd
  | set (f : Field) (s : Bytes)
  | use (s : Bytes)
  | ops (o : Nat)
  | nop

/-- setting a field writes that field's variable and no other (`use` and `key_ops` have no variable of this kind) -/
def Upd.apply : Upd → Acc → Acc
  | .set f s, a =>
    { a with kty := if f = .kty then some s else a.kty, kid := if f = .kid then some s else a.kid,
             alg := if f = .alg then some s else a.alg, crv := if f = .crv then some s else a.crv,
             x := if f = .x then some s else a.x, y := if f = .y then some s else a.y,
             d := if f = .d then some s else a.d, k := if f = .k then some s else a.k }
  | .use s, a => a.setUse s
  | .ops o, a => { a with keyOps := some o }
  | .nop, a => a

/-- `visitStep` decides from the member alone what to do (`effect`) and then does it (`Upd.apply`): `visitStep_eq`.  That two
    members can be swapped is then argued on the updates. -/
def effect (cfg : Cfg) (m : Bytes × JVal) : Option Upd :=
  match fieldOf m.1, m.2 with
  | some .use, .str s => some (.use s)
  | some .use, _ => none
  | some .keyOps, .strArr xs => (opsOf xs 0).map .ops
  | some .keyOps, _ => none
  | some f, .str s => some (.set f s)
  | some _, _ => none
  | none, _ => if cfg.consumeUnknown then some .nop else none

theorem visitStep_eq (cfg : Cfg) (a : Acc) (m : Bytes × JVal) : visitStep cfg a m = (effect cfg m).map (·.apply a) := by
  rcases m with ⟨k, v⟩
  unfold visitStep effect
  -- both sides look at the member name only through `fieldOf`
  generalize fieldOf (k, v).1 = o
  rcases o with _ | f
  · cases cfg.consumeUnknown <;> rfl
  · cases f <;> cases v <;> try rfl
    -- what is left is `key_ops` with an array of strings
    show Option.map _ (opsOf _ 0) = Option.map _ (Option.map _ (opsOf _ 0))
    rw [Option.map_map]
    rfl

def Acc.core (a : Acc) : Acc := { a with keyOps := none }
def Parts.core (p : Parts) : Parts := { p with keyOps := none }

theorem core_apply (u : Upd) (a : Acc) : (u.apply a).core = (u.apply a.core).core := by
  cases u with
  | set f s => rfl
  | use s => simp only [Upd.apply, Acc.setUse]; split <;> rfl
  | ops o => rfl
  | nop => rfl

theorem use_keyless (s : Bytes) (a : Acc) : ((Upd.use s).apply a).core = a.core := by
  simp only [Upd.apply, Acc.setUse]
  split <;> rfl

/-- an update that writes `key_ops` only commutes with every update, as far as the other variables go -/
theorem comm_of_keyless {u : Upd} (hu : ∀ a, (u.apply a).core = a.core) (v : Upd) (a : Acc) :
    (v.apply (u.apply a)).core = (u.apply (v.apply a)).core := by
  rw [core_apply v, hu, ← core_apply v, hu]

/-- one variable after the settings of two different fields, in either order -/
theorem set_set_comm {f₁ f₂ : Field} (h : f₁ ≠ f₂) (s₁ s₂ : Bytes) (g : Field) (x : Option Bytes) :
    (if f₂ = g then some s₂ else if f₁ = g then some s₁ else x) = (if f₁ = g then some s₁ else if f₂ = g then some s₂ else x) := by
  by_cases h₁ : f₁ = g
  · rw [if_pos h₁, if_neg fun e => h (h₁.trans e.symm), if_pos h₁]
  · rw [if_neg h₁, if_neg h₁]

/-- two updates commute, as far as the variables other than `key_ops` go, unless they set the same field -/
theorem apply_comm_core (u₁ u₂ : Upd) (a : Acc) (h : ∀ f₁ s₁ f₂ s₂, u₁ = .set f₁ s₁ → u₂ = .set f₂ s₂ → f₁ ≠ f₂) :
    (u₂.apply (u₁.apply a)).core = (u₁.apply (u₂.apply a)).core := by
  cases u₁ with
  | set f₁ s₁ =>
    cases u₂ with
    | set f₂ s₂ => simp only [Upd.apply, Acc.core, set_set_comm (h _ _ _ _ rfl rfl)]
    | use s => exact (comm_of_keyless (use_keyless s) _ a).symm
    | ops o => exact (comm_of_keyless (fun _ => rfl) _ a).symm
    | nop => rfl
  | use s => exact comm_of_keyless (use_keyless s) _ a
  | ops o => exact comm_of_keyless (fun _ => rfl) _ a
  | nop => rfl

def Field.name : Field → Bytes
  | .kty => sb "kty" | .kid => sb "kid" | .alg => sb "alg" | .crv => sb "crv" | .x => sb "x" | .y => sb "y"
  | .d => sb "d" | .k => sb "k" | .use => sb "use" | .keyOps => sb "key_ops"

/-- one link of an `if … then some a else …` chain -/
theorem ite_some_inv {α} {p : Prop} [Decidable p] {a b : α} {r : Option α} (h : (if p then some a else r) = some b) :
    (p ∧ a = b) ∨ r = some b := by
  by_cases hp : p
  · rw [if_pos hp] at h; exact Or.inl ⟨hp, Option.some.inj h⟩
  · rw [if_neg hp] at h; exact Or.inr h

theorem fieldOf_name {k : Bytes} {f : Field} (h : fieldOf k = some f) : k = f.name := by
  unfold fieldOf at h
  -- the ten links of the chain, one after the other
  iterate 10
    obtain ⟨e, rfl⟩ | h := ite_some_inv h
    · exact e
  cases h

theorem effect_set {cfg : Cfg} {m : Bytes × JVal} {f : Field} {s : Bytes} (h : effect cfg m = some (.set f s)) :
    m.1 = f.name := by
  rcases m with ⟨k, v⟩
  apply fieldOf_name
  cases hf : fieldOf k with
  | none => simp only [effect, hf] at h; split at h <;> cases h
  | some f' =>
    -- only the arm `some f, .str s` of `effect` with `f` neither `use` nor `key_ops` yields a `.set`; the sweep refutes the others
    cases f' <;> cases v <;> simp [effect, hf] at h <;> first | (exact congrArg _ h.1) | (cases h' : opsOf _ 0 <;> simp [h'] at h)

/-- one loop turn on the variables with `key_ops` erased -/
def stepC (cfg : Cfg) (o : Option Acc) (m : Bytes × JVal) : Option Acc :=
  match o, effect cfg m with
  | some a, some u => some (u.apply a).core
  | _, _ => none

theorem foldl_stepC_none (cfg : Cfg) (ms : List (Bytes × JVal)) : ms.foldl (stepC cfg) none = none := by
  induction ms with
  | nil => rfl
  | cons m ms ih => simpa [List.foldl, stepC] using ih

theorem visitFrom_core (cfg : Cfg) (a : Acc) (ms : List (Bytes × JVal)) :
    (visitFrom cfg a ms).map Acc.core = ms.foldl (stepC cfg) (some a.core) := by
  induction ms generalizing a with
  | nil => rfl
  | cons m ms ih =>
    simp only [visitFrom, List.foldl, visitStep_eq]
    cases he : effect cfg m with
    | none => simp [stepC, he, foldl_stepC_none]
    | some u => simp only [Option.map_some, stepC, he, ih, ← core_apply]

/-- the disjunction is what `nodup_keys_inj` gives for two members of a list with distinct names -/
theorem stepC_comm (cfg : Cfg) (o : Option Acc) (x y : Bytes × JVal) (h : x = y ∨ x.1 ≠ y.1) :
    stepC cfg (stepC cfg o x) y = stepC cfg (stepC cfg o y) x := by
  rcases h with rfl | hne
  · rfl
  · cases o with
    | none => simp [stepC]
    | some a =>
      cases hx : effect cfg x with
      | none => cases hy : effect cfg y <;> simp [stepC, hx, hy]
      | some u₁ =>
        cases hy : effect cfg y with
        | none => simp [stepC, hx, hy]
        | some u₂ =>
          simp only [stepC, hx, hy, ← core_apply]
          congr 1
          apply apply_comm_core
          intro f₁ s₁ f₂ s₂ e₁ e₂ hf
          subst e₁ e₂ hf
          exact hne ((effect_set hx).trans (effect_set hy).symm)

theorem nodup_keys_inj {α β} {ms : List (α × β)} (hn : (ms.map (·.1)).Nodup) {x y : α × β} (hx : x ∈ ms) (hy : y ∈ ms) :
    x = y ∨ x.1 ≠ y.1 := by
  induction ms with
  | nil => cases hx
  | cons m ms ih =>
    simp only [List.map_cons, List.nodup_cons, List.mem_map, not_exists, not_and] at hn
    rcases List.mem_cons.mp hx with rfl | hx' <;> rcases List.mem_cons.mp hy with rfl | hy'
    · exact Or.inl rfl
    · exact Or.inr fun e => hn.1 y hy' e.symm
    · exact Or.inr fun e => hn.1 x hx' e
    · exact ih hn.2 hx' hy'

theorem Acc.finish_core (a : Acc) : a.finish.map Parts.core = a.core.finish := by
  unfold Acc.finish Acc.core
  cases a.kty <;> rfl

theorem visit_core (cfg : Cfg) (ms : List (Bytes × JVal)) :
    (visit cfg ms).map Parts.core = ((visitFrom cfg {} ms).map Acc.core).bind Acc.finish := by
  unfold visit
  cases visitFrom cfg {} ms with
  | none => rfl
  | some a => simpa using Acc.finish_core a

/-- the import reads neither `key_ops` nor `kid` -/
theorem fromJwkAny_extra (cfg : Cfg) (P : Prims) (p : Parts) (o : Option Nat) (kid : Option Bytes) :
    fromJwkAny cfg P { p with keyOps := o, kid := kid } = fromJwkAny cfg P p := rfl

/-! ## `key_ops` / `use` on import -/

/-- the import reads the visited JWK only through its part without `key_ops` (`Parts.core` changes `keyOps` alone, which
    `fromJwkAny` never reads: `fromJwkAny_extra`) -/
theorem fromMembers_core (cfg : Cfg) (P : Prims) (ms : List (Bytes × JVal)) : fromMembers cfg P ms =
    match (visit cfg ms).map Parts.core with
    | some p => fromJwkAny cfg P p
    | none => .err .invalid := by
  unfold fromMembers
  cases visit cfg ms <;> rfl

theorem fromMembers_congr_core (cfg : Cfg) (P : Prims) {ms ms' : List (Bytes × JVal)}
    (h : (visit cfg ms).map Parts.core = (visit cfg ms').map Parts.core) : fromMembers cfg P ms = fromMembers cfg P ms' := by
  rw [fromMembers_core, fromMembers_core, h]

theorem stepC_keyless {cfg : Cfg} {m : Bytes × JVal} {u : Upd} (he : effect cfg m = some u)
    (hu : ∀ a, (u.apply a).core = a.core) (o : Option Acc) : stepC cfg (o.map Acc.core) m = o.map Acc.core := by
  cases o with
  | none => simp [stepC]
  | some a =>
    simp only [Option.map_some, stepC, he, hu]
    rfl

/-- a member whose only effect is on the `key_ops` variable can be dropped without changing anything else -/
theorem visit_keyless_member (cfg : Cfg) (l₁ l₂ : List (Bytes × JVal)) (m : Bytes × JVal) (u : Upd)
    (he : effect cfg m = some u) (hu : ∀ a, (u.apply a).core = a.core) :
    (visit cfg (l₁ ++ m :: l₂)).map Parts.core = (visit cfg (l₁ ++ l₂)).map Parts.core := by
  rw [visit_core, visit_core, visitFrom_core, visitFrom_core, List.foldl_append, List.foldl_append, List.foldl_cons,
    ← visitFrom_core cfg {} l₁, stepC_keyless he hu]

theorem visit_bad_member (cfg : Cfg) (l₁ l₂ : List (Bytes × JVal)) (m : Bytes × JVal) (he : effect cfg m = none) :
    visit cfg (l₁ ++ m :: l₂) = none := by
  unfold visit
  rw [visitFrom_append]
  cases visitFrom cfg {} l₁ with
  | none => rfl
  | some a => simp [visitFrom, visitStep_eq, he]

/-- a visitor that does not consume the value of an unknown member (`consumeUnknown = false`) fails on it: the import fails,
    so it is never a wrong key -/
theorem visit_unknown_fails {cfg : Cfg} (h : cfg.consumeUnknown = false) (ms₁ ms₂ : List (Bytes × JVal)) (k : Bytes) (v : JVal)
    (hk : fieldOf k = none) : visit cfg (ms₁ ++ (k, v) :: ms₂) = none :=
  visit_bad_member cfg ms₁ ms₂ (k, v) (by simp [effect, hk, h])

theorem effect_use (cfg : Cfg) (s : Bytes) : effect cfg (sb "use", .str s) = some (.use s) := by
  simp [effect, fieldOf_use]

theorem effect_keyOps (cfg : Cfg) (xs : List Bytes) : effect cfg (sb "key_ops", .strArr xs) = (opsOf xs 0).map .ops := by
  simp [effect, fieldOf_key_ops]

/-! ## accepted keys are the keys that were encoded -/

/-- what an accepted secret is: of the right length, kept as it is, with the public key the curve computes for it -/
theorem fromSecretBytes_ok {cfg : Cfg} {P : Prims} {alg : Alg} {b : Bytes} {k : Key} (h : fromSecretBytes cfg P alg b = .ok k) :
    k.alg = alg ∧ k.secret = some b ∧ b.length = alg.secretLen ∧ (alg.isSymmetric = false → P.pubOf alg b = some k.pub) := by
  rw [fromSecretBytes_eq] at h
  split at h
  · split at h <;> cases h
  · rename_i hl
    have hl : b.length = alg.secretLen := by simpa using hl
    split at h
    · rename_i hs
      cases h
      exact ⟨rfl, rfl, hl, fun hn => by rw [hs] at hn; cases hn⟩
    · split at h
      · rename_i p hp
        cases h
        exact ⟨rfl, rfl, hl, fun _ => hp⟩
      · cases h

theorem toSecretBytes_of_secret {k : Key} {b : Bytes} (h : k.secret = some b) : toSecretBytes k = .ok b := by
  rw [toSecretBytes, h]

/-- a key pair is consistent when its public part is the public key of its secret -/
def Key.Consistent (P : Prims) (k : Key) : Prop :=
  ∀ d, k.secret = some d → k.alg.isSymmetric = false → P.pubOf k.alg d = some k.pub

theorem fromSecretBytes_consistent {cfg : Cfg} {P : Prims} {alg : Alg} {b : Bytes} {k : Key}
    (h : fromSecretBytes cfg P alg b = .ok k) : k.Consistent P := by
  obtain ⟨ha, hs, _, hp⟩ := fromSecretBytes_ok h
  intro d hd hsym
  rw [hs] at hd
  cases hd
  rw [ha] at hsym ⊢
  exact hp hsym

theorem fromPublicBytes_public_only {P : Prims} {alg : Alg} {b : Bytes} {k : Key}
    (h : fromPublicBytes P alg b = .ok k) : k.secret = none ∧ k.alg = alg := by
  unfold fromPublicBytes at h
  split at h <;> first | (cases h; exact ⟨rfl, rfl⟩) | cases h

theorem bind_no_panic {α β} {r : Res α} {f : α → Res β} (hr : r.isPanic = false)
    (hf : ∀ a, r = .ok a → (f a).isPanic = false) : (r >>= f).isPanic = false := by
  cases r with
  | ok a => exact hf a rfl
  | err e => rfl
  | panic s => cases hr

theorem bind_ok_inv {α β} {r : Res α} {f : α → Res β} {b : β} (h : (r >>= f) = .ok b) : ∃ a, r = .ok a ∧ f a = .ok b := by
  cases r with
  | ok a => exact ⟨a, rfl, h⟩
  | err e => cases h
  | panic s => cases h

theorem checkPublic_ok {k k' : Key} {pk : Bytes} (h : checkPublic k pk = .ok k') : k' = k ∧ k.pub = pk := by
  unfold checkPublic at h
  split at h
  · cases h; exact ⟨rfl, by assumption⟩
  · cases h

/-! ## `from_jwk_parts`: one shape for all key types -/

/-- the `d` member of a JWK whose other members gave the public key `pk`: if present it must be a secret with that public key;
    if absent the result is the public-only key `pubOnly` -/
def importD (cfg : Cfg) (P : Prims) (alg : Alg) (j : Parts) (pk : Bytes) (pubOnly : Res Key) : Res Key :=
  if j.d.isSome then do
    let d ← decodeExact j.d alg.secretLen
    let kp ← fromSecretBytes cfg P alg d
    checkPublic kp pk
  else pubOnly

/-- the body of `from_jwk_parts` of the Weierstrass types: `x`, `y` are the coordinates of a point -/
def importEc (cfg : Cfg) (P : Prims) (alg : Alg) (j : Parts) : Res Key := do
  let x ← decodeExact j.x alg.secretLen
  let y ← decodeExact j.y alg.secretLen
  match P.fromAffine alg x y with
  | none => .err .invalidKeyData
  | some pk => importD cfg P alg j pk (.ok { alg := alg, secret := none, pub := pk })

/-- the body of `from_jwk_parts` of the other types: `x` is the encoded public key -/
def importOkp (cfg : Cfg) (P : Prims) (alg : Alg) (j : Parts) : Res Key := do
  let x ← decodeExact j.x alg.pubLen
  importD cfg P alg j x (fromPublicBytes P alg x)

theorem Alg.of_bls {alg : Alg} (h : alg.isBls = true) : alg.isSymmetric = false ∧ alg.secretLen = 32 := by
  revert h
  cases alg <;> decide

/-- all sixteen `from_jwk_parts` have one shape: no import for symmetric keys, the `kty` / `crv` guard, then one of two bodies -/
theorem fromJwkParts_eq (cfg : Cfg) (P : Prims) (alg : Alg) (j : Parts) : fromJwkParts cfg P alg j =
    if alg.isSymmetric then .err .unsupported
    else if alg.ktyOk j.kty = false then .err .invalidKeyData
    else if j.crv ≠ some (sb alg.jwkCrv) then .err .invalidKeyData
    else if alg.isEc then importEc cfg P alg j else importOkp cfg P alg j := by
  -- by the model's own branches: the Weierstrass types and the BLS types each share one body, written with `alg`
  -- in the Weierstrass case `simp` stops at two sides that print alike and differ only in the auxiliary matcher the compiler made
  -- for the `match` on `fromAffine` (one for the model, one for `importEc`): `rfl` unfolds both
  unfold fromJwkParts
  cases he : alg.isEc
  · cases hb : alg.isBls
    · by_cases hx : alg = .ed25519 ∨ alg = .x25519
      · rcases hx with rfl | rfl <;>
          simp [Alg.ktyOk, Alg.isSymmetric, Alg.isEc, Alg.isBls, importOkp, importD, Alg.secretLen, Alg.pubLen, checkPublic]
      · have hs : alg.isSymmetric = true := by
          revert he hb hx
          cases alg <;> decide
        simp [hx, hs]
    · obtain ⟨hs, hl⟩ := Alg.of_bls hb
      simp [Alg.ktyOk, he, hb, hs, hl, importOkp, importD, checkPublic]
  · simp [Alg.ktyOk, he, Alg.not_symmetric_of_ec he, importEc, importD, checkPublic]
    rfl

theorem fromJwkParts_of_guards (cfg : Cfg) (P : Prims) {alg : Alg} {j : Parts} (hs : alg.isSymmetric = false)
    (hk : alg.ktyOk j.kty = true) (hc : j.crv = some (sb alg.jwkCrv)) :
    fromJwkParts cfg P alg j = if alg.isEc then importEc cfg P alg j else importOkp cfg P alg j := by
  rw [fromJwkParts_eq, hs, hk, if_neg (by decide), if_neg (by decide), if_neg (not_not_intro hc)]

theorem fromJwkParts_cases (cfg : Cfg) (P : Prims) (alg : Alg) (j : Parts) :
    (∃ e, fromJwkParts cfg P alg j = .err e) ∨
    (alg.isSymmetric = false ∧ alg.ktyOk j.kty = true ∧ j.crv = some (sb alg.jwkCrv) ∧
      fromJwkParts cfg P alg j = if alg.isEc then importEc cfg P alg j else importOkp cfg P alg j) := by
  cases hs : alg.isSymmetric
  case true => exact Or.inl ⟨_, by rw [fromJwkParts_eq, hs]; rfl⟩
  cases hk : alg.ktyOk j.kty
  case false => exact Or.inl ⟨_, by rw [fromJwkParts_eq, hs, hk]; rfl⟩
  by_cases hc : j.crv = some (sb alg.jwkCrv)
  · exact Or.inr ⟨rfl, rfl, hc, fromJwkParts_of_guards cfg P hs hk hc⟩
  · exact Or.inl ⟨_, by rw [fromJwkParts_eq, hs, hk, if_neg (by decide), if_neg (by decide), if_pos hc]⟩

theorem importD_no_panic (cfg : Cfg) (P : Prims) (alg : Alg) (j : Parts) (pk : Bytes) {r : Res Key} (hr : r.isPanic = false) :
    (importD cfg P alg j pk r).isPanic = false := by
  unfold importD
  split
  · -- `d` has been decoded into exactly `secretLen` bytes when it reaches the conversion
    refine bind_no_panic (decodeExact_no_panic _ _) fun d hd => ?_
    refine bind_no_panic (fromSecretBytes_no_panic_of cfg P alg d (Or.inr (Or.inl (decodeExact_length hd)))) fun kp _ => ?_
    exact checkPublic_no_panic _ _
  · exact hr

theorem importD_ok {cfg : Cfg} {P : Prims} {alg : Alg} {j : Parts} {pk : Bytes} {r : Res Key} {k : Key}
    (h : importD cfg P alg j pk r = .ok k) :
    (j.d.isSome ∧ ∃ d, decodeExact j.d alg.secretLen = .ok d ∧ fromSecretBytes cfg P alg d = .ok k ∧ k.pub = pk) ∨
    (j.d = none ∧ r = .ok k) := by
  unfold importD at h
  split at h
  · rename_i hd
    obtain ⟨d, hdd, h⟩ := bind_ok_inv h
    obtain ⟨kp, hkp, h⟩ := bind_ok_inv h
    obtain ⟨rfl, hpub⟩ := checkPublic_ok h
    exact Or.inl ⟨hd, d, hdd, hkp, hpub⟩
  · rename_i hd
    exact Or.inr ⟨by simpa using hd, h⟩

theorem importEc_no_panic (cfg : Cfg) (P : Prims) (alg : Alg) (j : Parts) : (importEc cfg P alg j).isPanic = false := by
  refine bind_no_panic (decodeExact_no_panic _ _) fun x _ => ?_
  refine bind_no_panic (decodeExact_no_panic _ _) fun y _ => ?_
  split
  · rfl
  · exact importD_no_panic _ _ _ _ _ rfl

theorem importOkp_no_panic (cfg : Cfg) (P : Prims) (alg : Alg) (j : Parts) : (importOkp cfg P alg j).isPanic = false :=
  bind_no_panic (decodeExact_no_panic _ _) fun _ _ => importD_no_panic _ _ _ _ _ (fromPublicBytes_no_panic _ _ _)

theorem importEc_ok {cfg : Cfg} {P : Prims} {alg : Alg} {j : Parts} {k : Key} (h : importEc cfg P alg j = .ok k) :
    ∃ x y pk, decodeExact j.x alg.secretLen = .ok x ∧ decodeExact j.y alg.secretLen = .ok y ∧ P.fromAffine alg x y = some pk ∧
      importD cfg P alg j pk (.ok { alg := alg, secret := none, pub := pk }) = .ok k := by
  obtain ⟨x, hx, h⟩ := bind_ok_inv h
  obtain ⟨y, hy, h⟩ := bind_ok_inv h
  split at h
  · cases h
  · rename_i pk hpk
    exact ⟨x, y, pk, hx, hy, hpk, h⟩

theorem importOkp_ok {cfg : Cfg} {P : Prims} {alg : Alg} {j : Parts} {k : Key} (h : importOkp cfg P alg j = .ok k) :
    ∃ x, decodeExact j.x alg.pubLen = .ok x ∧ importD cfg P alg j x (fromPublicBytes P alg x) = .ok k :=
  bind_ok_inv h

theorem fromJwkParts_no_panic (cfg : Cfg) (P : Prims) (alg : Alg) (j : Parts) : (fromJwkParts cfg P alg j).isPanic = false := by
  rcases fromJwkParts_cases cfg P alg j with ⟨e, he⟩ | ⟨_, _, _, he⟩ <;> rw [he]
  · rfl
  split
  · exact importEc_no_panic cfg P alg j
  · exact importOkp_no_panic cfg P alg j

theorem fromJwkAny_no_panic (cfg : Cfg) (P : Prims) (j : Parts) : (fromJwkAny cfg P j).isPanic = false := by
  unfold fromJwkAny
  split
  · exact fromJwkParts_no_panic _ _ _ _
  · rfl

theorem fromJwk_no_panic (cfg : Cfg) (P : Prims) (text : Bytes) : (fromJwk cfg P text).isPanic = false := by
  unfold fromJwk
  split
  · exact fromJwkAny_no_panic _ _ _
  · rfl

/-- what an accepted JWK went through: the guard, the public key `pk` from `x` (and `y`), and then either `d` as the secret of
    `pk` or the public-only import of `pk` -/
theorem fromJwkParts_ok {cfg : Cfg} {P : Prims} {alg : Alg} {j : Parts} {k : Key} (h : fromJwkParts cfg P alg j = .ok k) :
    alg.isSymmetric = false ∧ alg.ktyOk j.kty = true ∧ j.crv = some (sb alg.jwkCrv) ∧ ∃ pk,
      (if alg.isEc then ∃ x y, decodeExact j.x alg.secretLen = .ok x ∧ decodeExact j.y alg.secretLen = .ok y ∧
          P.fromAffine alg x y = some pk
        else decodeExact j.x alg.pubLen = .ok pk) ∧
      ((j.d.isSome ∧ ∃ d, decodeExact j.d alg.secretLen = .ok d ∧ fromSecretBytes cfg P alg d = .ok k ∧ k.pub = pk) ∨
       (j.d = none ∧ (if alg.isEc then Res.ok { alg := alg, secret := none, pub := pk } else fromPublicBytes P alg pk) = .ok k)) := by
  rcases fromJwkParts_cases cfg P alg j with ⟨e, he⟩ | ⟨hs, hk, hc, he⟩ <;> rw [he] at h
  · cases h
  refine ⟨hs, hk, hc, ?_⟩
  cases hec : alg.isEc <;> rw [hec] at h
  · obtain ⟨x, hx, h⟩ := importOkp_ok h
    exact ⟨x, hx, importD_ok h⟩
  · obtain ⟨x, y, pk, hx, hy, hpk, h⟩ := importEc_ok h
    exact ⟨pk, ⟨x, y, hx, hy, hpk⟩, importD_ok h⟩

/-- what an accepted JWK guarantees: with `d`, the key is the pair (d, public key of d) and the encoded public members are
    that public key (so a mismatched `d`/`x`/`y` is never accepted); without `d` the key has no secret.
    For the Weierstrass curves the point was checked to be on the curve (`fromAffine` succeeded). -/
theorem import_checks {cfg : Cfg} {P : Prims} {alg : Alg} {j : Parts} {k : Key} (h : fromJwkParts cfg P alg j = .ok k) :
    k.Consistent P ∧
    (j.d = none → k.secret = none) ∧
    (j.d.isSome → ∃ d, decodeExact j.d alg.secretLen = .ok d ∧ k.secret = some d) ∧
    (alg.isEc = true → ∃ x y, decodeExact j.x alg.secretLen = .ok x ∧ decodeExact j.y alg.secretLen = .ok y ∧
        P.fromAffine alg x y = some k.pub) ∧
    (alg.isEc = false → j.d.isSome → decodeExact j.x alg.pubLen = .ok k.pub) := by
  obtain ⟨_, _, _, pk, hpk, hd⟩ := fromJwkParts_ok h
  rcases hd with ⟨hd, d, hdd, hkp, rfl⟩ | ⟨hd, hpub⟩
  · -- with `d`: the key is the one made from `d`, and its public key is what `x` (and `y`) gave
    refine ⟨fromSecretBytes_consistent hkp, fun hn => by simp [hn] at hd, fun _ => ⟨d, hdd, (fromSecretBytes_ok hkp).2.1⟩,
      fun hec => by simpa [hec] using hpk, fun hec _ => by simpa [hec] using hpk⟩
  · -- without `d`: no secret
    have hsec : k.secret = none := by
      split at hpub
      · cases hpub; rfl
      · exact (fromPublicBytes_public_only hpub).1
    refine ⟨fun d hd' => by simp [hsec] at hd', fun _ => hsec, fun hs => by simp [hd] at hs, fun hec => ?_,
      fun _ hs => by simp [hd] at hs⟩
    rw [if_pos hec] at hpk hpub
    cases hpub
    exact hpk

/-! ## the parser on a member the encoder wrote -/

/-- no `"` and no `\` -/
def Clean (s : Bytes) : Bool := s.all fun c => c != 34 && c != 92

/-- what `JwkBufferEncoder` can be asked to write without producing something else than it was asked for:
    no `"` and no `\` in a member name or in a member value -/
def MembersClean (ms : List Member) : Bool := ms.all fun m => Clean (sb m.1) && Clean m.2

def memText (m : Member) : Bytes := sb "\"" ++ sb m.1 ++ sb "\":\"" ++ m.2 ++ sb "\""

/-- the text of the members after the first -/
def tailText : List Member → Bytes
  | [] => []
  | m :: ms => 44 :: (memText m ++ tailText ms)

/-- the token-level view of what the encoder wrote -/
def toks (ms : List Member) : List (Bytes × JVal) := ms.map fun m => (sb m.1, JVal.str m.2)

theorem toks_cons (m : Member) (ms : List Member) : toks (m :: ms) = (sb m.1, JVal.str m.2) :: toks ms := rfl

theorem sb_quote : sb "\"" = [34] := by decide
theorem sb_quote_colon_quote : sb "\":\"" = [34, 58, 34] := by decide

theorem memText_eq (m : Member) (r : Bytes) :
    memText m ++ r = 34 :: (sb m.1 ++ 34 :: 58 :: 34 :: (m.2 ++ 34 :: r)) := by
  simp [memText, sb_quote, sb_quote_colon_quote]

theorem intercalate_tail (ms : List Member) (m : Member) :
    List.intercalate (sb ",") ((m :: ms).map fun m => sb "\"" ++ sb m.1 ++ sb "\":\"" ++ m.2 ++ sb "\"")
      = memText m ++ tailText ms := by
  induction ms generalizing m with
  | nil => simp [tailText, memText]
  | cons m' ms ih =>
    have h1 : sb "," = [44] := by decide
    have h := ih m'
    simp only [List.map_cons] at h
    rw [List.map_cons, List.map_cons, List.intercalate_cons_cons, h]
    simp [tailText, h1, memText]

theorem renderMembers_cons (m : Member) (ms : List Member) :
    renderMembers (m :: ms) = 123 :: (memText m ++ (tailText ms ++ [125])) := by
  have h1 : sb "{" = [123] := by decide
  have h2 : sb "}" = [125] := by decide
  simp only [renderMembers]
  rw [intercalate_tail, h1, h2]
  simp

theorem skipWs_cons (c : UInt8) (r : Bytes) (h : isWs c = false := by decide) : skipWs (c :: r) = c :: r := by
  simp [skipWs, h]

theorem Clean_cons {c : UInt8} {s : Bytes} : Clean (c :: s) = true ↔ (c ≠ 34 ∧ c ≠ 92) ∧ Clean s = true := by
  simp [Clean]

theorem strBody_clean {s : Bytes} (hs : Clean s = true) (r acc : Bytes) :
    strBody (s ++ 34 :: r) false acc = some (acc.reverse ++ s, r) := by
  induction s generalizing acc with
  | nil => simp [strBody]
  | cons c s ih =>
    obtain ⟨⟨h1, h2⟩, hs'⟩ := Clean_cons.mp hs
    simp only [List.cons_append, strBody, h1, h2, if_false]
    rw [ih hs']
    simp

theorem deStr_quoted {s : Bytes} (hs : Clean s = true) (r : Bytes) : deStr (34 :: (s ++ 34 :: r)) = some (s, r) := by
  simp [deStr, skipWs_cons 34 _, strBody_clean hs]

theorem colon_cons (r : Bytes) : colon (58 :: r) = some r := by
  simp [colon, skipWs_cons 58 _]

theorem valueStr_quoted {s : Bytes} (hs : Clean s = true) (r : Bytes) :
    valueStr (58 :: 34 :: (s ++ 34 :: r)) = some (s, r) := by
  simp [valueStr, colon_cons, deStr_quoted hs]

theorem mapNext_first (r : Bytes) : mapNext (34 :: r) true = some (some (34 :: r)) := by
  simp [mapNext, skipWs_cons 34 _]

theorem mapNext_comma (r : Bytes) : mapNext (44 :: 34 :: r) false = some (some (34 :: r)) := by
  simp [mapNext, skipWs_cons 34 _, skipWs_cons 44 _]

theorem mapNext_close (r : Bytes) (first : Bool) : mapNext (125 :: r) first = some none := by
  simp [mapNext, skipWs_cons 125 _]

theorem mapNext_colon (r : Bytes) : mapNext (58 :: r) false = none := by
  simp [mapNext, skipWs_cons 58 _]

theorem deKeyOps_quote (r : Bytes) : deKeyOps (34 :: r) = none := by
  simp [deKeyOps, skipWs_cons 34 _]

theorem ignoredAny_quoted {s : Bytes} (hs : Clean s = true) (r : Bytes) (fuel : Nat) :
    ignoredAny (fuel + 1) (34 :: (s ++ 34 :: r)) = some r := by
  simp [ignoredAny, skipWs_cons 34 _, strBody_clean hs]

/-- one turn of the loop on one member written by the encoder -/
theorem mapLoop_member (cfg : Cfg) (fuel : Nat) (inp : Bytes) (first : Bool) (a : Acc) (m : Member) (r : Bytes)
    (hn : Clean (sb m.1) = true) (hv : Clean m.2 = true) (hnext : mapNext inp first = some (some (memText m ++ r))) :
    mapLoop cfg (fuel + 1) inp first a =
      match visitStep cfg a (sb m.1, JVal.str m.2) with
      | some a' => mapLoop cfg fuel r false a'
      | none => none := by
  rw [mapLoop, hnext]
  simp only [memText_eq, deStr_quoted hn]
  cases hf : fieldOf (sb m.1) with
  | none =>
    simp only [visitStep, hf]
    cases hc : cfg.consumeUnknown with
    | true =>
      simp [colon_cons, ignoredAny_quoted hv]
    | false =>
      simp only [Bool.false_eq_true, if_false]
      cases fuel with
      | zero => simp [mapLoop]
      | succ f => simp [mapLoop, mapNext_colon]
  | some f =>
    cases f <;> simp [visitStep, hf, valueStr_quoted hv, colon_cons, deKeyOps_quote]

/-! ## export, then import -/

theorem Clean_b64encode (b : Bytes) : Clean (b64encode b) = true := by
  fun_induction b64encode b with
  | case1 a b c rest ih => simp only [Clean_cons, sym_clean, ih, and_self, ne_eq, not_false_eq_true]
  | case2 a b => simp [Clean, sym_clean]
  | case3 a => simp [Clean, sym_clean]
  | case4 => rfl

theorem decodeExact_encode {b : Bytes} {n : Nat} (h : b.length = n) : decodeExact (some (b64encode b)) n = .ok b := by
  simp [decodeExact, decodeBase64, b64encode_length, b64_roundtrip, h]

/-- lengths as the key types hold them (`Alg.pubLen`, `Alg.secretLen`) -/
def Key.WellSized (k : Key) : Prop :=
  k.pub.length = k.alg.pubLen ∧ ∀ d, k.secret = some d → d.length = k.alg.secretLen

/-- Weierstrass curves: the stored point is on the curve — `from_affine_coordinates(x, y)` accepts it and gives it back -/
def Key.OnCurve (P : Prims) (k : Key) : Prop :=
  k.alg.isEc = true → P.fromAffine k.alg (k.pub.take k.alg.secretLen) (k.pub.drop k.alg.secretLen) = some k.pub

/-- Ed25519 / BLS: the stored public key is the canonical encoding, i.e. the crate's decoder accepts it and gives it back -/
def Key.PubCanonical (P : Prims) (k : Key) : Prop :=
  match k.alg with
  | .ed25519 => P.decodePub .ed25519 k.pub = some k.pub
  | .blsG1 => P.decodePub .blsG1 k.pub = some k.pub
  | .blsG2 => P.decodePub .blsG2 k.pub = some k.pub
  | .blsG1G2 => P.decodePub .blsG1 (k.pub.take 48) = some (k.pub.take 48) ∧ P.decodePub .blsG2 (k.pub.drop 48) = some (k.pub.drop 48)
  | _ => True

/-- the curve laws: a public key computed from a secret is on the curve / is a canonical encoding -/
structure Prims.CurveLaws (P : Prims) : Prop where
  onCurve : ∀ alg d p, alg.isEc = true → P.pubOf alg d = some p →
    P.fromAffine alg (p.take alg.secretLen) (p.drop alg.secretLen) = some p
  canonical : ∀ alg d p, alg = .ed25519 ∨ alg = .blsG1 ∨ alg = .blsG2 → P.pubOf alg d = some p → P.decodePub alg p = some p
  canonicalG1G2 : ∀ d p, P.pubOf .blsG1G2 d = some p →
    P.decodePub .blsG1 (p.take 48) = some (p.take 48) ∧ P.decodePub .blsG2 (p.drop 48) = some (p.drop 48)

theorem Key.onCurve_of_laws {P : Prims} (hP : P.CurveLaws) {k : Key} (hc : k.Consistent P) (ha : k.alg.isSymmetric = false)
    {d : Bytes} (hd : k.secret = some d) : k.OnCurve P :=
  fun he => hP.onCurve k.alg d k.pub he (hc d hd ha)

theorem Key.pubCanonical_of_laws {P : Prims} (hP : P.CurveLaws) {k : Key} (hc : k.Consistent P) (ha : k.alg.isSymmetric = false)
    {d : Bytes} (hd : k.secret = some d) : k.PubCanonical P := by
  have hp := hc d hd ha
  obtain ⟨alg, sec, pub⟩ := k
  cases alg <;> simp only [Key.PubCanonical]
  · exact hP.canonical _ d pub (Or.inr (Or.inl rfl)) hp
  · exact hP.canonical _ d pub (Or.inr (Or.inr rfl)) hp
  · exact hP.canonicalG1G2 d pub hp
  · exact hP.canonical _ d pub (Or.inl rfl) hp

/-- what the exported members are parsed into -/
def exportParts (k : Key) (withD : Bool) : Parts :=
  { kty := sb k.alg.jwkKty, crv := some (sb k.alg.jwkCrv),
    x := some (b64encode (if k.alg.isEc then k.pub.take k.alg.secretLen else k.pub)),
    y := if k.alg.isEc then some (b64encode (k.pub.drop k.alg.secretLen)) else none,
    d := if withD then k.secret.map b64encode else none }

theorem Clean_crv (alg : Alg) : Clean (sb alg.jwkCrv) = true := by cases alg <;> decide +kernel
theorem Clean_jwkAlg (alg : Alg) : Clean (sb alg.jwkAlg) = true := by cases alg <;> decide +kernel

theorem pubMembers_clean (k : Key) (a : Option Alg) : MembersClean (pubMembers k a) = true := by
  have hv : Clean (sb (blsView k a).1) = true := by
    unfold blsView
    split
    · exact Clean_crv _
    · split <;> exact Clean_crv _
  unfold pubMembers
  split <;> simp [-List.all_eq_true, MembersClean, Clean_b64encode, Clean_crv, hv] <;> decide +kernel

theorem secretMember_clean (k : Key) (mode : Mode) : MembersClean (secretMember k mode) = true := by
  unfold secretMember
  split
  · cases k.secret
    · rfl
    · simp [-List.all_eq_true, MembersClean, Clean_b64encode]; decide +kernel
  · rfl

theorem MembersClean_append (l₁ l₂ : List Member) : MembersClean (l₁ ++ l₂) = (MembersClean l₁ && MembersClean l₂) :=
  List.all_append

theorem encodeJwk_clean (k : Key) (mode : Mode) (a : Option Alg) (ms : List Member) (h : encodeJwk k mode a = .ok ms) :
    MembersClean ms = true := by
  cases hs : k.alg.isSymmetric
  · rw [encodeJwk_asym hs] at h
    cases h
    rw [MembersClean_append, pubMembers_clean, secretMember_clean]
    rfl
  · rw [encodeJwk_sym hs] at h
    split at h
    · cases h
    · cases h
      split <;> simp [-List.all_eq_true, MembersClean, Clean_b64encode, Clean_jwkAlg] <;> decide +kernel

/-- the members `toJwk` writes for an asymmetric key are clean, and the visitor collects them into `exportParts` -/
theorem export_visit (cfg : Cfg) (k : Key) (ha : k.alg.isSymmetric = false) (withD : Bool) :
    ∃ ms, encodeJwk k (if withD then .secretKey else .publicKey) none = .ok ms ∧ MembersClean ms = true ∧
      visit cfg (toks ms) = some (exportParts k withD) := by
  refine ⟨_, encodeJwk_asym ha _ _, encodeJwk_clean k _ none _ (encodeJwk_asym ha _ _), ?_⟩
  unfold pubMembers secretMember exportParts
  rw [blsView_none, Alg.jwkKty, ha]
  cases k.alg.isEc <;> cases withD <;> cases k.secret <;>
    simp [toks, visit, visitFrom, visitStep, fieldOf_crv, fieldOf_kty, fieldOf_x, fieldOf_y, fieldOf_d, Acc.finish]

/-- `from_jwk_any` dispatches on `kty` and `crv` alone, and the names of the eight asymmetric types are told apart -/
theorem selectAlg_of {alg : Alg} (ha : alg.isSymmetric = false) {j : Parts} (hk : j.kty = sb alg.jwkKty)
    (hc : j.crv = some (sb alg.jwkCrv)) : selectAlg j = some alg := by
  have table : ∀ alg ∈ Alg.all, alg.isSymmetric = false →
      selectAlg { kty := sb alg.jwkKty, crv := some (sb alg.jwkCrv) } = some alg := by decide +kernel
  have := table alg alg.mem_all ha
  unfold selectAlg at this ⊢
  rw [hk, hc]
  exact this

theorem selectAlg_export (k : Key) (ha : k.alg.isSymmetric = false) (withD : Bool) :
    selectAlg (exportParts k withD) = some k.alg := selectAlg_of ha rfl rfl

theorem Alg.ktyOk_jwkKty {alg : Alg} (h : alg.isSymmetric = false) : alg.ktyOk (sb alg.jwkKty) = true := by
  unfold Alg.ktyOk Alg.jwkKty
  rw [h]
  cases alg.isEc <;> cases alg.isBls <;> decide +kernel

theorem Alg.pubLen_ec {alg : Alg} (h : alg.isEc = true) : alg.pubLen = alg.secretLen + alg.secretLen := by
  cases alg <;> first | rfl | cases h

theorem fromSecretBytes_of_pubOf (cfg : Cfg) {P : Prims} {alg : Alg} {d p : Bytes} (ha : alg.isSymmetric = false)
    (hl : d.length = alg.secretLen) (hp : P.pubOf alg d = some p) :
    fromSecretBytes cfg P alg d = .ok { alg := alg, secret := some d, pub := p } := by
  rw [fromSecretBytes_eq, if_neg (by simpa using hl), ha, hp]
  rfl

/-- the public-bytes import gives back a stored public key that is canonical (no Weierstrass curve: those go through `fromAffine`) -/
theorem fromPublicBytes_canonical {P : Prims} {k : Key} (ha : k.alg.isSymmetric = false) (he : k.alg.isEc = false)
    (hl : k.pub.length = k.alg.pubLen) (hpc : k.PubCanonical P) :
    fromPublicBytes P k.alg k.pub = .ok { k with secret := none } := by
  obtain ⟨alg, sec, pub⟩ := k
  cases alg <;> simp_all [fromPublicBytes, decodePublic, Key.PubCanonical, Alg.pubLen, Alg.isSymmetric, Alg.isEc]

/-- the `d` step on the exported members: with `d` written, the key itself; otherwise the public-only key, if that is what the
    public members alone give -/
theorem importD_export (cfg : Cfg) {P : Prims} {k : Key} (ha : k.alg.isSymmetric = false) (hs : k.WellSized)
    (hc : k.Consistent P) (withD : Bool) (r : Res Key)
    (hr : withD = false ∨ k.secret = none → r = .ok { k with secret := none }) :
    importD cfg P k.alg (exportParts k withD) k.pub r = .ok (if withD then k else { k with secret := none }) := by
  obtain ⟨alg, sec, pub⟩ := k
  unfold importD exportParts
  cases withD
  · simpa using hr (Or.inl rfl)
  · cases sec with
    | none => simpa using hr (Or.inr rfl)
    | some d =>
      have hl := hs.2 d rfl
      simp [decodeExact_encode hl, fromSecretBytes_of_pubOf cfg ha hl (hc d rfl ha), checkPublic]

theorem fromJwkParts_export (cfg : Cfg) (P : Prims) (k : Key) (ha : k.alg.isSymmetric = false) (hs : k.WellSized)
    (hc : k.Consistent P) (hoc : k.OnCurve P) (withD : Bool) (hpc : withD = false ∨ k.secret = none → k.PubCanonical P) :
    fromJwkParts cfg P k.alg (exportParts k withD) = .ok (if withD then k else { k with secret := none }) := by
  rw [fromJwkParts_of_guards cfg P (j := exportParts k withD) ha (Alg.ktyOk_jwkKty ha) rfl]
  cases hec : k.alg.isEc
  · simp only [Bool.false_eq_true, if_false, importOkp, exportParts, hec, decodeExact_encode hs.1, Res.bind_ok]
    exact importD_export cfg ha hs hc withD _ fun h => fromPublicBytes_canonical ha hec hs.1 (hpc h)
  · have hx : (k.pub.take k.alg.secretLen).length = k.alg.secretLen := by
      rw [List.length_take, hs.1, Alg.pubLen_ec hec]; omega
    have hy : (k.pub.drop k.alg.secretLen).length = k.alg.secretLen := by
      rw [List.length_drop, hs.1, Alg.pubLen_ec hec]; omega
    simp only [if_true, importEc, exportParts, hec, decodeExact_encode hx, decodeExact_encode hy, Res.bind_ok, hoc hec]
    exact importD_export cfg ha hs hc withD _ fun _ => rfl

end Askar.Jwk
