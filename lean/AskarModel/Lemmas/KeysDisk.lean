/-
Lemmas for Model/KeysDisk.lean (C08, model A′): the key-reference / salt codec fails with exact error kinds,
`readConfig` accepts exactly the well-formed `config` rows, `open_db` on such rows refuses with a documented kind, re-key
over an unloadable profile key, the profile-key record reader.  `LoadKinds` and `Documented` are hypothesis and
conclusion of `C08.open_refused_with_documented_kind`.
-/
import AskarModel.Model.KeysDisk
import AskarModel.Lemmas.Keys
import AskarModel.Lemmas.Cbor

namespace Askar.Keys
open Askar.Uri (Str splitOnce)

variable {C : Crypto} {I : Type}

theorem Except.map_eq_error {α β ε : Type} {f : α → β} {x : Except ε α} {e : ε} (h : x.map f = .error e) : x = .error e := by
  cases x with
  | ok a => simp [Except.map] at h
  | error e' => simpa [Except.map] using h

/-! ### the codec of `config.key`: exact error kinds -/

theorem kdfLevelDetail_err {m rest : Str} {e : Err} (h : kdfLevelDetail m rest = .error e) : e = .unsupported := by
  unfold kdfLevelDetail at h
  simp only at h
  split at h
  · split at h
    · cases h
    · cases h; rfl
  · cases h; rfl

theorem kdfDecode_err {s : Str} {e : Err} (h : kdfDecode s = .error e) : e = .unsupported := by
  unfold kdfDecode at h
  simp only at h
  split at h
  · exact kdfLevelDetail_err h
  · cases h; rfl

theorem keyRef_parse_err {s : Str} {e : Err} (h : KeyRef.parse s = .error e) : e = .unsupported := by
  unfold KeyRef.parse at h
  simp only at h
  split at h
  · cases h
  · split at h
    · exact kdfDecode_err (Except.map_eq_error h)
    · split at h
      · cases h
      · cases h; rfl

theorem method_parse_err {s : Str} {e : Err} (h : Method.parse s = .error e) : e = .unsupported :=
  keyRef_parse_err (Except.map_eq_error (methodParse_eq s ▸ h))

/-- the prefix decides: `raw` followed by `:` and ANYTHING is the raw reference (trailing text is not looked at) -/
theorem keyRef_parse_raw (s : Str) (h : (splitOnce 0x3A s).1 = sRaw) : KeyRef.parse s = .ok .raw := by
  unfold KeyRef.parse; simp [h]

theorem keyRef_parse_none (s : Str) (h : (splitOnce 0x3A s).1 = sNone) : KeyRef.parse s = .ok .unprotected := by
  unfold KeyRef.parse
  have h1 : sNone ≠ sRaw := by decide
  have h2 : sNone ≠ sKdf := by decide
  simp [h, h1, h2]

theorem parseSalt_err {d : Str} {e : Err} (h : parseSalt d = .error e) : e = .input := by
  unfold parseSalt at h
  split at h
  · split at h
    · split at h
      · cases h
      · cases h; rfl
    · cases h; rfl
  · cases h; rfl

/-- the salt is accepted iff the LAST `salt` parameter of the detail is the hex text of exactly 16 bytes -/
theorem parseSalt_ok_iff (d : Str) (b : Bytes) :
    parseSalt d = .ok b ↔
      ∃ s, Uri.mapGet (Uri.parseUri d).query sSalt = some s ∧ hexDecode s = some b ∧ b.length = 16 := by
  unfold parseSalt
  constructor
  · intro h
    split at h
    · rename_i s hs
      split at h
      · rename_i b' hb
        split at h
        · rename_i hl
          cases h
          exact ⟨s, hs, hb, hl⟩
        · cases h
      · cases h
    · cases h
  · rintro ⟨s, hs, hb, hl⟩
    simp [hs, hb, hl]

theorem keyRef_resolve_err {r : KeyRef} {pass : PassKey} {e : Err} (h : r.resolve C pass = .error e) : e = .input := by
  cases r with
  | kdf l d =>
    simp only [KeyRef.resolve] at h
    split at h
    · exact parseSalt_err (Except.map_eq_error h)
    · cases h; rfl
  | raw =>
    simp only [KeyRef.resolve] at h
    split at h
    · split at h
      · cases h
      · cases h; rfl
    · cases h; rfl
  | unprotected => simp [KeyRef.resolve] at h

/-! ### `open_db` on arbitrary rows -/

theorem Cell.isBlob_iff (c : Cell) : c.isBlob = true ↔ c = .blob := by cases c <;> simp [Cell.isBlob]

theorem Cell.text?_eq_some (c : Cell) (s : Str) : c.text? = some s ↔ c = .text s := by cases c <;> simp [Cell.text?]

theorem readConfig_ofStore (st : Store C I) (p : Option Str) :
    readConfig (Config.ofStore st) p = .ok (p.getD st.defaultProfile, st.keyRef) := by
  cases p <;> simp [readConfig, Config.ofStore, Cell.isBlob, Cell.text?]

theorem openCfg_ofStore (st : Store C I) (m : Option Method) (pass : PassKey) (p : Option Str) :
    openCfg C (Config.ofStore st) st.profiles st.items m pass p = openDb C st m pass p := by
  unfold openCfg
  rw [readConfig_ofStore]
  cases st; cases p <;> rfl

theorem openCfg_of_readConfig_err {cfg : Config} {p : Option Str} {e : Err} (h : readConfig cfg p = .error e)
    (ps : List (Str × C.Blob)) (it : I) (m : Option Method) (pass : PassKey) : openCfg C cfg ps it m pass p = .error e := by
  simp [openCfg, h]

theorem openCfg_of_readConfig_ok {cfg : Config} {p : Option Str} {q k : Str} (h : readConfig cfg p = .ok (q, k))
    (ps : List (Str × C.Blob)) (it : I) (m : Option Method) (pass : PassKey) :
    openCfg C cfg ps it m pass p = openDb C { keyRef := k, defaultProfile := q, profiles := ps, items := it } m pass (some q) := by
  simp [openCfg, h]

theorem openDisk_db (cfg : Config) (ps : List (Str × C.Blob)) (it : I) (m : Option Method) (pass : PassKey) (p : Option Str) :
    openDisk C (.db cfg ps it) m pass p = (.db cfg ps it, openCfg C cfg ps it m pass p) := rfl

theorem readConfig_ok_iff (cfg : Config) (p : Option Str) (q k : Str) :
    readConfig cfg p = .ok (q, k) ↔
      cfg.version = .text sOne ∧ cfg.key = .text k ∧ cfg.defaultProfile ≠ .blob ∧
      (match p with | some p' => q = p' | none => cfg.defaultProfile = .text q) := by
  unfold readConfig
  by_cases h1 : cfg.defaultProfile = .blob
  · cases p <;> simp [Cell.isBlob_iff, h1]
  by_cases h2 : cfg.key = .blob
  · simp [Cell.isBlob_iff, h1, h2]
  simp only [Cell.isBlob_iff, h1, h2, if_false]
  split
  · simp [*]
  · simp [*]
  · rename_i v hv
    by_cases hv1 : v = sOne
    · subst hv1
      simp only [hv, ne_eq, not_true, if_false, true_and]
      cases hk : cfg.key.text? with
      | none =>
        have : cfg.key ≠ .text k := fun e => by simp [e, Cell.text?] at hk
        cases p <;> simp [this] <;> split <;> simp
      | some k' =>
        rw [Cell.text?_eq_some] at hk
        cases p with
        | some p' => simp [hk, eq_comm, Ne.symm h1, and_comm]
        | none =>
          cases hd : cfg.defaultProfile.text? with
          | none =>
            have : cfg.defaultProfile ≠ .text q := fun e => by simp [e, Cell.text?] at hd
            simp [this]
          | some q' =>
            rw [Cell.text?_eq_some] at hd
            simp [hk, hd, eq_comm, and_comm]
    · simp [hv, hv1]

theorem readConfig_err {cfg : Config} {p : Option Str} {e : Err} (h : readConfig cfg p = .error e) :
    e = .backend ∨ e = .unsupported := by
  unfold readConfig at h
  repeat' split at h
  all_goals first | (cases h; simp) | (cases h)

/-- what the profile-key loader may answer -/
def LoadKinds (C : Crypto) : Prop := ∀ sk b e, C.loadPk sk b = .error e → e = .encryption ∨ e = .unsupported

/-- the kinds `open` documents for a store it cannot use -/
def Documented (e : Err) : Prop := e = .backend ∨ e = .encryption ∨ e = .input ∨ e = .notFound ∨ e = .unsupported

theorem Documented.backend : Documented .backend := .inl rfl
theorem Documented.encryption : Documented .encryption := .inr (.inl rfl)
theorem Documented.input : Documented .input := .inr (.inr (.inl rfl))
theorem Documented.notFound : Documented .notFound := .inr (.inr (.inr (.inl rfl)))
theorem Documented.unsupported : Documented .unsupported := .inr (.inr (.inr (.inr rfl)))

/-- each step of `open_db` that can fail, with its kind: the key text (Unsupported), the method check (Input), resolving the
    pass key (Input), the profile row (Backend), the profile key (what the loader answers) -/
theorem openDb_err_kinds (hL : LoadKinds C) (st : Store C I) (m : Option Method) (pass : PassKey) (p : Option Str) (e : Err)
    (h : openDb C st m pass p = .error e) : Documented e := by
  unfold openDb at h
  simp only at h
  split at h
  · rename_i e' he
    cases h
    exact keyRef_parse_err he ▸ Documented.unsupported
  · split at h
    · cases h; exact Documented.input
    · split at h
      · rename_i e' he
        cases h
        exact keyRef_resolve_err he ▸ Documented.input
      · split at h
        · cases h; exact Documented.backend
        · split at h
          · rename_i e' he
            cases h
            rcases hL _ _ _ he with h1 | h1
            · exact h1 ▸ Documented.encryption
            · exact h1 ▸ Documented.unsupported
          · cases h

/-! ### re-key -/

theorem rewrap_unloadable (sk sk' : Option C.Key) (nonce : Nat → Bytes) :
    ∀ (ps : List (Str × C.Blob)) (i : Nat), (∃ e ∈ ps, ∃ er, C.loadPk sk e.2 = .error er) →
      ∃ er, rewrap C sk sk' nonce i ps = .error er
  | [], _, h => by obtain ⟨e, he, _⟩ := h; cases he
  | (name, blob) :: rest, i, h => by
    simp only [rewrap]
    cases hl : C.loadPk sk blob with
    | error er => exact ⟨er, rfl⟩
    | ok pk =>
      simp only
      have : ∃ e ∈ rest, ∃ er, C.loadPk sk e.2 = .error er := by
        obtain ⟨e, he, er, hee⟩ := h
        rcases List.mem_cons.1 he with h1 | h1
        · subst h1; simp [hl] at hee
        · exact ⟨e, h1, er, hee⟩
      obtain ⟨er, hr⟩ := rewrap_unloadable sk sk' nonce rest (i + 1) this
      exact ⟨er, by simp [hr]⟩

theorem rekey_unloadable (g : Bool) (st : Store C I) (h : Handle C) (m : Method) (pass : PassKey) (rnd : Rnd C)
    (hu : ∃ e ∈ st.profiles, ∃ er, C.loadPk h.storeKey e.2 = .error er) :
    ∃ er, rekeyG g C st h m pass rnd = (st, .error er) := by
  rcases rekeyG_cases g st h m pass rnd with he | ⟨sk', _, _, _, hw, _⟩
  · exact he
  · obtain ⟨_, hr⟩ := rewrap_unloadable h.storeKey sk' rnd.nonce st.profiles 0 hu
    rw [hw] at hr; cases hr

/-! ### the profile-key record -/

theorem pkDecode_err {g : Bool} {b : Bytes} {e : Err} (h : pkDecode g b = .error e) : e = .unsupported := by
  unfold pkDecode at h
  repeat' split at h
  all_goals first | (cases h; rfl) | (cases h)

theorem pkMember_length {m : Crypto.Cbor.Map} {n b : Bytes} (h : pkMember m n = some b) : b.length = 32 := by
  unfold pkMember at h
  split at h
  · split at h
    · cases h; assumption
    · cases h
  · cases h

theorem pkDecode_checks_version {b : Bytes} {k : PkRecord} (h : pkDecode true b = .ok k) :
    ∃ m, Crypto.Cbor.decode b = some m ∧ pkVersionOk m = true := by
  unfold pkDecode at h
  split at h
  · cases h
  · rename_i m hm
    split at h
    · cases h
    · rename_i hv
      refine ⟨m, hm, ?_⟩
      simpa using hv

theorem fits_seven (v : Bytes) (a b c d e f : Bytes) (hv : v.length < 2 ^ 64)
    (ha : a.length = 32) (hb : b.length = 32) (hc : c.length = 32) (hd : d.length = 32) (he : e.length = 32) (hf : f.length = 32) :
    Crypto.Cbor.Fits [(nVer, .text v), (nIck, .bytes a), (nInk, .bytes b), (nIhk, .bytes c), (nTnk, .bytes d), (nTvk, .bytes e),
      (nThk, .bytes f)] := by
  refine ⟨by simp, ?_⟩
  intro x hx
  simp only [List.mem_cons, List.mem_nil_iff, or_false] at hx
  rcases hx with h | h | h | h | h | h | h <;> subst h <;>
    simp [Crypto.Cbor.Val.Fits, nVer, nIck, nInk, nIhk, nTnk, nTvk, nThk, ha, hb, hc, hd, he, hf, hv] <;> (try decide)

theorem pkDecode_encodeMap (g : Bool) (v : Bytes) (hl : v.length < 2 ^ 64) (k : PkRecord)
    (h : k.ick.length = 32 ∧ k.ink.length = 32 ∧ k.ihk.length = 32 ∧ k.tnk.length = 32 ∧ k.tvk.length = 32 ∧ k.thk.length = 32) :
    pkDecode g (Crypto.Cbor.encodeMap [(nVer, .text v), (nIck, .bytes k.ick), (nInk, .bytes k.ink), (nIhk, .bytes k.ihk),
      (nTnk, .bytes k.tnk), (nTvk, .bytes k.tvk), (nThk, .bytes k.thk)]) =
    if g = true ∧ v ≠ sOne then .error .unsupported else .ok k := by
  obtain ⟨h1, h2, h3, h4, h5, h6⟩ := h
  have hf := fits_seven v k.ick k.ink k.ihk k.tnk k.tvk k.thk hl h1 h2 h3 h4 h5 h6
  unfold pkDecode
  rw [Crypto.Cbor.decode_encodeMap _ hf]
  simp [pkVersionOk, pkMember, List.filter, nVer, nIck, nInk, nIhk, nTnk, nTvk, nThk, h1, h2, h3, h4, h5, h6]

end Askar.Keys
