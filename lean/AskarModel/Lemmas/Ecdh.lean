/-
Helper lemmas and proofs for C15 (model: `Model/Ecdh.lean`; property theorems: `Props/C15.lean`).  Vocabulary that the statements
of `Props/C15.lean` use and that is defined here: `tagPart` (the optional tag field of SuppPubInfo), `xfull` / `xpub` (an X25519
key pair and its public half over the box operations) and, at the end, the toy instances `toyDh`, `toyHash`, `toyBox`.
-/
import AskarModel.Model.Ecdh
import AskarModel.Lemmas.Bytes

namespace Askar.Ecdh

open Askar.Bytes (be32 be32_inj be32_append_inj)

theorem Res.bind_assoc {α β γ} (r : Res α) (f : α → Res β) (g : β → Res γ) : (r >>= f >>= g) = (r >>= fun a => f a >>= g) := by
  cases r <;> rfl

theorem Res.bind_congr {α β} {r : Res α} {f g : α → Res β} (h : ∀ a, f a = g a) : (r >>= f) = (r >>= g) := by
  cases r with
  | ok a => exact h a
  | err e => rfl
  | panic => rfl

theorem Res.bind_ne_panic {α β} {r : Res α} {f : α → Res β} (hr : r ≠ .panic) (hf : ∀ a, f a ≠ .panic) : (r >>= f) ≠ .panic := by
  cases r with
  | ok a => exact hf a
  | err e => nofun
  | panic => exact absurd rfl hr

@[simp] theorem be32_length (n : Nat) : (be32 n).length = 4 := rfl

theorem lp_append_inj {a a' r r' : Bytes} (ha : a.length < 2 ^ 32) (ha' : a'.length < 2 ^ 32)
    (h : lp a ++ r = lp a' ++ r') : a = a' ∧ r = r' := by
  unfold lp at h
  rw [List.append_assoc, List.append_assoc] at h
  obtain ⟨hl, hr⟩ := be32_append_inj ha ha' h
  exact List.append_inj hr hl

/-- the optional tag field of ECDH-1PU's SuppPubInfo as the code writes it -/
def tagPart (t : Bytes) : Bytes := if t.isEmpty then [] else lp t

/-- an absent field is empty, a present one begins with its four length bytes -/
theorem tagPart_inj {t t' : Bytes} (ht : t.length < 2 ^ 32) (ht' : t'.length < 2 ^ 32) (h : tagPart t = tagPart t') : t = t' := by
  cases t with
  | nil =>
    cases t' with
    | nil => rfl
    | cons x xs => cases h
  | cons y ys =>
    cases t' with
    | nil => cases h
    | cons x xs => exact (lp_append_inj (r := []) (r' := []) ht ht' (congrArg (· ++ []) h)).1

theorem tagPart_length (t : Bytes) : (tagPart t).length = if t.isEmpty then 0 else 4 + t.length := by
  unfold tagPart
  cases t with
  | nil => rfl
  | cons x xs => exact List.length_append

/-! ### normal forms of the hashed strings -/

theorem esInput_eq (z alg apu apv : Bytes) (n : Nat) :
    esInput z alg apu apv n = be32 1 ++ (z ++ (lp alg ++ (lp apu ++ (lp apv ++ be32 (n * 8))))) := by
  simp [esInput, KdfHash.new, KdfHash.startPass, KdfHash.update, KdfHash.hashParams, List.append_assoc]

theorem puInput_eq (ze zs alg apu apv pi : Bytes) :
    puInput ze zs alg apu apv pi = be32 1 ++ (ze ++ (zs ++ (lp alg ++ (lp apu ++ (lp apv ++ pi))))) := by
  simp [puInput, KdfHash.new, KdfHash.startPass, KdfHash.update, KdfHash.hashParams, List.append_assoc]

theorem esInput_eq_puInput (z alg apu apv : Bytes) (n : Nat) :
    esInput z alg apu apv n = puInput z [] alg apu apv (be32 (n * 8)) := by
  rw [esInput_eq, puInput_eq]; rfl

/-- the hashed string determines its fields: Ze and Zs have the curve's length, the three identifiers carry their length in front,
    SuppPubInfo is whatever remains -/
theorem puInput_inj {ze ze' zs zs' alg alg' apu apu' apv apv' pi pi' : Bytes}
    (hze : ze.length = ze'.length) (hzs : zs.length = zs'.length)
    (h1 : alg.length < 2 ^ 32) (h1' : alg'.length < 2 ^ 32) (h2 : apu.length < 2 ^ 32) (h2' : apu'.length < 2 ^ 32)
    (h3 : apv.length < 2 ^ 32) (h3' : apv'.length < 2 ^ 32)
    (h : puInput ze zs alg apu apv pi = puInput ze' zs' alg' apu' apv' pi') :
    ze = ze' ∧ zs = zs' ∧ alg = alg' ∧ apu = apu' ∧ apv = apv' ∧ pi = pi' := by
  rw [puInput_eq, puInput_eq] at h
  have h := (List.append_inj h rfl).2
  obtain ⟨e0, h⟩ := List.append_inj h hze
  obtain ⟨e1, h⟩ := List.append_inj h hzs
  obtain ⟨e2, h⟩ := lp_append_inj h1 h1' h
  obtain ⟨e3, h⟩ := lp_append_inj h2 h2' h
  obtain ⟨e4, h⟩ := lp_append_inj h3 h3' h
  exact ⟨e0, e1, e2, e3, e4, h⟩

/-! ### the slice writer -/

/-- a writer that has written `pre` and has `rest` still free: every writer the code builds is of this form -/
def wr (pre rest : Bytes) : SliceWriter := ⟨pre ++ rest, pre.length⟩

theorem new_eq_wr (cap : Nat) : SliceWriter.new cap = wr [] (List.replicate cap 0) := rfl

theorem write_wr (pre rest d : Bytes) :
    (wr pre rest).write d = if d.length ≤ rest.length then .ok (wr (pre ++ d) (rest.drop d.length)) else .err .exceededBuffer := by
  simp only [SliceWriter.write, wr, List.length_append]
  by_cases h : d.length ≤ rest.length
  · -- neither the length check nor the slice bounds check behind it fires
    rw [if_pos h, if_neg (by omega), if_neg (by omega), List.take_left, ← List.drop_drop, List.drop_left]
  · rw [if_neg h, if_pos (by omega)]

theorem asRef_wr (pre rest : Bytes) : (wr pre rest).asRef = .ok pre := by
  simp only [SliceWriter.asRef, wr, List.length_append]
  rw [if_neg (by omega), List.take_left]

theorem write_write (pre rest a b : Bytes) :
    ((wr pre rest).write a >>= fun w => w.write b) = (wr pre rest).write (a ++ b) := by
  simp only [write_wr, List.length_append]
  by_cases ha : a.length ≤ rest.length
  · rw [if_pos ha, Res.ok_bind, write_wr, List.length_drop, List.drop_drop, List.append_assoc]
    by_cases hb : a.length + b.length ≤ rest.length
    · rw [if_pos hb, if_pos (Nat.le_sub_of_add_le' hb)]
    · rw [if_neg hb, if_neg (fun h => hb (Nat.add_le_of_le_sub' ha h))]
  · rw [if_neg ha, if_neg (fun h => ha (Nat.le_trans (Nat.le_add_right _ _) h))]; rfl

theorem pubInfo1puCap_eq (cap n : Nat) (tag : Bytes) :
    pubInfo1puCap cap n tag =
      if 4 + (tagPart tag).length ≤ cap then .ok (be32 (n * 8) ++ tagPart tag) else .err .exceededBuffer := by
  -- the two or three writes are one write of `be32 (n * 8) ++ tagPart tag`
  have key : pubInfo1puCap cap n tag =
      ((wr [] (List.replicate cap 0)).write (be32 (n * 8) ++ tagPart tag) >>= fun w => w.asRef) := by
    unfold pubInfo1puCap tagPart lp
    rw [new_eq_wr]
    cases tag with
    | nil => simp only [List.isEmpty_nil, if_true, Res.pure_eq, Res.ok_bind, List.append_nil]
    | cons x xs =>
      simp only [List.isEmpty_cons, Bool.false_eq_true, if_false]
      rw [← Res.bind_assoc, ← Res.bind_assoc, write_write, write_write, List.append_assoc]
  rw [key, write_wr]
  simp only [List.length_append, be32_length, List.length_replicate, List.nil_append]
  by_cases h : 4 + (tagPart tag).length ≤ cap
  · rw [if_pos h, if_pos h, Res.ok_bind, asRef_wr]
  · rw [if_neg h, if_neg h]; rfl

theorem pubInfo1puCap_ne_panic (cap n : Nat) (tag : Bytes) : pubInfo1puCap cap n tag ≠ .panic := by
  rw [pubInfo1puCap_eq]; split <;> nofun

theorem keyExchange_ne_panic (D : DhOps) (a b : Key) : keyExchange D a b ≠ .panic := by
  unfold keyExchange
  split
  · simp
  · split
    · split <;> simp
    · simp

theorem exchange_ne_panic (D : DhOps) (a b : Key) (r : Bool) : exchange D a b r ≠ .panic := by
  unfold exchange; split <;> exact keyExchange_ne_panic _ _ _

theorem keyExchange_full (D : DhOps) (c : Curve) (sk : Bytes) (other : Key) (h : other.ty = .dh c) :
    keyExchange D (Key.full D c sk) other = .ok (D.dh c sk other.pub) := by
  simp [keyExchange, Key.full, h]

theorem keyExchange_length (D : DhOps) (L : DhLaws D) {a b : Key} {z : Bytes} {c : Curve} (hc : a.ty = .dh c)
    (h : keyExchange D a b = .ok z) : z.length = L.zlen c := by
  unfold keyExchange at h
  split at h
  · cases h
  · rw [hc] at h
    simp only at h
    split at h
    · injection h with h; subst h; exact L.dh_len _ _ _
    · cases h

theorem takeKey_ok {d : Bytes} {n : Nat} (h : n ≤ d.length) : takeKey d n = .ok (d.take n) := by
  unfold takeKey; rw [if_neg (by omega)]

theorem deriveEsBytes_eq (D : DhOps) (hash : Bytes → Bytes) (hlen : ∀ x, (hash x).length = 32) (eph rcp : Key)
    (alg apu apv : Bytes) (receive : Bool) (n : Nat) :
    deriveEsBytes D hash eph rcp alg apu apv receive n =
      if n > 32 then .err .unsupported
      else exchange D eph rcp receive >>= fun z =>
        .ok ((hash (esInput z alg apu apv n)).take n) := by
  unfold deriveEsBytes
  split
  · rfl
  · rename_i hn
    exact Res.bind_congr fun z => takeKey_ok (by rw [hlen]; omega)

theorem derive1puBytesCap_eq (cap : Nat) (D : DhOps) (hash : Bytes → Bytes) (hlen : ∀ x, (hash x).length = 32)
    (eph snd rcp : Key) (alg apu apv tag : Bytes) (receive : Bool) (n : Nat) :
    derive1puBytesCap cap D hash eph snd rcp alg apu apv tag receive n =
      if n > 32 then .err .unsupported
      else if tag.length > 128 then .err .unsupported
      else exchange D eph rcp receive >>= fun ze =>
        exchange D snd rcp receive >>= fun zs =>
          if 4 + (tagPart tag).length ≤ cap then
            .ok ((hash (puInput ze zs alg apu apv (be32 (n * 8) ++ tagPart tag))).take n)
          else .err .exceededBuffer := by
  unfold derive1puBytesCap
  by_cases hn : n > 32
  · rw [if_pos hn, if_pos hn]
  · rw [if_neg hn, if_neg hn]
    by_cases ht : tag.length > 128
    · rw [if_pos ht, if_pos ht]
    · rw [if_neg ht, if_neg ht]
      refine Res.bind_congr fun ze => Res.bind_congr fun zs => ?_
      rw [pubInfo1puCap_eq]
      by_cases hl : 4 + (tagPart tag).length ≤ cap
      · simp only [if_pos hl, Res.ok_bind]
        exact takeKey_ok (by rw [hlen]; omega)
      · simp only [if_neg hl, Res.err_bind]

/-! ### both sides agree -/

theorem exchange_full_public (D : DhOps) (c : Curve) (a r : Bytes) :
    exchange D (Key.full D c a) (Key.public D c r) false = .ok (D.dh c a (D.pub c r)) :=
  keyExchange_full D c a (Key.public D c r) rfl

theorem exchange_public_full (D : DhOps) (c : Curve) (a r : Bytes) :
    exchange D (Key.public D c a) (Key.full D c r) true = .ok (D.dh c r (D.pub c a)) :=
  keyExchange_full D c r (Key.public D c a) rfl

theorem exchange_agree (D : DhOps) (L : DhLaws D) (c : Curve) (a r : Bytes) (ha : L.valid c a) (hr : L.valid c r) :
    exchange D (Key.full D c a) (Key.public D c r) false = exchange D (Key.public D c a) (Key.full D c r) true := by
  rw [exchange_full_public, exchange_public_full, L.dh_comm c a r ha hr]

theorem es_agree (D : DhOps) (L : DhLaws D) (hash : Bytes → Bytes) (t : Target) (c : Curve) (e r : Bytes)
    (he : L.valid c e) (hr : L.valid c r) (alg apu apv : Bytes) :
    deriveKeyEcdhEs D hash t (Key.full D c e) (Key.public D c r) alg apu apv false =
      deriveKeyEcdhEs D hash t (Key.public D c e) (Key.full D c r) alg apu apv true := by
  unfold deriveKeyEcdhEs fromKeyDerivation
  cases t.keyLen with
  | none => rfl
  | some n =>
    show deriveEsBytes _ _ _ _ _ _ _ _ _ = deriveEsBytes _ _ _ _ _ _ _ _ _
    unfold deriveEsBytes
    rw [exchange_agree D L c e r he hr]

theorem pu_agree (cap : Nat) (D : DhOps) (L : DhLaws D) (hash : Bytes → Bytes) (t : Target) (c : Curve) (e s r : Bytes)
    (he : L.valid c e) (hs : L.valid c s) (hr : L.valid c r) (alg apu apv tag : Bytes) :
    deriveKeyEcdh1puCap cap D hash t (Key.full D c e) (Key.full D c s) (Key.public D c r) alg apu apv tag false =
      deriveKeyEcdh1puCap cap D hash t (Key.public D c e) (Key.public D c s) (Key.full D c r) alg apu apv tag true := by
  unfold deriveKeyEcdh1puCap fromKeyDerivation
  cases t.keyLen with
  | none => rfl
  | some n =>
    show derive1puBytesCap _ _ _ _ _ _ _ _ _ _ _ _ = derive1puBytesCap _ _ _ _ _ _ _ _ _ _ _ _
    unfold derive1puBytesCap
    rw [exchange_agree D L c e r he hr, exchange_agree D L c s r hs hr]

/-! ### the tag that does not fit -/

/-- a non-empty tag that the explicit guard lets through but the buffer cannot hold -/
theorem derive1puBytesCap_tag_exceeds (cap : Nat) (D : DhOps) (hash : Bytes → Bytes) (hlen : ∀ x, (hash x).length = 32)
    (eph snd rcp : Key) (alg apu apv tag : Bytes) (receive : Bool) (n : Nat) (hn : n ≤ 32) (hne : tag ≠ [])
    (ht : cap < tag.length + 8) (ht' : tag.length ≤ 128)
    (ze zs : Bytes) (hze : exchange D eph rcp receive = .ok ze) (hzs : exchange D snd rcp receive = .ok zs) :
    derive1puBytesCap cap D hash eph snd rcp alg apu apv tag receive n = .err .exceededBuffer := by
  rw [derive1puBytesCap_eq cap D hash hlen, if_neg (Nat.not_lt_of_le hn), if_neg (Nat.not_lt_of_le ht'), hze, hzs]
  simp only [Res.ok_bind]
  have : tag.isEmpty = false := by cases tag with | nil => exact absurd rfl hne | cons => rfl
  rw [if_neg (by rw [tagPart_length, this]; simp only [Bool.false_eq_true, if_false]; omega)]

/-! ### crypto_box -/

def xfull (B : BoxOps) (sk : Bytes) : Key := ⟨.dh .x25519, B.pub sk, some sk⟩
def xpub (B : BoxOps) (sk : Bytes) : Key := ⟨.dh .x25519, B.pub sk, none⟩

theorem cryptoBox_eq (B : BoxOps) (rp ss : Key) (sk : Bytes) (hs : ss.secret = some sk) (m nonce : Bytes)
    (hn : nonce.length = 24) :
    cryptoBox B rp ss m nonce =
      .ok ((B.sealBox (B.beforenm sk rp.pub) nonce m).2 ++ (B.sealBox (B.beforenm sk rp.pub) nonce m).1) := by
  simp [cryptoBox, secretKeyFrom, hs, nonceFrom, hn, Bind.bind, Res.bind]

/-- closed form of `crypto_box_open`; the slice check `16 > buffer.len()` behind the length check never fires -/
theorem cryptoBoxOpen_closed (B : BoxOps) (rs sp : Key) (b nonce : Bytes) :
    cryptoBoxOpen B rs sp b nonce =
      match rs.secret with
      | none => .err .missingSecretKey
      | some sk =>
        if nonce.length = 24 then
          if b.length < 16 then .err .encryption
          else match B.openBox (B.beforenm sk sp.pub) nonce (b.drop 16) (b.take 16) with
            | none => .err .encryption
            | some m => .ok m
        else .err .invalidNonce := by
  unfold cryptoBoxOpen secretKeyFrom nonceFrom
  cases rs.secret with
  | none => rfl
  | some sk =>
    by_cases hn : nonce.length = 24
    · simp only [hn, if_true, Bind.bind, Res.bind]
      by_cases hb : b.length < 16
      · rw [if_pos hb, if_pos hb]
      · rw [if_neg hb, if_neg hb, if_neg (by omega)]
        split <;> simp_all
    · simp [hn, Bind.bind, Res.bind]

theorem cryptoBoxOpen_eq (B : BoxOps) (rs sp : Key) (sk : Bytes) (hs : rs.secret = some sk) (b nonce : Bytes)
    (hn : nonce.length = 24) (hb : 16 ≤ b.length) :
    cryptoBoxOpen B rs sp b nonce =
      match B.openBox (B.beforenm sk sp.pub) nonce (b.drop 16) (b.take 16) with
      | none => .err .encryption
      | some m => .ok m := by
  rw [cryptoBoxOpen_closed, hs]
  simp only
  rw [if_pos hn, if_neg (by omega)]

theorem cryptoBoxOpen_ne_panic (B : BoxOps) (rs sp : Key) (b nonce : Bytes) : cryptoBoxOpen B rs sp b nonce ≠ .panic := by
  rw [cryptoBoxOpen_closed]
  cases rs.secret with
  | none => nofun
  | some sk =>
    simp only
    split
    · split
      · nofun
      · split <;> nofun
    · nofun

theorem cryptoBoxOpen_short (B : BoxOps) (rs sp : Key) (b nonce : Bytes) (hb : b.length < 16) :
    ∃ e, cryptoBoxOpen B rs sp b nonce = .err e := by
  rw [cryptoBoxOpen_closed]
  cases rs.secret with
  | none => exact ⟨_, rfl⟩
  | some sk =>
    simp only
    by_cases hn : nonce.length = 24
    · rw [if_pos hn, if_pos hb]; exact ⟨_, rfl⟩
    · rw [if_neg hn]; exact ⟨_, rfl⟩

theorem cryptoBoxOpen_ok_elim {B : BoxOps} {rs sp : Key} {sk b nonce m : Bytes} (hs : rs.secret = some sk)
    (h : cryptoBoxOpen B rs sp b nonce = .ok m) :
    16 ≤ b.length ∧ nonce.length = 24 ∧ B.openBox (B.beforenm sk sp.pub) nonce (b.drop 16) (b.take 16) = some m := by
  rw [cryptoBoxOpen_closed, hs] at h
  simp only at h
  split at h
  · rename_i hn
    split at h
    · cases h
    · rename_i hb
      split at h
      · cases h
      · rename_i m' hm
        cases h
        exact ⟨Nat.le_of_not_lt hb, hn, hm⟩
  · cases h

theorem box_roundtrip (B : BoxOps) (L : BoxLaws B) (r s m nonce : Bytes) (hn : nonce.length = 24) :
    ∃ b, envCryptoBox B (xpub B r) (xfull B s) m nonce = .ok b ∧ b.length = m.length + 16 ∧
      b = (B.sealBox (B.beforenm s (B.pub r)) nonce m).2 ++ (B.sealBox (B.beforenm s (B.pub r)) nonce m).1 ∧
      envCryptoBoxOpen B (xfull B r) (xpub B s) b nonce = .ok m := by
  refine ⟨_, ?_, ?_, rfl, ?_⟩
  · simp only [envCryptoBox, castX25519, xpub, xfull, if_true, Res.ok_bind]
    exact cryptoBox_eq B _ _ s rfl m nonce hn
  · simp [L.tag_len, L.ct_len]; omega
  · simp only [envCryptoBoxOpen, castX25519, xpub, xfull, if_true, Res.ok_bind]
    rw [cryptoBoxOpen_eq B _ _ r rfl _ nonce hn (by simp [L.tag_len])]
    have ht := L.tag_len (B.beforenm s (B.pub r)) nonce m
    rw [List.drop_left' ht, List.take_left' ht, L.beforenm_comm r s, L.open_seal]

/-! ### sealed boxes -/

/-- with a 32-byte ephemeral public key in front, the bounds check of `from_vec_skip` passes: the sealed box is the key followed by
    the box of the message under the derived nonce -/
theorem cryptoBoxSeal_eq (B : BoxOps) (e : Bytes) (rp : Key) (m : Bytes) (hp : (B.pub e).length = 32) :
    cryptoBoxSeal B e rp m =
      (cryptoBox B rp ⟨.dh .x25519, B.pub e, some e⟩ m (sealNonce B (B.pub e) rp.pub) >>= fun boxed => .ok (B.pub e ++ boxed)) := by
  unfold cryptoBoxSeal
  simp only
  rw [if_neg (by rw [List.length_append, hp]; omega), List.drop_left' hp, List.take_left' hp]

theorem cryptoBoxSealOpen_eq (B : BoxOps) (rs : Key) (c : Bytes) (hc : 48 ≤ c.length) :
    cryptoBoxSealOpen B rs c = cryptoBoxOpen B rs ⟨.dh .x25519, c.take 32, none⟩ (c.drop 32) (sealNonce B (c.take 32) rs.pub) := by
  unfold cryptoBoxSealOpen
  have hl : (c.take 32).length = 32 := by rw [List.length_take]; omega
  rw [if_neg (by omega), if_neg (by omega)]
  simp only
  rw [if_neg (fun h => h hl)]

theorem seal_roundtrip (B : BoxOps) (L : BoxLaws B) (e r m : Bytes) :
    ∃ s, envCryptoBoxSeal B e (xpub B r) m = .ok s ∧ s.length = m.length + 48 ∧
      s = B.pub e ++ ((B.sealBox (B.beforenm e (B.pub r)) (sealNonce B (B.pub e) (B.pub r)) m).2 ++
                      (B.sealBox (B.beforenm e (B.pub r)) (sealNonce B (B.pub e) (B.pub r)) m).1) ∧
      envCryptoBoxSealOpen B (xfull B r) s = .ok m := by
  have hp := L.pub_len e
  have hnl : (sealNonce B (B.pub e) (B.pub r)).length = 24 := L.nonce_len _
  have ht := L.tag_len (B.beforenm e (B.pub r)) (sealNonce B (B.pub e) (B.pub r)) m
  have hc := L.ct_len (B.beforenm e (B.pub r)) (sealNonce B (B.pub e) (B.pub r)) m
  have hlen : (B.pub e ++ ((B.sealBox (B.beforenm e (B.pub r)) (sealNonce B (B.pub e) (B.pub r)) m).2 ++
      (B.sealBox (B.beforenm e (B.pub r)) (sealNonce B (B.pub e) (B.pub r)) m).1)).length = m.length + 48 := by
    rw [List.length_append, List.length_append, hp, ht, hc]; omega
  refine ⟨_, ?_, hlen, rfl, ?_⟩
  · show (castX25519 (xpub B r) >>= fun r => cryptoBoxSeal B e r m) = _
    rw [show castX25519 (xpub B r) = .ok (xpub B r) from rfl, Res.ok_bind, cryptoBoxSeal_eq B e _ m hp]
    show (cryptoBox B (xpub B r) _ m (sealNonce B (B.pub e) (B.pub r)) >>= _) = _
    rw [cryptoBox_eq B _ _ e rfl m _ hnl]
    rfl
  · show (castX25519 (xfull B r) >>= fun r => cryptoBoxSealOpen B r _) = _
    rw [show castX25519 (xfull B r) = .ok (xfull B r) from rfl, Res.ok_bind, cryptoBoxSealOpen_eq B _ _ (by rw [hlen]; omega),
      List.take_left' hp, List.drop_left' hp]
    show cryptoBoxOpen B (xfull B r) _ _ (sealNonce B (B.pub e) (B.pub r)) = _
    rw [cryptoBoxOpen_eq B _ _ r rfl _ _ hnl (by rw [List.length_append, ht]; omega), List.drop_left' ht, List.take_left' ht]
    show (match B.openBox (B.beforenm r (B.pub e)) _ _ _ with | none => _ | some m => _) = _
    rw [L.beforenm_comm r e, L.open_seal]

/-! ### toy instances (non-vacuity) -/

def pad32 (x : Bytes) : Bytes := (x ++ List.replicate 32 0).take 32

theorem pad32_length (x : Bytes) : (pad32 x).length = 32 := by simp [pad32]

/-- public key = secret key, shared secret = XOR of the two (padded to 32 bytes) -/
def toyDh : DhOps where
  pub _ a := a
  dh _ a p := List.zipWith (· ^^^ ·) (pad32 a) (pad32 p)

def toyDhLaws : DhLaws toyDh where
  valid _ _ := True
  zlen _ := 32
  dh_len _ a p := by simp [toyDh, pad32_length]
  dh_comm _ a b _ _ := by
    simp only [toyDh]
    rw [List.zipWith_comm]
    congr 1
    funext x y
    exact UInt8.xor_comm y x

def toyHash (x : Bytes) : Bytes := pad32 x

/-- "cipher" = identity, tag = sixteen zero bytes, checked on opening -/
def toyBox : BoxOps where
  pub s := pad32 s
  beforenm _ _ := []
  sealBox _ _ m := (m, List.replicate 16 0)
  openBox _ _ c t := if t = List.replicate 16 0 then some c else none
  nonceHash _ := List.replicate 24 0

theorem toyBoxLaws : BoxLaws toyBox where
  pub_len s := pad32_length s
  ct_len _ _ _ := rfl
  tag_len _ _ _ := by simp [toyBox]
  open_seal _ _ _ := by simp [toyBox]
  beforenm_comm _ _ := rfl
  nonce_len _ := by simp [toyBox]

theorem toyBoxIdeal : BoxIdeal toyBox where
  auth k n c t m h := by
    simp only [toyBox] at h ⊢
    split at h
    · rename_i ht; injection h with h; subst h; rw [ht]
    · cases h

end Askar.Ecdh
