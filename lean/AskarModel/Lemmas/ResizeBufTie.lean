/-
C12 — the TIE between the two models of the AEAD / key-wrap operations:

* `Model/Aead.lean`: every operation as a pure FUNCTION on byte lists (`streamEncrypt`, `cbcHmacDecrypt`, `kwEncrypt`, …);
* `Model/ResizeBuf.lean`: the same operations as PROGRAMS over the `ResizeBuffer` trait (`streamEncryptP`, …).

`<op>P_run_cap` (one per operation): the program, run over the list implementation (`specImpl`) from `⟨input, cap⟩` with a capacity that admits
the one growth the operation performs, computes EXACTLY the function of `Model/Aead.lean` on `input` (`encOut` / `decOut`
state the correspondence of the result types: ok-with-buffer-and-return-value / error / panic, one to one);
the instance `cap = none` (`Vec<u8>`, `SecretBytes`) is `inplace_programs_compute_the_model` of `Props/C12.lean`.

The programs write through `as_mut()`, which cannot change the length of the buffer; the functions of `Model/Aead.lean`
take whatever list the primitive returns.  The two therefore agree exactly for primitives that work IN PLACE (output as
long as the input: `AeadInPlace`, `BlockInPlace` — part of `Lawful` for the block cipher and for AEAD
encryption, an additional — true — assumption for AEAD decryption); `…_needs_inPlace` are witnesses that the hypothesis
cannot be dropped (a primitive that is not length preserving: the program panics on the write through `as_mut()`, the
function returns the longer list).  Core Lean only.
-/
import AskarModel.Model.ResizeBuf
import AskarModel.Lemmas.KeyWrapRefine
import AskarModel.Lemmas.ResizeBuf

namespace Askar.ResizeBuf.Tie
open Askar.Aead Askar.ResizeBuf Askar.Crypto

/-! ### correspondence of the result types -/

/-- an `encrypt_in_place` result of `Model/Aead.lean` (buffer, returned position) as the result of a program run over a
    list buffer with capacity `cap`: `ok (buf, n)` ↦ `ok (⟨buf, cap⟩, n)`, errors and panics unchanged -/
def encOut (cap : Option Nat) : Res (Bytes × Nat) → Res (LBuf × Nat)
  | .ok (buf, n) => .ok (⟨buf, cap⟩, n)
  | .err e => .err e
  | .panic p => .panic p

/-- a `decrypt_in_place` result of `Model/Aead.lean` (the buffer afterwards): `ok buf` ↦ `ok (⟨buf, cap⟩, ())` -/
def decOut (cap : Option Nat) : Res Bytes → Res (LBuf × Unit)
  | .ok buf => .ok (⟨buf, cap⟩, ())
  | .err e => .err e
  | .panic p => .panic p

/-! ### the primitives work in place -/

structure AeadInPlace (A : AeadPrim) : Prop where
  enc_len : ∀ k n a m c t, A.enc k n a m = some (c, t) → c.length = m.length
  tag_len : ∀ k n a m c t, A.enc k n a m = some (c, t) → t.length = A.tagLen
  dec_len : ∀ k n a c t m, A.dec k n a c t = some m → m.length = c.length

structure BlockInPlace (C : BlockCipher) : Prop where
  enc_len : ∀ k b, b.length = 16 → (C.enc k b).length = 16
  dec_len : ∀ k b, b.length = 16 → (C.dec k b).length = 16

theorem BlockInPlace.of_lawful {C : BlockCipher} (h : C.Lawful) : BlockInPlace C := ⟨h.enc_len, h.dec_len⟩

/-- `Lawful` gives the encryption half; the decryption half (`dec_len`) is not part of `AeadPrim.Lawful` -/
theorem AeadInPlace.of_lawful {A : AeadPrim} (h : A.Lawful)
    (hd : ∀ k n a c t m, A.dec k n a c t = some m → m.length = c.length) : AeadInPlace A :=
  ⟨fun k n a m c t he => (h.enc_len k n a m c t he).1, fun k n a m c t he => (h.enc_len k n a m c t he).2, hd⟩

structure PrimsInPlace (P : Prims) : Prop where
  aes128 : BlockInPlace P.aes128
  aes256 : BlockInPlace P.aes256
  gcm128 : AeadInPlace P.gcm128
  gcm256 : AeadInPlace P.gcm256
  c20p : AeadInPlace P.c20p
  xc20p : AeadInPlace P.xc20p

/-! ### running a program over the list implementation, step by step -/

theorem step_eq_bind {β γ : Type} (r : Res β) (k : β → Res γ) : step r k = (r >>= k) := by cases r <;> rfl

@[simp] theorem run_ret {α β : Type} (I : BufImpl β) (a : α) (b : β) : (Prog.ret a).run I b = .ok (b, a) := rfl
@[simp] theorem run_fail {α β : Type} (I : BufImpl β) (e : Err) (b : β) : (Prog.fail e : Prog α).run I b = .err e := rfl
@[simp] theorem run_panic {α β : Type} (I : BufImpl β) (p : Panic) (b : β) : (Prog.panic p : Prog α).run I b = .panic p := rfl
@[simp] theorem run_view {α : Type} (k : Bytes → Prog α) (d : Bytes) (cap : Option Nat) :
    (Prog.view k).run specImpl ⟨d, cap⟩ = (k d).run specImpl ⟨d, cap⟩ := rfl

theorem run_ite {α β : Type} (I : BufImpl β) (c : Prop) [Decidable c] (p q : Prog α) (b : β) :
    (if c then p else q).run I b = if c then p.run I b else q.run I b := by
  split <;> rfl

@[simp] theorem run_lift_ok {α β γ : Type} (I : BufImpl β) (c : γ) (k : γ → Prog α) (b : β) :
    (Prog.lift (.ok c) k).run I b = (k c).run I b := rfl
@[simp] theorem run_lift_err {α β γ : Type} (I : BufImpl β) (e : Err) (k : γ → Prog α) (b : β) :
    (Prog.lift (.err e) k).run I b = .err e := rfl
@[simp] theorem run_lift_panic {α β γ : Type} (I : BufImpl β) (p : Panic) (k : γ → Prog α) (b : β) :
    (Prog.lift (.panic p) k).run I b = .panic p := rfl

theorem run_setView_ok {α : Type} (v : Bytes) (k : Prog α) (d : Bytes) (cap : Option Nat) (h : v.length = d.length) :
    (Prog.setView v k).run specImpl ⟨d, cap⟩ = k.run specImpl ⟨v, cap⟩ := by
  simp [Prog.run, specImpl, LBuf.setView, h, step]

theorem run_setView_bad {α : Type} (v : Bytes) (k : Prog α) (d : Bytes) (cap : Option Nat) (h : v.length ≠ d.length) :
    (Prog.setView v k).run specImpl ⟨d, cap⟩ = .panic .copyLen := by
  simp [Prog.run, specImpl, LBuf.setView, h, step]

theorem run_write_ok {α : Type} (x : Bytes) (k : Prog α) (d : Bytes) (cap : Option Nat)
    (h : fits cap (d.length + x.length) = true) :
    (Prog.write x k).run specImpl ⟨d, cap⟩ = k.run specImpl ⟨d ++ x, cap⟩ := by
  simp [Prog.run, specImpl, LBuf.write, h, step]

theorem run_insert0_ok {α : Type} (x : Bytes) (k : Prog α) (d : Bytes) (cap : Option Nat)
    (h : fits cap (d.length + x.length) = true) :
    (Prog.insert 0 x k).run specImpl ⟨d, cap⟩ = k.run specImpl ⟨x ++ d, cap⟩ := by
  simp [Prog.run, specImpl, LBuf.insert, h, step]

theorem run_remove0_ok {α : Type} (e : Nat) (k : Prog α) (d : Bytes) (cap : Option Nat) (h : e ≤ d.length) :
    (Prog.remove 0 e k).run specImpl ⟨d, cap⟩ = k.run specImpl ⟨d.drop e, cap⟩ := by
  simp [Prog.run, specImpl, LBuf.remove, h, step]

theorem run_resize_ok {α : Type} (n : Nat) (k : Prog α) (d : Bytes) (cap : Option Nat) (h : fits cap n = true) :
    (Prog.resize n k).run specImpl ⟨d, cap⟩ = k.run specImpl ⟨d.take n ++ zeros (n - d.length), cap⟩ := by
  simp [Prog.run, specImpl, LBuf.resize, h, step]

/-- the trait's default `buffer_extend(len)` over a list that may grow by `len`: `len` zero bytes are appended -/
theorem run_extend_ok {α : Type} (len : Nat) (k : Prog α) (d : Bytes) (cap : Option Nat)
    (h : fits cap (d.length + len) = true) :
    (extendP len k).run specImpl ⟨d, cap⟩ = k.run specImpl ⟨d ++ zeros len, cap⟩ := by
  unfold extendP
  rw [run_view, run_resize_ok _ _ _ _ h, run_view]
  have e1 : d.take (d.length + len) ++ zeros (d.length + len - d.length) = d ++ zeros len := by
    rw [List.take_of_length_le (by omega), Nat.add_sub_cancel_left]
  simp only [e1]
  have e2 : sliceRange (d ++ zeros len) d.length (d.length + len) = .ok (((d ++ zeros len).take (d.length + len)).drop d.length) := by
    simp [sliceRange, zeros]
  rw [e2, run_lift_ok]

theorem fits_none (n : Nat) : fits none n = true := rfl

theorem fits_mono (cap : Option Nat) (m n : Nat) (h : m ≤ n) (hn : fits cap n = true) : fits cap m = true := by
  cases cap with
  | none => rfl
  | some c => simp [fits] at hn ⊢; omega

theorem fits_some (c n : Nat) (h : n ≤ c) : fits (some c) n = true := by simp [fits, h]

/-! ### the program and the function make the same checks in the same order

`run_guard`, `run_bind`, `run_bind₂` walk the program and the function in step, one check or pure step at a time, keeping
what each established.  Only the buffer calls are left to argue about: a length for `as_mut()`, the capacity for a growth. -/

section
open Askar.Aead.Lemmas

/-- `out` passes errors and panics through unchanged (`encOut cap`, `decOut cap`) -/
def Strict {α β : Type} (out : Res α → Res β) : Prop := (∀ e, out (.err e) = .err e) ∧ ∀ p, out (.panic p) = .panic p

theorem encOut_strict (cap : Option Nat) : Strict (encOut cap) := ⟨fun _ => rfl, fun _ => rfl⟩
theorem decOut_strict (cap : Option Nat) : Strict (decOut cap) := ⟨fun _ => rfl, fun _ => rfl⟩

theorem run_guard {α β : Type} {out : Res α → Res (LBuf × β)} (ho : Strict out) {c : Prop} [Decidable c] {e : Err}
    {p : Prog β} {y : Res α} {b : LBuf} (h : ¬ c → p.run specImpl b = out y) :
    (if c then .fail e else p).run specImpl b = out (if c then .err e else y) := by
  split
  · exact (ho.1 e).symm
  · exact h ‹_›

theorem run_bind {α β γ : Type} {out : Res α → Res (LBuf × β)} (ho : Strict out) {r : Res γ} {k : γ → Prog β}
    {f : γ → Res α} {b : LBuf} (h : ∀ c, r = .ok c → (k c).run specImpl b = out (f c)) :
    (Prog.lift r k).run specImpl b = out (r >>= f) := by
  cases r with
  | ok c => exact h c rfl
  | err e => exact (ho.1 e).symm
  | panic p => exact (ho.2 p).symm

/-- the same for a step that the program takes at once and the function in two binds -/
theorem run_bind₂ {α β γ δ : Type} {out : Res α → Res (LBuf × β)} (ho : Strict out) {r : Res δ} {s : δ → Res γ}
    {k : γ → Prog β} {f : γ → Res α} {b : LBuf} (h : ∀ x c, r = .ok x → s x = .ok c → (k c).run specImpl b = out (f c)) :
    (Prog.lift (r >>= s) k).run specImpl b = out (r >>= fun x => s x >>= f) := by
  cases r with
  | ok x => exact run_bind ho (h x · rfl)
  | err e => exact (ho.1 e).symm
  | panic p => exact (ho.2 p).symm

/-- decrypt through `as_mut()`, then `buffer_resize` down to the plaintext -/
theorem run_setView_truncate (v d : Bytes) (n : Nat) (cap : Option Nat) (hv : v.length = d.length) (hn : n ≤ v.length)
    (hfit : fits cap d.length = true) :
    (Prog.setView v (.resize n (.ret ()))).run specImpl ⟨d, cap⟩ = .ok (⟨v.take n, cap⟩, ()) := by
  rw [run_setView_ok _ _ _ _ hv, run_resize_ok _ _ _ _ (fits_mono cap _ _ (hv ▸ hn) hfit), run_ret,
    Nat.sub_eq_zero_of_le hn, show zeros 0 = [] from rfl, List.append_nil]

/-! ### GCM / ChaCha20-Poly1305 wrappers -/

theorem streamEncryptP_run_cap (A : AeadPrim) (hA : ∀ k n a m c t, A.enc k n a m = some (c, t) → c.length = m.length)
    (nonceLen : Nat) (key nonce aad input : Bytes) (cap : Option Nat)
    (hfit : ∀ ct tag, A.enc key nonce aad input = some (ct, tag) → fits cap (input.length + tag.length) = true) :
    (streamEncryptP A nonceLen key nonce aad).run specImpl ⟨input, cap⟩
      = encOut cap (streamEncrypt A nonceLen key input nonce aad) := by
  unfold streamEncryptP streamEncrypt
  refine run_guard (encOut_strict cap) fun _ => ?_
  refine run_bind (encOut_strict cap) fun n hn => ?_
  obtain ⟨_, rfl⟩ := fromSlice_ok hn
  rw [run_view]
  cases he : A.enc key n aad input with
  | none => rfl
  | some p =>
    obtain ⟨ct, tag⟩ := p
    have hl := hA _ _ _ _ _ _ he
    show (Prog.setView ct _).run specImpl _ = _
    rw [run_setView_ok _ _ _ _ hl, run_view, run_write_ok _ _ _ _ (hl ▸ hfit ct tag he), run_ret, hl]
    rfl

theorem streamDecryptP_run_cap (A : AeadPrim) (hA : ∀ k n a c t m, A.dec k n a c t = some m → m.length = c.length)
    (nonceLen : Nat) (shortKind : Kind) (key nonce aad input : Bytes) (cap : Option Nat)
    (hfit : fits cap input.length = true) :
    (streamDecryptP A nonceLen shortKind key nonce aad).run specImpl ⟨input, cap⟩
      = decOut cap (streamDecrypt A nonceLen shortKind key input nonce aad) := by
  unfold streamDecryptP streamDecrypt
  refine run_guard (decOut_strict cap) fun _ => ?_
  rw [run_view]
  refine run_guard (decOut_strict cap) fun hb => ?_
  refine run_bind (decOut_strict cap) fun n _ => ?_
  refine run_bind₂ (decOut_strict cap) fun t tag _ _ => ?_
  refine run_bind (decOut_strict cap) fun ct hct => ?_
  obtain ⟨hle, rfl⟩ := sliceTo_ok hct
  cases hd : A.dec key n aad (input.take (input.length - A.tagLen)) tag with
  | none => rfl
  | some pt =>
    have hl : pt.length = input.length - A.tagLen := by rw [hA _ _ _ _ _ _ hd, List.length_take, Nat.min_eq_left hle]
    show (Prog.setView (pt ++ _) _).run specImpl _ = _
    rw [run_setView_truncate _ _ _ _ (by rw [List.length_append, List.length_drop, hl]; omega)
      (by rw [List.length_append]; omega) hfit, List.take_left' hl]
    rfl

theorem cbcHmacEncryptP_run_cap (C : BlockCipher) (hC : ∀ k b, b.length = 16 → (C.enc k b).length = 16) (M : Mac) (K : Nat)
    (key nonce aad input : Bytes) (cap : Option Nat)
    (hfit : fits cap (input.length + (cbcPaddingLength input.length + K)) = true) :
    (cbcHmacEncryptP C M K key nonce aad).run specImpl ⟨input, cap⟩
      = encOut cap (cbcHmacEncrypt C M K key input nonce aad) := by
  unfold cbcHmacEncryptP cbcHmacEncrypt
  refine run_guard (encOut_strict cap) fun _ => ?_
  refine run_guard (encOut_strict cap) fun _ => ?_
  refine run_guard (encOut_strict cap) fun _ => ?_
  rw [run_view, run_extend_ok _ _ _ _ hfit]
  refine run_bind₂ (encOut_strict cap) fun ek encKey _ _ => ?_
  refine run_bind (encOut_strict cap) fun iv hiv => ?_
  obtain ⟨hn, rfl⟩ := fromSlice_ok hiv
  rw [run_view]
  refine run_guard (encOut_strict cap) fun hpad => ?_
  -- `encrypt_padded_mut` works in place: the ciphertext is as long as message and padding, the tag's room follows
  dsimp only
  rw [List.take_left]
  have hctl := cbc_encrypt_pad_length (C.enc encKey) (hC _) iv input hn
  have htail : ((input ++ zeros (cbcPaddingLength input.length + K)).drop (input.length + cbcPaddingLength input.length)).length
      = K := by
    simp only [List.length_drop, List.length_append, zeros_length]; omega
  generalize Cbc.encrypt (C.enc encKey) iv (Cbc.pkcs7Pad 16 input) = ct at hctl ⊢
  generalize (input ++ zeros (cbcPaddingLength input.length + K)).drop (input.length + cbcPaddingLength input.length) = tail
    at htail ⊢
  rw [run_setView_ok _ _ _ _ (by simp only [List.length_append, hctl, htail, zeros_length]; omega)]
  refine run_bind (encOut_strict cap) fun macKey _ => ?_
  rw [run_view]
  refine run_bind (encOut_strict cap) fun ctv _ => ?_
  refine run_bind (encOut_strict cap) fun macT _ => ?_
  refine run_bind (encOut_strict cap) fun buf3 h3 => ?_
  rw [run_setView_ok _ _ _ _ (copyInto_length _ _ _ _ _ h3), run_ret]
  rfl

theorem cbcHmacDecryptP_run_cap (fixed : Bool) (C : BlockCipher) (hC : ∀ k b, b.length = 16 → (C.dec k b).length = 16)
    (M : Mac) (K : Nat) (key nonce aad input : Bytes) (cap : Option Nat) (hfit : fits cap input.length = true) :
    (cbcHmacDecryptP fixed C M K key nonce aad).run specImpl ⟨input, cap⟩
      = decOut cap (cbcHmacDecrypt fixed C M K key input nonce aad) := by
  unfold cbcHmacDecryptP cbcHmacDecrypt
  refine run_guard (decOut_strict cap) fun _ => ?_
  refine run_guard (decOut_strict cap) fun _ => ?_
  rw [run_view]
  refine run_guard (decOut_strict cap) fun _ => ?_
  refine run_bind₂ (decOut_strict cap) fun t tag _ _ => ?_
  refine run_bind (decOut_strict cap) fun macKey _ => ?_
  refine run_bind (decOut_strict cap) fun ctv _ => ?_
  refine run_bind (decOut_strict cap) fun macT _ => ?_
  refine run_guard (decOut_strict cap) fun _ => ?_
  refine run_bind₂ (decOut_strict cap) fun ek encKey _ _ => ?_
  refine run_bind (decOut_strict cap) fun iv hiv => ?_
  refine run_bind (decOut_strict cap) fun ctBuf hct => ?_
  obtain ⟨hn, rfl⟩ := fromSlice_ok hiv
  obtain ⟨hle, rfl⟩ := sliceTo_ok hct
  cases hd : cbcDecryptPadded (C.dec encKey) iv (input.take (input.length - K)) with
  | none => rfl
  | some pt =>
    refine run_guard (decOut_strict cap) fun _ => ?_
    -- the blocks are decrypted where they stand; `buffer_resize` then cuts off padding and tag
    obtain ⟨hD, hptl, hpt⟩ := cbcDecryptPadded_some _ (hC _) _ _ _ hn hd
    rw [List.length_take, Nat.min_eq_left hle] at hD hptl
    rw [run_setView_truncate _ _ _ _ (by rw [List.length_append, List.length_drop, hD]; omega)
      (by rw [List.length_append, hD]; omega) hfit, List.take_append_of_le_length (hD.symm ▸ hptl), hpt]
    rfl

theorem kwEncryptP_run_cap (C : BlockCipher) (hC : ∀ k b, b.length = 16 → (C.enc k b).length = 16)
    (key nonce aad input : Bytes) (cap : Option Nat) (hfit : fits cap (input.length + 8) = true) :
    (kwEncryptP C key nonce aad).run specImpl ⟨input, cap⟩ = encOut cap (kwEncrypt C key input nonce aad) := by
  unfold kwEncryptP kwEncrypt
  refine run_guard (encOut_strict cap) fun _ => ?_
  refine run_guard (encOut_strict cap) fun _ => ?_
  rw [run_view]
  refine run_guard (encOut_strict cap) fun h8 => ?_
  rw [run_insert0_ok _ _ _ _ hfit, run_view]
  refine run_bind (encOut_strict cap) fun body hbody => ?_
  refine run_bind (encOut_strict cap) fun buf3 h3 => ?_
  have hb : input = body := (sliceFrom_ok hbody).2.symm
  subst hb
  -- the chunks are written back one for one, so `buf3` is as long as the buffer after the insertion
  obtain ⟨_, r4, r3⟩ := kwWrapPasses_blocks (C.enc key) (hC key) _ 6 0 kwIv _ (blocks_chunks kwIv input kwIv_length rfl)
  have hl := copyInto_length _ _ _ _ _ h3
  rw [List.append_assoc, List.length_append, chunks_writeback_length 8 input _ r3 r4,
    List.take_left' (zeros_length 8), ← List.length_append] at hl
  rw [run_setView_ok _ _ _ _ hl, run_ret, hl, List.length_append, zeros_length, Nat.add_comm]
  rfl

theorem kwDecryptP_run_cap (C : BlockCipher) (hC : ∀ k b, b.length = 16 → (C.dec k b).length = 16)
    (key nonce aad input : Bytes) (cap : Option Nat) :
    (kwDecryptP C key nonce aad).run specImpl ⟨input, cap⟩ = decOut cap (kwDecrypt C key input nonce aad) := by
  unfold kwDecryptP kwDecrypt
  refine run_guard (decOut_strict cap) fun _ => ?_
  refine run_guard (decOut_strict cap) fun _ => ?_
  rw [run_view]
  refine run_guard (decOut_strict cap) fun _ => ?_
  refine run_guard (decOut_strict cap) fun _ => ?_
  refine run_bind₂ (decOut_strict cap) fun hd iv0 hhd hiv0 => ?_
  obtain ⟨⟨_, h8⟩, rfl⟩ := sliceRange_ok hhd
  obtain ⟨hiv, rfl⟩ := tryInto8_ok hiv0
  rw [run_remove0_ok _ _ _ _ h8, run_view, drainFront, if_pos h8, bind_ok]
  simp only [List.drop_zero] at hiv ⊢
  have hn := drop_blocks 8 input
  obtain ⟨_, r4, r3⟩ := kwUnwrapPasses_blocks (C.dec key) (hC key) _ 6 0 _ _ (blocks_chunks _ (input.drop 8) hiv hn)
  rw [run_setView_ok _ _ _ _ (chunks_writeback_length 8 _ _ r3 (r4.trans hn.symm)), run_ite]
  split <;> rfl

end

/-! ### dispatch (`AnyKey::encrypt_in_place` / `decrypt_in_place`) -/

/-- the number of bytes `encrypt_in_place` adds to a message of `n` bytes (tag; padding + tag; the key-wrap IV block) -/
def encGrowth (P : Prims) (k : Key) (n : Nat) : Nat :=
  match k.alg with
  | .A128Gcm => P.gcm128.tagLen
  | .A256Gcm => P.gcm256.tagLen
  | .A128CbcHs256 => cbcPaddingLength n + 16
  | .A256CbcHs512 => cbcPaddingLength n + 32
  | .A128Kw => 8
  | .A256Kw => 8
  | .C20P => P.c20p.tagLen
  | .XC20P => P.xc20p.tagLen
  | .Ed25519 => 0

/-- with the tag sizes of the Rust instantiation this is what a caller computes from the public API:
    `aead_padding(msg_len) + aead_params().tag_length` -/
theorem encGrowth_eq (P : Prims) (hP : P.Lawful) (k : Key) (n : Nat) :
    encGrowth P k n = aeadPadding k n + k.alg.params.2 := by
  obtain ⟨alg, bytes⟩ := k
  cases alg <;> simp [encGrowth, aeadPadding, Alg.params, hP.gcm128_tag, hP.gcm256_tag, hP.c20p_tag, hP.xc20p_tag]

theorem encryptInPlaceP_run_cap (P : Prims) (hP : PrimsInPlace P) (k : Key) (nonce aad input : Bytes) (cap : Option Nat)
    (hfit : fits cap (input.length + encGrowth P k input.length) = true) :
    (encryptInPlaceP P k nonce aad).run specImpl ⟨input, cap⟩ = encOut cap (encryptInPlace P k input nonce aad) := by
  obtain ⟨alg, bytes⟩ := k
  cases alg <;> simp only [encryptInPlaceP, encryptInPlace, encGrowth] at hfit ⊢
  · exact streamEncryptP_run_cap _ hP.gcm128.enc_len _ _ _ _ _ _
      (fun ct tag he => by rw [hP.gcm128.tag_len _ _ _ _ _ _ he]; exact hfit)
  · exact streamEncryptP_run_cap _ hP.gcm256.enc_len _ _ _ _ _ _
      (fun ct tag he => by rw [hP.gcm256.tag_len _ _ _ _ _ _ he]; exact hfit)
  · exact cbcHmacEncryptP_run_cap _ hP.aes128.enc_len _ _ _ _ _ _ _ hfit
  · exact cbcHmacEncryptP_run_cap _ hP.aes256.enc_len _ _ _ _ _ _ _ hfit
  · exact kwEncryptP_run_cap _ hP.aes128.enc_len _ _ _ _ _ hfit
  · exact kwEncryptP_run_cap _ hP.aes256.enc_len _ _ _ _ _ hfit
  · exact streamEncryptP_run_cap _ hP.c20p.enc_len _ _ _ _ _ _
      (fun ct tag he => by rw [hP.c20p.tag_len _ _ _ _ _ _ he]; exact hfit)
  · exact streamEncryptP_run_cap _ hP.xc20p.enc_len _ _ _ _ _ _
      (fun ct tag he => by rw [hP.xc20p.tag_len _ _ _ _ _ _ he]; exact hfit)
  · rfl

theorem decryptInPlaceP_run_cap (fixed : Bool) (P : Prims) (hP : PrimsInPlace P) (k : Key) (nonce aad input : Bytes)
    (cap : Option Nat) (hfit : fits cap input.length = true) :
    (decryptInPlaceP fixed P k nonce aad).run specImpl ⟨input, cap⟩ = decOut cap (decryptInPlace fixed P k input nonce aad) := by
  obtain ⟨alg, bytes⟩ := k
  cases alg <;> simp only [decryptInPlaceP, decryptInPlace]
  · exact streamDecryptP_run_cap _ hP.gcm128.dec_len _ _ _ _ _ _ _ hfit
  · exact streamDecryptP_run_cap _ hP.gcm256.dec_len _ _ _ _ _ _ _ hfit
  · exact cbcHmacDecryptP_run_cap _ _ hP.aes128.dec_len _ _ _ _ _ _ _ hfit
  · exact cbcHmacDecryptP_run_cap _ _ hP.aes256.dec_len _ _ _ _ _ _ _ hfit
  · exact kwDecryptP_run_cap _ hP.aes128.dec_len _ _ _ _ _
  · exact kwDecryptP_run_cap _ hP.aes256.dec_len _ _ _ _ _
  · exact streamDecryptP_run_cap _ hP.c20p.dec_len _ _ _ _ _ _ _ hfit
  · exact streamDecryptP_run_cap _ hP.xc20p.dec_len _ _ _ _ _ _ _ hfit
  · rfl

/-! ### over a fixed buffer: `Writer<[u8]>` (`writerImpl true`) with enough capacity -/

/-- the outcome of an `encrypt_in_place` over a Writer whose slice has `total` bytes, against the function's result -/
def WriterEnc (total : Nat) (r : Res (Bytes × Nat)) (x : Res (Writer × Nat)) : Prop :=
  match r with
  | .ok (buf, n) => ∃ rest', buf.length + rest'.length = total ∧ x = .ok (⟨buf ++ rest', buf.length⟩, n)
  | .err e => x = .err e
  | .panic _ => True

/-- the same for `decrypt_in_place`, which returns no value -/
def WriterDec (total : Nat) (r : Res Bytes) (x : Res (Writer × Unit)) : Prop :=
  match r with
  | .ok buf => ∃ rest', buf.length + rest'.length = total ∧ x = .ok (⟨buf ++ rest', buf.length⟩, ())
  | .err e => x = .err e
  | .panic _ => True

theorem writerEnc_of_cap (prog : Prog Nat) (input rest : Bytes) (r : Res (Bytes × Nat))
    (h : prog.run specImpl ⟨input, some (input.length + rest.length)⟩ = encOut (some (input.length + rest.length)) r) :
    WriterEnc (input.length + rest.length) r (prog.run (writerImpl true) ⟨input ++ rest, input.length⟩) := by
  have hw := Lemmas.writer_run_out prog input rest
  rw [h] at hw
  cases r with
  | ok p => exact Lemmas.writerOut_ok hw
  | err e => exact hw
  | panic p => trivial

theorem writerDec_of_cap (prog : Prog Unit) (input rest : Bytes) (r : Res Bytes)
    (h : prog.run specImpl ⟨input, some (input.length + rest.length)⟩ = decOut (some (input.length + rest.length)) r) :
    WriterDec (input.length + rest.length) r (prog.run (writerImpl true) ⟨input ++ rest, input.length⟩) := by
  have hw := Lemmas.writer_run_out prog input rest
  rw [h] at hw
  cases r with
  | ok buf => exact Lemmas.writerOut_ok hw
  | err e => exact hw
  | panic p => trivial

/-! ### `crypto_box` / `crypto_box_open`: what the programs compute (the tie to the list functions of `Model/Ecdh.lean` is
`Lemmas/ResizeBufTieBox.lean`) -/

/-- `crypto_box`: the buffer afterwards is tag ‖ ciphertext -/
theorem cryptoBoxP_run_cap (sealF : Bytes → Bytes × Bytes) (input : Bytes) (cap : Option Nat)
    (hct : (sealF input).1.length = input.length) (hfit : fits cap (input.length + (sealF input).2.length) = true) :
    (cryptoBoxP sealF).run specImpl ⟨input, cap⟩ = .ok (⟨(sealF input).2 ++ (sealF input).1, cap⟩, ()) := by
  unfold cryptoBoxP
  rw [run_view, run_setView_ok _ _ _ _ hct, run_insert0_ok _ _ _ _ (by rw [hct]; exact hfit)]
  rfl

/-- `crypto_box_open`: short input, rejected tag, or the plaintext alone (the tag is removed from the front) -/
theorem cryptoBoxOpenP_run_cap (tagLen : Nat) (shortErr decErr : Err) (opn : Bytes → Bytes → Option Bytes)
    (hlen : ∀ ct tag pt, opn ct tag = some pt → pt.length = ct.length) (input : Bytes) (cap : Option Nat) :
    (cryptoBoxOpenP tagLen shortErr decErr opn).run specImpl ⟨input, cap⟩ =
      if input.length < tagLen then .err shortErr else
      match opn (input.drop tagLen) (input.take tagLen) with
      | none => .err decErr
      | some pt => .ok (⟨pt, cap⟩, ()) := by
  unfold cryptoBoxOpenP
  by_cases hb : input.length < tagLen
  · simp [hb]
  · have h1 : tagLen ≤ input.length := by omega
    simp only [run_view, hb, if_false, sliceTo, sliceFrom, h1, if_true, run_lift_ok]
    cases ho : opn (input.drop tagLen) (input.take tagLen) with
    | none => rfl
    | some pt =>
      have hl := hlen _ _ _ ho
      have ht : (input.take tagLen).length = tagLen := by rw [List.length_take]; omega
      simp only []
      rw [run_setView_ok _ _ _ _ (by rw [List.length_append, hl, ht, List.length_drop]; omega),
        run_remove0_ok _ _ _ _ (by rw [List.length_append, ht]; omega), List.drop_left' ht]
      rfl

/-! ### the toy primitives work in place; the hypothesis cannot be dropped -/

theorem toyAead_inPlace : AeadInPlace toyAead :=
  AeadInPlace.of_lawful Askar.Aead.Lemmas.toyAead_lawful (by
    intro k n a c t m h
    simp only [toyAead] at h
    split at h
    · cases h; exact Askar.Aead.Lemmas.xorByte_length _ _
    · cases h)

theorem toyPrims_inPlace : PrimsInPlace toyPrims :=
  ⟨BlockInPlace.of_lawful Askar.Aead.Lemmas.toyCipher_lawful, BlockInPlace.of_lawful Askar.Aead.Lemmas.toyCipher_lawful,
   toyAead_inPlace, toyAead_inPlace, toyAead_inPlace, toyAead_inPlace⟩

/-- an "AEAD" whose ciphertext is one byte longer than the message / whose plaintext is one byte longer than the ciphertext:
    cannot be run in place -/
def growingAead : AeadPrim := ⟨1, fun _ _ _ m => some (m ++ [0], [0]), fun _ _ _ c _ => some (c ++ [0])⟩

/-- for it the function of `Model/Aead.lean` returns the longer list, the program panics on the write through `as_mut()`
    (a slice cannot grow): the hypothesis `enc_len` of `streamEncryptP_run_cap` is needed -/
theorem streamEncrypt_needs_inPlace :
    streamEncrypt growingAead 0 [] [7] [] [] = .ok ([7, 0, 0], 1) ∧
    (streamEncryptP growingAead 0 [] [] []).run specImpl ⟨[7], none⟩ = .panic .copyLen := by
  constructor <;> decide +kernel

/-- the same for decryption (`dec_len`, which `AeadPrim.Lawful` does not contain) -/
theorem streamDecrypt_needs_inPlace :
    streamDecrypt growingAead 0 .Invalid [] [7, 0] [] [] = .ok [7, 0] ∧
    (streamDecryptP growingAead 0 .Invalid [] [] []).run specImpl ⟨[7, 0], none⟩ = .panic .copyLen := by
  constructor <;> decide +kernel

/-- a "block cipher" whose output is one byte longer than its input: key wrap of 8 bytes in the function model returns
    22 bytes, the program's write through `as_mut()` (16 bytes) panics -/
def growingCipher : BlockCipher := ⟨fun _ b => b ++ [0], fun _ b => b ++ [0]⟩

theorem kwEncrypt_needs_inPlace :
    (match kwEncrypt growingCipher [] (zeros 8) [] [] with | .ok (buf, n) => decide (buf.length = 22 ∧ n = 22) | _ => false) = true ∧
    (kwEncryptP growingCipher [] [] []).run specImpl ⟨zeros 8, none⟩ = .panic .copyLen := by
  constructor <;> decide +kernel

/-! ### two theorems of C12 transferred to fixed buffers -/

theorem cbcHmac_roundtrip_over_writer (fixed : Bool) (C : BlockCipher) (hC : C.Lawful) (M : Mac) (hM : M.Lawful) (K : Nat)
    (key m nonce aad rest : Bytes) (hn : nonce.length = 16) (ha : aadTooLong aad = false) (hk : key.length = 2 * K)
    (hK : K ≤ M.outLen) (hcap : cbcPaddingLength m.length + K ≤ rest.length) :
    ∃ buf rest' rest'',
      cbcHmacEncrypt C M K key m nonce aad = .ok (buf, m.length + cbcPaddingLength m.length) ∧
      (cbcHmacEncryptP C M K key nonce aad).run (writerImpl true) ⟨m ++ rest, m.length⟩
        = .ok (⟨buf ++ rest', buf.length⟩, m.length + cbcPaddingLength m.length) ∧
      buf.length = m.length + cbcPaddingLength m.length + K ∧
      buf.length + rest'.length = m.length + rest.length ∧
      (cbcHmacDecryptP fixed C M K key nonce aad).run (writerImpl true) ⟨buf ++ rest', buf.length⟩
        = .ok (⟨m ++ rest'', m.length⟩, ()) ∧
      m.length + rest''.length = m.length + rest.length := by
  obtain ⟨buf, he, hl, hd⟩ := Askar.Aead.Lemmas.cbcHmac_roundtrip fixed C hC M hM K key m nonce aad hn ha hk hK
  have h1 := writerEnc_of_cap _ m rest _
    (cbcHmacEncryptP_run_cap C hC.enc_len M K key nonce aad m _ (fits_some _ _ (by omega)))
  rw [he] at h1
  obtain ⟨rest', hlen, hx⟩ := h1
  have h2 := writerDec_of_cap _ buf rest' _
    (cbcHmacDecryptP_run_cap fixed C hC.dec_len M K key nonce aad buf _ (fits_some _ _ (by omega)))
  rw [hd] at h2
  obtain ⟨rest'', hlen2, hx2⟩ := h2
  exact ⟨buf, rest', rest'', he, hx, hl, hlen, hx2, by omega⟩

theorem kw_model_refines_rfc3394_over_writer (C : BlockCipher) (hC : C.Lawful) (key : Bytes) :
    (∀ p rest : Bytes, p.length % 8 = 0 → 8 ≤ rest.length →
      ∃ rest', (kwEncryptP C key [] []).run (writerImpl true) ⟨p ++ rest, p.length⟩ =
          .ok (⟨(KeyWrap.wrapWith (Askar.Aead.Lemmas.liftBA (C.enc key)) KeyWrap.defaultIV p.toByteArray).toList ++ rest',
                p.length + 8⟩, p.length + 8)
        ∧ rest'.length + 8 = rest.length) ∧
    (∀ c rest : Bytes,
      match KeyWrap.unwrapWith (Askar.Aead.Lemmas.liftBA (C.dec key)) KeyWrap.defaultIV c.toByteArray with
      | some p => ∃ rest', (kwDecryptP C key [] []).run (writerImpl true) ⟨c ++ rest, c.length⟩ =
            .ok (⟨p.toList ++ rest', p.toList.length⟩, ())
          ∧ p.toList.length + rest'.length = c.length + rest.length
      | none => (kwDecryptP C key [] []).run (writerImpl true) ⟨c ++ rest, c.length⟩ =
            .err ⟨.Encryption, if c.length % 8 ≠ 0 then .kwLen else .default⟩) := by
  constructor
  · intro p rest hp hcap
    have h := writerEnc_of_cap _ p rest _ (kwEncryptP_run_cap C hC.enc_len key [] [] p _ (fits_some _ _ (by omega)))
    obtain ⟨buf, he, hl, _⟩ := Askar.Aead.Lemmas.kw_roundtrip C hC key p hp
    have he' := Askar.Aead.Lemmas.kwEncrypt_is_rfc3394 C hC key p hp
    rw [he] at he'
    injection he' with he'
    injection he' with hb _
    rw [he] at h
    obtain ⟨rest', hlen, hx⟩ := h
    subst hb
    rw [hl] at hx
    exact ⟨rest', hx, by omega⟩
  · intro c rest
    have h := writerDec_of_cap _ c rest _ (kwDecryptP_run_cap C hC.dec_len key [] [] c _)
    rw [Askar.Aead.Lemmas.kwDecrypt_is_rfc3394 C hC key c] at h
    revert h
    cases KeyWrap.unwrapWith (Askar.Aead.Lemmas.liftBA (C.dec key)) KeyWrap.defaultIV c.toByteArray with
    | some p => rintro ⟨rest', hlen, hx⟩; exact ⟨rest', hx, hlen⟩
    | none => exact id

end Askar.ResizeBuf.Tie
