/-
C12 — the tie of `Lemmas/ResizeBufTie.lean` for the two programs whose list FUNCTIONS live in `Model/Ecdh.lean` (C15):
`cryptoBoxP` / `cryptoBoxOpenP` (the part of `crypto_box` / `crypto_box_open` after the key and nonce checks), run over the
list implementation without capacity, compute `Ecdh.cryptoBox` / `Ecdh.cryptoBoxOpen`.  `Ecdh.CErr` carries the error kind
only, so both error exits of `crypto_box_open` are compared with one `Err` value.  Core Lean only.
-/
import AskarModel.Lemmas.ResizeBufTie
import AskarModel.Lemmas.Ecdh

namespace Askar.ResizeBuf.Tie
open Askar.Aead Askar.ResizeBuf

/-- a result of the list functions of `Model/Ecdh.lean` in the result type of a program run (`e`: the `Encryption` error) -/
def boxOut (e : Err) : Askar.Ecdh.Res Bytes → Res (LBuf × Unit)
  | .ok b => .ok (⟨b, none⟩, ())
  | .err _ => .err e
  | .panic => .panic .sliceOob

theorem cryptoBoxP_run_ecdh (B : Askar.Ecdh.BoxOps) (hct : ∀ k n m, (B.sealBox k n m).1.length = m.length)
    (rp ss : Askar.Ecdh.Key) (sk : Bytes) (hs : ss.secret = some sk) (nonce input : Bytes) (hn : nonce.length = 24) (e : Err) :
    (cryptoBoxP (B.sealBox (B.beforenm sk rp.pub) nonce)).run specImpl ⟨input, none⟩
      = boxOut e (Askar.Ecdh.cryptoBox B rp ss input nonce) := by
  rw [Askar.Ecdh.cryptoBox_eq B rp ss sk hs input nonce hn, cryptoBoxP_run_cap _ _ none (hct _ _ _) rfl]
  rfl

theorem cryptoBoxOpenP_run_ecdh (B : Askar.Ecdh.BoxOps) (hlen : ∀ k n c t m, B.openBox k n c t = some m → m.length = c.length)
    (rs sp : Askar.Ecdh.Key) (sk : Bytes) (hs : rs.secret = some sk) (nonce input : Bytes) (hn : nonce.length = 24) (e : Err) :
    (cryptoBoxOpenP 16 e e (B.openBox (B.beforenm sk sp.pub) nonce)).run specImpl ⟨input, none⟩
      = boxOut e (Askar.Ecdh.cryptoBoxOpen B rs sp input nonce) := by
  rw [cryptoBoxOpenP_run_cap 16 e e _ (fun ct tag pt h => hlen _ _ _ _ _ h) input none]
  by_cases hb : input.length < 16
  · obtain ⟨e', he'⟩ := Askar.Ecdh.cryptoBoxOpen_short B rs sp input nonce hb
    rw [he', if_pos hb]; rfl
  · rw [if_neg hb, Askar.Ecdh.cryptoBoxOpen_eq B rs sp sk hs input nonce hn (by omega)]
    cases B.openBox (B.beforenm sk sp.pub) nonce (input.drop 16) (input.take 16) <;> rfl

end Askar.ResizeBuf.Tie
