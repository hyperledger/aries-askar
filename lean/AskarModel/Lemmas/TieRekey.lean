/-
Tie 2: the two models of `rekey` agree.

  engine C08   `Askar.Keys`        `rekeyG` / `rekey` over `Store C I`: method table, blank-raw guard, `Method.resolve`,
                                   `rewrap` (load every wrapped profile key with the handle's store key, wrap it with the new one),
                                   config key text := the new reference; abstract primitives `Crypto` with `Crypto.Laws`
  engine C06S  `Askar.StoreFault`  `Call.rekey new` as the list of its SQL statements in one transaction, `runCall (fault)`;
                                   keys are IDENTITIES (`KeyId`), a profile remembers the identity its key is wrapped with

What is related (`Rel`, for an interpretation `ι` of identities and names, and the list `pks` of the profile keys in row order):
  * the `config.key` text is the reference `ι.ref st.storeKey` written as a URI; the default profile is the same name;
  * the profile rows correspond one to one in order, names through `ι.name`, and the wrapped key of row `i` IS a wrap of
    `pks[i]` under the store key `ι.key p.wrap` (some nonce): "wrapped with identity w" means "sealed under the key w stands for";
  * handles: the key cache's store key is `ι.key h.cacheKey` (`HRel`).
`pks` is a parameter of the relation and the SAME list before and after: a re-key preserves every profile key.
The theorems hold for EVERY `Crypto` satisfying `Crypto.Laws`; for the identity-style toy crypto the relation is a function
(`absToy`) and the tie is a commuting square (`Askar.Ties.rekey_toy_square`).
-/
import AskarModel.Lemmas.Keys
import AskarModel.Lemmas.StoreFault

namespace Askar.Ties.Rekey
open Askar

variable {C : Keys.Crypto} {I : Type}

/-- how the key identities and the names of the StoreFault model are read in the Keys model -/
structure Interp (C : Keys.Crypto) where
  /-- the store key an identity stands for (`none`: the unprotected store) -/
  key : StoreFault.KeyId → Option C.Key
  /-- the key reference stored in `config.key` for it -/
  ref : StoreFault.KeyId → Keys.KeyRef
  /-- profile names as bytes -/
  name : String → Uri.Str

def ProfRel (ι : Interp C) (p : StoreFault.Profile) (e : Uri.Str × C.Blob) (pk : C.PK) : Prop :=
  e.1 = ι.name p.name ∧ ∃ n, e.2 = C.wrapPk (ι.key p.wrap) n pk

def ProfsRel (ι : Interp C) : List StoreFault.Profile → List (Uri.Str × C.Blob) → List C.PK → Prop
  | [], [], [] => True
  | p :: ps, e :: es, k :: ks => ProfRel ι p e k ∧ ProfsRel ι ps es ks
  | _, _, _ => False

structure Rel (ι : Interp C) (pks : List C.PK) (st : StoreFault.St) (kst : Keys.Store C I) : Prop where
  keyRef : kst.keyRef = (ι.ref st.storeKey).toUri
  default : kst.defaultProfile = ι.name st.default
  profiles : ProfsRel ι st.profiles kst.profiles pks

def HRel (ι : Interp C) (h : StoreFault.Handle) (kh : Keys.Handle C) : Prop := kh.storeKey = ι.key h.cacheKey

theorem profsRel_nil {ι : Interp C} {es : List (Uri.Str × C.Blob)} {pks : List C.PK} (h : ProfsRel ι [] es pks) :
    es = [] ∧ pks = [] := by
  cases es <;> cases pks <;> simp [ProfsRel] at h ⊢

theorem profsRel_cons {ι : Interp C} {p : StoreFault.Profile} {ps : List StoreFault.Profile} {es : List (Uri.Str × C.Blob)}
    {pks : List C.PK} (h : ProfsRel ι (p :: ps) es pks) :
    ∃ e es' k ks, es = e :: es' ∧ pks = k :: ks ∧ ProfRel ι p e k ∧ ProfsRel ι ps es' ks := by
  cases es with
  | nil => simp [ProfsRel] at h
  | cons e es' =>
    cases pks with
    | nil => simp [ProfsRel] at h
    | cons k ks => exact ⟨e, es', k, ks, rfl, rfl, h⟩

theorem rewrap_rel (L : C.Laws) (ι : Interp C) (cache new : StoreFault.KeyId) (nonce : Nat → Bytes)
    (ps : List StoreFault.Profile) : ∀ (es : List (Uri.Str × C.Blob)) (pks : List C.PK) (i : Nat),
      ProfsRel ι ps es pks → (∀ p ∈ ps, p.wrap = cache) →
      ∃ es', Keys.rewrap C (ι.key cache) (ι.key new) nonce i es = .ok es' ∧
        ProfsRel ι (ps.map fun p => { p with wrap := new }) es' pks := by
  induction ps with
  | nil =>
    intro es pks i hr _
    obtain ⟨rfl, rfl⟩ := profsRel_nil hr
    exact ⟨[], rfl, trivial⟩
  | cons p ps ih =>
    intro es pks i hr hw
    obtain ⟨⟨en, eb⟩, es, k, ks, rfl, rfl, ⟨hname, n, hblob⟩, hrest⟩ := profsRel_cons hr
    obtain ⟨es', h1, h2⟩ := ih es ks (i + 1) hrest (fun q hq => hw q (List.mem_cons_of_mem _ hq))
    simp only at hname hblob
    have hload : C.loadPk (ι.key cache) eb = .ok k := by
      rw [hblob, hw p List.mem_cons_self]; exact L.load_wrap _ _ _
    exact ⟨(en, C.wrapPk (ι.key new) (nonce i) k) :: es', by simp only [Keys.rewrap, hload, h1],
      ⟨hname, nonce i, rfl⟩, h2⟩

theorem rewrap_fails (L : C.Laws) (ι : Interp C) (cache : StoreFault.KeyId) (sk' : Option C.Key) (nonce : Nat → Bytes)
    (ps : List StoreFault.Profile) : ∀ (es : List (Uri.Str × C.Blob)) (pks : List C.PK) (i : Nat),
      ProfsRel ι ps es pks → (∃ p ∈ ps, ι.key p.wrap ≠ ι.key cache) →
      ∃ e, Keys.rewrap C (ι.key cache) sk' nonce i es = .error e := by
  induction ps with
  | nil => intro es pks i _ hex; obtain ⟨p, hp, _⟩ := hex; cases hp
  | cons p ps ih =>
    intro es pks i hr hex
    obtain ⟨⟨en, eb⟩, es, k, ks, rfl, rfl, ⟨_, n, hblob⟩, hrest⟩ := profsRel_cons hr
    simp only at hblob
    cases hl : C.loadPk (ι.key cache) eb with
    | error er => exact ⟨er, by simp only [Keys.rewrap, hl]⟩
    | ok pk' =>
      -- the first row loads, so it is wrapped under the handle's key: the offending row is further on
      have hkey : ι.key cache = ι.key p.wrap := by rw [hblob] at hl; exact L.ideal _ _ _ _ _ hl
      obtain ⟨q, hq, hne⟩ := hex
      rcases List.mem_cons.mp hq with rfl | hq'
      · exact absurd hkey.symm hne
      · obtain ⟨er, h1⟩ := ih es ks (i + 1) hrest ⟨q, hq', hne⟩
        exact ⟨er, by simp only [Keys.rewrap, hl, h1]⟩

theorem lookup_of_rel (ι : Interp C) (n : String) (ps : List StoreFault.Profile) :
    ∀ (es : List (Uri.Str × C.Blob)) (pks : List C.PK),
      ProfsRel ι ps es pks → ps.any (fun p => p.name == n) = true → (Keys.lookup (ι.name n) es).isSome = true := by
  induction ps with
  | nil => intro es pks _ h; simp at h
  | cons p ps ih =>
    intro es pks hr h
    obtain ⟨⟨en, eb⟩, es, k, ks, rfl, rfl, ⟨hname, _⟩, hrest⟩ := profsRel_cons hr
    simp only at hname
    simp only [Keys.lookup]
    by_cases he : en = ι.name n
    · simp [he]
    · rw [if_neg he]
      apply ih es ks hrest
      simp only [List.any_cons, Bool.or_eq_true] at h
      rcases h with h | h
      · have : p.name = n := by simpa using h
        rw [this] at hname
        exact absurd hname he
      · exact h

theorem resolve_err_input (m : Keys.Method) (pass : Keys.PassKey) (rnd : Keys.Rnd C) (e : Keys.Err)
    (h : m.resolve C pass rnd = .error e) : e = .input := by
  cases m with
  | kdf l =>
    simp only [Keys.Method.resolve] at h
    split at h
    · cases h
    · cases h; rfl
  | raw =>
    simp only [Keys.Method.resolve] at h
    split at h
    · split at h
      · cases h
      · cases h; rfl
    · cases h
  | unprotected => simp [Keys.Method.resolve] at h

/-! ## identity-style crypto: the relation is a function and the tie a commuting square -/

/-- the image of a StoreFault database in the Keys model over `Crypto.toy` (a blob = the key it is sealed under + the profile
    key): `pk` names the profile keys; the items are the logical content -/
def absToy (ι : Interp Keys.Crypto.toy) (pk : String → Nat) (st : StoreFault.St) :
    Keys.Store Keys.Crypto.toy (List (String × List StoreFault.Rec)) :=
  { keyRef := (ι.ref st.storeKey).toUri, defaultProfile := ι.name st.default,
    profiles := st.profiles.map fun p => (ι.name p.name, (ι.key p.wrap, pk p.name)),
    items := (StoreFault.content st).1 }

theorem absToy_profsRel (ι : Interp Keys.Crypto.toy) (pk : String → Nat) : ∀ (ps : List StoreFault.Profile),
    ProfsRel ι ps (ps.map fun p => (ι.name p.name, (ι.key p.wrap, pk p.name))) (ps.map fun p => pk p.name)
  | [] => trivial
  | _ :: ps => ⟨⟨rfl, [], rfl⟩, absToy_profsRel ι pk ps⟩

theorem absToy_rel (ι : Interp Keys.Crypto.toy) (pk : String → Nat) (st : StoreFault.St) :
    Rel ι (st.profiles.map fun p => pk p.name) st (absToy ι pk st) :=
  ⟨rfl, rfl, absToy_profsRel ι pk st.profiles⟩

theorem rewrap_toy (ι : Interp Keys.Crypto.toy) (pk : String → Nat) (cache new : StoreFault.KeyId) (nonce : Nat → Bytes) :
    ∀ (ps : List StoreFault.Profile) (i : Nat), (∀ p ∈ ps, p.wrap = cache) →
      Keys.rewrap Keys.Crypto.toy (ι.key cache) (ι.key new) nonce i (ps.map fun p => (ι.name p.name, (ι.key p.wrap, pk p.name))) =
        .ok (ps.map fun p => (ι.name p.name, (ι.key new, pk p.name)))
  | [], _, _ => rfl
  | p :: ps, i, hw => by
    have hp : p.wrap = cache := hw p List.mem_cons_self
    have ih := rewrap_toy ι pk cache new nonce ps (i + 1) (fun q hq => hw q (List.mem_cons_of_mem _ hq))
    simp only [List.map_cons, Keys.rewrap, hp, ih, if_true]

end Askar.Ties.Rekey
