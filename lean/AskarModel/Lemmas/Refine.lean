/-
Lemmas for C01 (refinement of the in-memory map `Spec.step` by the store model) and
C07 (profile isolation, key cache coherence).
-/
import AskarModel.Model.Spec
import AskarModel.Lemmas.Store

namespace Askar.Store
open Askar.Wql

namespace Lemmas

theorem cacheGet_cachePut_self (c : List (String × Nat × Nat)) (name : String) (v : Nat × Nat) :
    cacheGet (cachePut c name v) name = some v := by
  simp [cacheGet, cachePut]

theorem cacheGet_filter_ne (c : List (String × Nat × Nat)) (name name' : String) (h : name' ≠ name) :
    cacheGet (c.filter (·.1 != name)) name' = cacheGet c name' := by
  unfold cacheGet
  rw [List.find?_filter]
  congr 2
  funext x
  by_cases hx : x.1 = name' <;> simp [hx, h]

theorem cacheGet_filter_self (c : List (String × Nat × Nat)) (name : String) :
    cacheGet (c.filter (·.1 != name)) name = none := by
  simp [cacheGet, List.find?_eq_none]

theorem cacheGet_cachePut_ne (c : List (String × Nat × Nat)) (name name' : String) (v : Nat × Nat) (h : name' ≠ name) :
    cacheGet (cachePut c name v) name' = cacheGet c name' := by
  have := cacheGet_filter_ne c name name' h
  unfold cacheGet at this ⊢
  unfold cachePut
  rw [List.find?_cons_of_neg (by simp; exact fun h' => h h'.symm)]
  exact this

/-! ### C07: profiles -/

theorem createProfile_ok {db : Db} {h : Handle} {name : String} {db' : Db} {h' : Handle}
    (hr : createProfile db h name = .ok (db', h')) :
    db.profiles.any (·.name == name) = false ∧
    db' = { db with profiles := db.profiles ++ [⟨nextId (db.profiles.map (·.id)), name, h.nextKey⟩] } ∧
    h' = { cache := cachePut h.cache name (nextId (db.profiles.map (·.id)), h.nextKey), nextKey := h.nextKey + 1 } := by
  unfold createProfile at hr
  split at hr
  · cases hr
  · next hany =>
    injection hr with hr
    injection hr with h1 h2
    exact ⟨Bool.eq_false_iff.2 hany, h1.symm, h2.symm⟩

theorem resolve_cached {db : Db} {h : Handle} {name : String} {pid key : Nat} (hg : cacheGet h.cache name = some (pid, key)) :
    resolve db h name = .ok (⟨pid, key⟩, h) := by
  unfold resolve; rw [hg]

theorem resolve_uncached {db : Db} {h : Handle} {name : String} (hg : cacheGet h.cache name = none) :
    resolve db h name =
      match db.profiles.find? (·.name == name) with
      | some p => .ok (⟨p.id, p.key⟩, { h with cache := cachePut h.cache name (p.id, p.key) })
      | none => .error .notFound := by
  unfold resolve; rw [hg]; rfl

theorem cacheCoherent_put {db db' : Db} {h : Handle} {name : String} {pid key nk : Nat} (hc : CacheCoherent db h)
    (hsub : ∀ p ∈ db.profiles, p ∈ db'.profiles) (hp : (⟨pid, name, key⟩ : Profile) ∈ db'.profiles) :
    CacheCoherent db' { cache := cachePut h.cache name (pid, key), nextKey := nk } := by
  intro name' pid' key' hg
  by_cases hn : name' = name
  · subst hn
    rw [cacheGet_cachePut_self] at hg
    cases hg
    exact hp
  · rw [cacheGet_cachePut_ne _ _ _ _ hn] at hg
    exact hsub _ (hc name' pid' key' hg)

theorem cacheCoherent_evict {db db' : Db} {h : Handle} {name : String} (hc : CacheCoherent db h)
    (hkeep : ∀ p ∈ db.profiles, p.name ≠ name → p ∈ db'.profiles) :
    CacheCoherent db' { h with cache := h.cache.filter (·.1 != name) } := by
  intro name' pid key hg
  by_cases hn : name' = name
  · subst hn
    rw [cacheGet_filter_self] at hg
    cases hg
  · rw [cacheGet_filter_ne _ _ _ hn] at hg
    exact hkeep _ (hc name' pid key hg) hn

theorem remove_profile_exact (db : Db) (h : Handle) (name : String) (p : Profile)
    (hp : db.profiles.find? (·.name == name) = some p) :
    ((removeProfile db h name true).1.1).items = db.items.filter (·.pid != p.id) ∧
    ((removeProfile db h name true).1.1).profiles = db.profiles.filter (·.name != name) ∧
    (removeProfile db h name true).2 = true := by
  simp [removeProfile, hp]

theorem removed_profile_not_found (db : Db) (h : Handle) (name : String) :
    resolve (removeProfile db h name true).1.1 (removeProfile db h name true).1.2 name = .error .notFound := by
  have hres : ∀ db' : Db, db'.profiles.find? (·.name == name) = none →
      resolve db' { h with cache := h.cache.filter (·.1 != name) } name = .error .notFound := fun db' hf => by
    rw [resolve_uncached (cacheGet_filter_self _ _), hf]
  unfold removeProfile
  cases hf : db.profiles.find? (·.name == name) with
  | none => exact hres db hf
  | some p => exact hres _ (by simp [List.find?_eq_none])

theorem cache_coherent_create (db : Db) (h : Handle) (name : String) (db' : Db) (h' : Handle)
    (hc : CacheCoherent db h) (hw : ProfilesWF db) (hr : createProfile db h name = .ok (db', h')) :
    CacheCoherent db' h' ∧ ProfilesWF db' := by
  obtain ⟨hany, rfl, rfl⟩ := createProfile_ok hr
  constructor
  · exact cacheCoherent_put hc (fun p hp => List.mem_append_left _ hp) (by simp)
  · unfold ProfilesWF at *
    simp only [List.pairwise_append, hw, true_and]
    refine ⟨by simp, ?_⟩
    intro a ha b hb
    simp only [List.mem_singleton] at hb
    subst hb
    simp only [ne_eq]
    constructor
    · intro he
      have := List.any_eq_false.1 hany a ha
      simp [he] at this
    · have := lt_nextId (db.profiles.map (·.id)) a.id (List.mem_map_of_mem ha)
      omega

theorem cache_coherent_resolve (db : Db) (h : Handle) (name : String) (s : Sess) (h' : Handle)
    (hc : CacheCoherent db h) (hr : resolve db h name = .ok (s, h')) :
    CacheCoherent db h' ∧ (⟨s.pid, name, s.key⟩ : Profile) ∈ db.profiles := by
  cases hg : cacheGet h.cache name with
  | some v =>
    obtain ⟨pid, key⟩ := v
    rw [resolve_cached hg] at hr
    cases hr
    exact ⟨hc, hc name pid key hg⟩
  | none =>
    rw [resolve_uncached hg] at hr
    cases hf : db.profiles.find? (·.name == name) with
    | none => rw [hf] at hr; cases hr
    | some p =>
      rw [hf] at hr
      cases hr
      have hmem := List.mem_of_find?_eq_some hf
      have hname : p.name = name := by simpa using List.find?_some hf
      have hp : (⟨p.id, name, p.key⟩ : Profile) = p := by cases p; simp at hname; simp [hname]
      exact ⟨cacheCoherent_put hc (fun _ h => h) (by rw [hp]; exact hmem), by simpa [hp] using hmem⟩

theorem step_other_abs (like : Bytes → Bytes → Bool) (page : Nat) (now : Int) (s s' : Sess) (db : Db) (op : Op) (h : s'.pid ≠ s.pid) :
    abs s' (step like page now s db op).1 = abs s' db := by
  have key : ∀ l : List Item, l.filter (·.pid == s'.pid) = (l.filter (·.pid != s.pid)).filter (·.pid == s'.pid) := by
    intro l
    rw [List.filter_filter]
    apply List.filter_congr
    intro x _
    by_cases hx : x.pid = s'.pid
    · simp [hx, h]
    · simp [hx]
  unfold abs
  rw [key, (step_effect like page now s db op).frame.1, ← key]

/-! ### C01: facts about the specification itself -/

theorem fetch_kind (like : Bytes → Bytes → Bool) (page : Nat) (m : Spec.Map) (k : Kind) (c n : String) (e : Entry)
    (h : (Spec.step like page m (.fetch k c n)).2 = .entry (some e)) : e.kind = k := by
  simp only [Spec.step] at h
  injection h with h
  have := List.find?_some h
  simp [Spec.sameKey] at this
  exact this.1.1

theorem kinds_disjoint (like : Bytes → Bytes → Bool) (page : Nat) (m : Spec.Map) (ops : List Op) (k : Kind) (c n : String) (e : Entry)
    (h : (Spec.step like page (Spec.run like page m ops).1 (.fetch k c n)).2 = .entry (some e)) : e.kind = k :=
  fetch_kind like page _ k c n e h

theorem find_append_new (m : List Entry) (k : Kind) (c n : String) (new : Entry)
    (hnew : Spec.sameKey new k c n = true) (h : m.any (Spec.sameKey · k c n) = false) :
    (m ++ [new]).find? (Spec.sameKey · k c n) = some new := by
  rw [List.find?_append, List.find?_eq_none.2 fun x hx => by simpa using List.any_eq_false.1 h x hx]
  simp [hnew]

theorem find_map_replace (m : List Entry) (k : Kind) (c n : String) (new : Entry)
    (hnew : Spec.sameKey new k c n = true) (h : m.any (Spec.sameKey · k c n) = true) :
    (m.map fun e => if Spec.sameKey e k c n then new else e).find? (Spec.sameKey · k c n) = some new := by
  induction m with
  | nil => simp at h
  | cons y m ih =>
    simp only [List.map_cons]
    by_cases hy : Spec.sameKey y k c n = true
    · simp [hy, hnew]
    · simp only [hy, if_false, Bool.false_eq_true]
      rw [List.find?_cons_of_neg (by simpa using hy)]
      apply ih
      simpa [hy] using h

/-! ### bridging the row level and the map level

`P` is a row predicate, `Q` an entry predicate with `P it = (it.pid == s.pid && Q (toEntry it))`
on the rows of the table. -/

section bridge
variable (pid : Nat) (P : Item → Bool) (Q : Entry → Bool)

theorem bridge_filter (l : List Item) (h : ∀ it ∈ l, P it = (it.pid == pid && Q (toEntry it))) :
    (l.filter P).map toEntry = ((l.filter (·.pid == pid)).map toEntry).filter Q := by
  rw [List.filter_map, List.filter_filter]
  congr 1
  exact List.filter_congr fun it hit => by rw [h it hit, Bool.and_comm]; rfl

theorem bridge_filter_not (l : List Item) (h : ∀ it ∈ l, P it = (it.pid == pid && Q (toEntry it))) :
    ((l.filter fun it => !P it).filter (·.pid == pid)).map toEntry =
      ((l.filter (·.pid == pid)).map toEntry).filter fun e => !Q e := by
  rw [List.filter_map, List.filter_filter, List.filter_filter]
  congr 1
  exact List.filter_congr fun it hit => by rw [h it hit]; cases it.pid == pid <;> simp

theorem bridge_any (l : List Item) (h : ∀ it ∈ l, P it = (it.pid == pid && Q (toEntry it))) :
    l.any P = ((l.filter (·.pid == pid)).map toEntry).any Q := by
  rw [List.any_map, List.any_filter]
  exact List.any_congr_mem h

theorem bridge_find (l : List Item) (h : ∀ it ∈ l, P it = (it.pid == pid && Q (toEntry it))) :
    (l.find? P).map toEntry = ((l.filter (·.pid == pid)).map toEntry).find? Q := by
  rw [List.find?_map, List.find?_filter, List.find?_congr_mem h]
  simp only [Function.comp_apply, Bool.decide_and, Bool.decide_eq_true]

theorem bridge_map (f : Item → Item) (g : Entry → Entry) (l : List Item)
    (hpid : ∀ it, (f it).pid = it.pid)
    (hfg : ∀ it ∈ l, it.pid = pid → toEntry (f it) = g (toEntry it)) :
    ((l.map f).filter (·.pid == pid)).map toEntry = ((l.filter (·.pid == pid)).map toEntry).map g := by
  have : ((·.pid == pid) ∘ f : Item → Bool) = (·.pid == pid) := funext fun it => by simp [hpid]
  rw [List.filter_map, this, List.map_map, List.map_map]
  exact List.map_congr_left fun it hit =>
    hfg it (List.mem_filter.1 hit).1 (by simpa using (List.mem_filter.1 hit).2)

end bridge

theorem decryptRows_ok (key : Nat) (l : List Item) (h : ∀ it ∈ l, it.key = key) :
    decryptRows key l = .ok (l.map toEntry) := by
  induction l with
  | nil => rfl
  | cons x l ih =>
    have ih := ih (fun it hit => h it (by simp [hit]))
    have hx : decryptRow key x = .ok (toEntry x) := by simp [decryptRow, h x (by simp), toEntry]
    simp only [decryptRows, hx, ih, List.map_cons]

/-! ### C01: one call refines the map -/

theorem sameIdent_bridge (s : Sess) (db : Db) (hK : KeyCoherent s db) (k : Kind) (c n : String) :
    ∀ it ∈ db.items, it.sameIdent s.pid s.key k c n = (it.pid == s.pid && Spec.sameKey (toEntry it) k c n) := by
  intro it hit
  by_cases hp : it.pid = s.pid
  · have := hK it hit hp
    simp [Item.sameIdent, Spec.sameKey, toEntry, hp, this]
  · have hp' : (it.pid == s.pid) = false := by simpa using hp
    simp [Item.sameIdent, hp']

theorem sameIdent_eq_sameKey {s : Sess} {db : Db} (hK : KeyCoherent s db) (k : Kind) (c n : String) {it : Item}
    (hit : it ∈ db.items) (hp : it.pid = s.pid) :
    it.sameIdent s.pid s.key k c n = Spec.sameKey (toEntry it) k c n := by
  simpa [hp] using sameIdent_bridge s db hK k c n it hit

theorem sameIdent_live_bridge (now : Int) (s : Sess) (db : Db) (hI : Inv db) (hK : KeyCoherent s db) (k : Kind) (c n : String) :
    ∀ it ∈ db.items, (it.sameIdent s.pid s.key k c n && live now it) =
      (it.pid == s.pid && Spec.sameKey (toEntry it) k c n) := by
  intro it hit
  rw [live_of_none now it (hI.noExpiry it hit), Bool.and_true]
  exact sameIdent_bridge s db hK k c n it hit

theorem inScope_bridge (s : Sess) (db : Db) (hK : KeyCoherent s db) (kind : Option Kind) (cat : Option String) :
    ∀ it ∈ db.items, it.inScope s.pid s.key kind cat = (it.pid == s.pid && Spec.inScope (toEntry it) kind cat) := by
  intro it hit
  by_cases hp : it.pid = s.pid
  · have := hK it hit hp
    cases kind <;> cases cat <;> simp [Item.inScope, Spec.inScope, toEntry, hp, this]
  · have hp' : (it.pid == s.pid) = false := by simpa using hp
    simp [Item.inScope, hp']

theorem hit_bridge (like : Bytes → Bytes → Bool) (s : Sess) (db : Db) (hK : KeyCoherent s db)
    (kind : Option Kind) (cat : Option String) (f : Option (Query String)) :
    ∀ it ∈ db.items, (it.inScope s.pid s.key kind cat && matchFilter like f it) =
      (it.pid == s.pid && Spec.hit like kind cat f (toEntry it)) := by
  intro it hit
  rw [inScope_bridge s db hK kind cat it hit]
  simp [Spec.hit, matchFilter, toEntry, Bool.and_assoc]

theorem hit_live_bridge (like : Bytes → Bytes → Bool) (now : Int) (s : Sess) (db : Db) (hI : Inv db) (hK : KeyCoherent s db)
    (kind : Option Kind) (cat : Option String) (f : Option (Query String)) :
    ∀ it ∈ db.items, (it.inScope s.pid s.key kind cat && live now it && matchFilter like f it) =
      (it.pid == s.pid && Spec.hit like kind cat f (toEntry it)) := by
  intro it hit
  rw [live_of_none now it (hI.noExpiry it hit), Bool.and_true]
  exact hit_bridge like s db hK kind cat f it hit

theorem selectRows_bridge (like : Bytes → Bytes → Bool) (now : Int) (s : Sess) (db : Db) (hI : Inv db) (hK : KeyCoherent s db)
    (kind : Option Kind) (cat : Option String) (f : Option (Query String)) (off lim : Option Int) (desc : Bool) :
    decryptRows s.key (selectRows like db now s.pid s.key kind cat f off lim desc) =
      .ok (window off lim (Spec.ordered desc ((abs s db).filter (Spec.hit like kind cat f)))) := by
  have hb := hit_live_bridge like now s db hI hK kind cat f
  have hmem : ∀ it ∈ selectRows like db now s.pid s.key kind cat f off lim desc, it.key = s.key := by
    intro it hit
    obtain ⟨hdb, hsel⟩ := mem_selectRows hit
    rw [hb it hdb] at hsel
    exact hK it hdb (by simpa using (Bool.and_eq_true_iff.1 hsel).1)
  rw [decryptRows_ok _ _ hmem]
  congr 1
  simp only [selectRows, sortById_filter hI.sorted, ← window_map, Spec.ordered, abs]
  rw [← bridge_filter s.pid _ _ db.items hb]
  cases desc <;> simp

theorem any_sameIdent (s : Sess) (db : Db) (hK : KeyCoherent s db) (k : Kind) (c n : String) :
    db.items.any (·.sameIdent s.pid s.key k c n) = (abs s db).any (Spec.sameKey · k c n) :=
  bridge_any s.pid _ _ db.items (sameIdent_bridge s db hK k c n)

theorem _root_.Askar.Store.Effect.keyCoherent {s : Sess} {db db' : Db} (h : Effect s db db') (hK : KeyCoherent s db) : KeyCoherent s db' := by
  intro it hit
  cases h with
  | none => exact hK it hit
  | append row hid hpid hkey hnew =>
    rcases List.mem_append.1 hit with hit | hit
    · exact hK it hit
    · rw [List.mem_singleton.1 hit]; exact fun _ => hkey
  | update f hf =>
    obtain ⟨a, ha, rfl⟩ := List.mem_map.1 hit
    rw [(hf a).2.1, (hf a).2.2.1]
    exact hK a ha
  | delete P hP => exact hK it (List.mem_filter.1 hit).1

/-- Sorted ids, the unique index and key coherence follow from the effect of the call alone; what is left per kind of
    call is its output, the abstraction, and that no expiry is written. -/
theorem step_refines (like : Bytes → Bytes → Bool) (page : Nat) (_hp : 0 < page) (now : Int) (s : Sess) (db : Db)
    (hI : Inv db) (hK : KeyCoherent s db) (op : Op) (hop : op.noExpiry = true) :
    (step like page now s db op).2 = (Spec.step like page (abs s db) op).2 ∧
    abs s (step like page now s db op).1 = (Spec.step like page (abs s db) op).1 ∧
    Inv (step like page now s db op).1 ∧ KeyCoherent s (step like page now s db op).1 := by
  have hE := step_effect like page now s db op
  suffices h : (step like page now s db op).2 = (Spec.step like page (abs s db) op).2 ∧
      abs s (step like page now s db op).1 = (Spec.step like page (abs s db) op).1 ∧
      ∀ it ∈ (step like page now s db op).1.items, it.expiry = none from
    ⟨h.1, h.2.1, ⟨hE.sorted hI.sorted, hE.unique hI.unique, h.2.2⟩, hE.keyCoherent hK⟩
  cases op with
  | insert k c n v t e =>
    cases e with
    | some _ => simp [Op.noExpiry] at hop
    | none =>
      simp only [step, doInsert_none, Spec.step, ← any_sameIdent s db hK]
      cases ha : db.items.any (·.sameIdent s.pid s.key k c n)
      · simp only [Bool.false_eq_true, if_false]
        refine ⟨trivial, ?_, ?_⟩
        · simp [abs, List.filter_append, toEntry]
        · intro it hit
          rcases List.mem_append.1 hit with hit | hit
          · exact hI.noExpiry it hit
          · rw [List.mem_singleton.1 hit]
      · simp only [if_true]
        exact ⟨trivial, trivial, hI.noExpiry⟩
  | replace k c n v t e =>
    cases e with
    | some _ => simp [Op.noExpiry] at hop
    | none =>
      simp only [step, doReplace_none, Spec.step, ← any_sameIdent s db hK]
      cases ha : db.items.any (·.sameIdent s.pid s.key k c n)
      · simp only [Bool.false_eq_true, if_false]
        exact ⟨trivial, trivial, hI.noExpiry⟩
      · simp only [if_true]
        refine ⟨trivial, ?_, ?_⟩
        · unfold abs
          apply bridge_map
          · intro it; split <;> rfl
          · intro it hit hpid
            rw [← sameIdent_eq_sameKey hK k c n hit hpid]
            split
            · rename_i hs
              obtain ⟨_, _, h1, h2, h3⟩ := (sameIdent_iff _ _ _ _ _ _).1 hs
              simp [toEntry, h1, h2, h3]
            · rfl
        · intro it hit
          obtain ⟨a, ha', rfl⟩ := List.mem_map.1 hit
          split
          · rfl
          · exact hI.noExpiry a ha'
  | remove k c n =>
    have hb := sameIdent_bridge s db hK k c n
    simp only [step, doRemove, Spec.step, ← any_sameIdent s db hK]
    cases ha : db.items.any (·.sameIdent s.pid s.key k c n)
    · simp only [Bool.false_eq_true, if_false]
      exact ⟨trivial, trivial, hI.noExpiry⟩
    · simp only [if_true]
      exact ⟨trivial, bridge_filter_not s.pid _ _ db.items hb, fun it hit => hI.noExpiry it (List.mem_filter.1 hit).1⟩
  | removeAll k c f =>
    have hb := hit_bridge like s db hK k c f
    simp only [step, doRemoveAll, Spec.step]
    refine ⟨?_, bridge_filter_not s.pid _ _ db.items hb, fun it hit => hI.noExpiry it (List.mem_filter.1 hit).1⟩
    congr 1
    rw [abs, ← bridge_filter s.pid _ _ db.items hb, List.length_map]
  | fetch k c n =>
    simp only [step, Spec.step]
    refine ⟨?_, trivial, hI.noExpiry⟩
    congr 1
    rw [abs, ← bridge_find s.pid _ _ db.items (sameIdent_live_bridge now s db hI hK k c n)]
    unfold doFetch
    cases db.items.find? fun it => it.sameIdent s.pid s.key k c n && live now it <;> rfl
  | fetchAll k c f lim desc =>
    simp only [step, doFetchAll, Spec.step, selectRows_bridge like now s db hI hK]
    exact ⟨trivial, trivial, hI.noExpiry⟩
  | count k c f =>
    simp only [step, doCount, Spec.step]
    refine ⟨?_, trivial, hI.noExpiry⟩
    congr 1
    rw [abs, ← bridge_filter s.pid _ _ db.items (hit_live_bridge like now s db hI hK k c f), List.length_map]
  | scan k c f off lim desc =>
    simp only [step, doScan, Spec.step, selectRows_bridge like now s db hI hK, drain_batches]
    exact ⟨trivial, trivial, hI.noExpiry⟩

theorem spec_run_eq (like : Bytes → Bytes → Bool) (page : Nat) : ∀ (m : Spec.Map) (ops : List Op),
    Spec.run like page m ops = Run.run (Spec.step like page) m ops
  | _, [] => rfl
  | m, op :: ops => by simp only [Spec.run, Run.run, spec_run_eq like page _ ops]

theorem run_refines (like : Bytes → Bytes → Bool) (page : Nat) (hp : 0 < page) (now : Int) (s : Sess) (db : Db)
    (hI : Inv db) (hK : KeyCoherent s db) (ops : List Op) (hops : ∀ op ∈ ops, op.noExpiry = true) :
    (run like page now s db ops).2 = (Spec.run like page (abs s db) ops).2 ∧
    abs s (run like page now s db ops).1 = (Spec.run like page (abs s db) ops).1 := by
  rw [run_eq, spec_run_eq]
  -- the simulation relation is invariant, key coherence and `abs s db = m`; the admissible calls are those without expiry
  have := Run.run_sim (fun db m => Inv db ∧ KeyCoherent s db ∧ abs s db = m) (fun op => op.noExpiry = true)
    (fun db m op ⟨hI, hK, hm⟩ hop => by
      obtain ⟨h1, h2, h3, h4⟩ := step_refines like page hp now s db hI hK op hop
      subst hm
      exact ⟨h1, h3, h4, h2⟩)
    ⟨hI, hK, rfl⟩ ops hops
  exact ⟨this.1, this.2.2.2⟩

theorem inv_empty : Inv {} := ⟨by simp [Sorted], by simp, by simp⟩

theorem run_refines_fresh (like : Bytes → Bytes → Bool) (page : Nat) (hp : 0 < page) (now : Int) (s : Sess)
    (ops : List Op) (hops : ∀ op ∈ ops, op.noExpiry = true) :
    (run like page now s {} ops).2 = (Spec.run like page [] ops).2 :=
  (run_refines like page hp now s {} inv_empty (by simp [KeyCoherent]) ops hops).1

/-! ### C07: isolation over interleaved histories -/

theorem step_keyCoherent_other (like : Bytes → Bytes → Bool) (page : Nat) (now : Int) (t u : Sess) (db : Db) (op : Op)
    (hne : u.pid ≠ t.pid) (hK : KeyCoherent u db) : KeyCoherent u (step like page now t db op).1 := by
  intro it hit hpid
  have h1 : it ∈ (step like page now t db op).1.items.filter (·.pid != t.pid) := by
    rw [List.mem_filter]
    refine ⟨hit, ?_⟩
    simp [hpid, hne]
  rw [(step_effect like page now t db op).frame.1] at h1
  exact hK it (List.mem_filter.1 h1).1 hpid

theorem isolation (like : Bytes → Bytes → Bool) (page : Nat) (hp : 0 < page) (now : Int) (db : Db) (hI : Inv db)
    (hist : List (Sess × Op)) (hK : ∀ so ∈ hist, KeyCoherent so.1 db) (hops : ∀ so ∈ hist, so.2.noExpiry = true)
    (hS : ∀ so ∈ hist, ∀ so' ∈ hist, so.1.pid = so'.1.pid → so.1 = so'.1) (s : Sess) (hs : KeyCoherent s db)
    (hS' : ∀ so ∈ hist, so.1.pid = s.pid → so.1 = s) :
    ((runMulti like page now db hist).2.filter (·.1.pid == s.pid)).map (·.2) =
      (Spec.run like page (abs s db) ((hist.filter (·.1.pid == s.pid)).map (·.2))).2 := by
  induction hist generalizing db with
  | nil => rfl
  | cons so rest ih =>
    obtain ⟨t, op⟩ := so
    have hKt : KeyCoherent t db := hK (t, op) (by simp)
    obtain ⟨h1, h2, h3, h4⟩ := step_refines like page hp now t db hI hKt op (hops (t, op) (by simp))
    have hK' : ∀ so ∈ rest, KeyCoherent so.1 (step like page now t db op).1 := by
      intro so hso
      by_cases hpid : so.1.pid = t.pid
      · have : so.1 = t := hS so (by simp [hso]) (t, op) (by simp) hpid
        rw [this]; exact h4
      · exact step_keyCoherent_other like page now t so.1 db op hpid (hK so (by simp [hso]))
    have hrest := fun hs' => ih (step like page now t db op).1 h3 hK'
      (fun so hso => hops so (by simp [hso]))
      (fun a ha b hb => hS a (by simp [ha]) b (by simp [hb])) hs'
      (fun so hso => hS' so (by simp [hso]))
    simp only [runMulti]
    by_cases hpid : t.pid = s.pid
    · have hts : t = s := hS' (t, op) (by simp) hpid
      subst hts
      have hrest := hrest h4
      simp only [List.filter_cons, beq_self_eq_true, if_true, List.map_cons, Spec.run]
      rw [hrest, h2, h1]
    · have hrest := hrest (step_keyCoherent_other like page now t s db op (fun h => hpid h.symm) hs)
      have hb : (t.pid == s.pid) = false := by simpa using hpid
      simp only [List.filter_cons, hb, Bool.false_eq_true, if_false]
      rw [hrest, step_other_abs like page now t s db op (fun h => hpid h.symm)]

end Lemmas
end Askar.Store
