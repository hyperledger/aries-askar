/-
The invariant behind Props/C02.lean (provenance model, Model/Provenance.lean), and its preservation by every operation.

`StOk b rng st` = `Ok` of the main store + `Idle` of the copy target.  `Ok b rng o s x` = the bound arguments are `AllGood b`
∧ a store key is present (when `b = false`) ∧ `SealedOk` (the log of value encryptions follows the random stream) ∧ `RowsOk`
∧ `ProfilesOk` ∧ `Live` (the rows of `s` and the other rows `o` hold logged values at distinct positions).  `b = true`
tolerates the unwrapped profile key among the bound arguments, `b = false` tolerates no plaintext secret.  An operation
either only `Reads` (tables and store key untouched), or is followed statement by statement with the `Ok.<statement>`
lemmas, chained by `Ok.bind`.  Both families of Props/C02 are instances of `reachable_ok`.
The predicates on what is stored (`Good` … `ProfilesOk`) are stated on the model's types and live in `Askar.Provenance`;
those that speak of the context and the random stream are in `Askar.Provenance.Lemmas`.
-/
import AskarModel.Model.Provenance

namespace Askar.Provenance
open Askar.Wql Askar.Store

/-- `Good allowKey a`: `a` is not a plaintext secret — except, when `allowKey`, the unwrapped profile key
    (which a store with key method `none` stores by design). -/
def Good (allowKey : Bool) (a : Arg) : Prop := ∀ f, a.prov = .secretPlain f → (allowKey = true ∧ f = .profileKey)

def AllGood (b : Bool) (l : List Arg) : Prop := ∀ a ∈ l, Good b a

def Prov.profileCipher : Prov → Option Field
  | .cipher (.profile _) f => some f
  | _ => none

def ItemOk (it : PItem) : Prop :=
  it.cat.prov.profileCipher = some .category ∧ it.name.prov.profileCipher = some .name ∧
  it.value.prov.profileCipher = some .value

def TagOk (t : PTag) : Prop :=
  t.name.prov.profileCipher = some .tagName ∧
  (if t.plain then t.value.prov = .plainTagValue else t.value.prov.profileCipher = some .tagValue)

/-- every stored record column is a ciphertext of the right field (or a declared-public plaintext-tag value) -/
def RowsOk (db : PDb) : Prop := (∀ it ∈ db.items, ItemOk it) ∧ (∀ t ∈ db.tags, TagOk t)

/-- the provenance of a `profile_key` column under store key `sk` -/
def keyProv : Option Nat → Prov
  | some s => .cipher (.store s) .profileKey
  | none => .secretPlain .profileKey

/-- `profiles`: names are profile names; every key is wrapped under the current store key (unwrapped iff there is none) -/
def ProfilesOk (s : PStore) : Prop :=
  ∀ p ∈ s.db.profiles, p.name.prov = .profileName ∧ p.key.prov = keyProv s.storeKey

namespace Lemmas

theorem good_of_not_secret {b : Bool} {a : Arg} (h : a.prov.isSecretPlain = false) : Good b a := by
  intro f hf; rw [hf] at h; simp [Prov.isSecretPlain] at h

@[simp] theorem good_searchable (b : Bool) (C : Crypto) (k f x) : Good b (C.searchable k f x) := by
  intro f' h; simp [Crypto.searchable] at h
@[simp] theorem good_sealValue (b : Bool) (C : Crypto) (k c n r v) : Good b (C.sealValue k c n r v) := by
  intro f' h; simp [Crypto.sealValue] at h
@[simp] theorem good_metaStr (b : Bool) (s) : Good b (Src.metaStr s) := by intro f h; simp [Src.metaStr] at h
@[simp] theorem good_nat (b : Bool) (n) : Good b (Src.nat n) := by simp [Src.nat]
@[simp] theorem good_null (b : Bool) : Good b Src.null := by simp [Src.null]
@[simp] theorem good_optNat (b : Bool) (n) : Good b (Src.optNat n) := by cases n <;> simp [Src.optNat]
@[simp] theorem good_flag (b : Bool) (p) : Good b (Src.flag p) := by simp [Src.flag]
@[simp] theorem good_profileName (b : Bool) (s) : Good b (Src.profileName s) := by
  intro f h; simp [Src.profileName] at h
@[simp] theorem good_plainTagValue (b : Bool) (s) : Good b (Src.tagValue true s) := by
  intro f h; simp [Src.tagValue] at h
@[simp] theorem good_valueArg (b : Bool) (C : Crypto) (k p v) : Good b (valueArg C k p v) := by
  unfold valueArg; split <;> simp_all
@[simp] theorem good_nameArg (b : Bool) (C : Crypto) (k n) : Good b (nameArg C k n) := by simp [nameArg]
@[simp] theorem good_prefix12 (b : Bool) (a : Arg) (h : Good b a) : Good b a.prefix12 := by
  intro f hf; exact h f (by simpa [Arg.prefix12] using hf)

@[simp] theorem allGood_nil (b) : AllGood b [] := by intro a h; cases h
theorem allGood_append {b l₁ l₂} : AllGood b (l₁ ++ l₂) ↔ AllGood b l₁ ∧ AllGood b l₂ := by
  simp [AllGood, List.mem_append, or_imp, forall_and]
theorem allGood_cons {b a l} : AllGood b (a :: l) ↔ Good b a ∧ AllGood b l := by
  simp [AllGood]

theorem opArgs_good (b : Bool) (C : Crypto) (k op n v) : AllGood b (opArgs C k op n v) := by
  unfold opArgs
  simp only
  split
  · split <;> simp [allGood_cons]
  · simp [allGood_cons]

mutual
theorem filterArgs_good (b : Bool) (C : Crypto) (k : Nat) : ∀ q, AllGood b (filterArgs C k q)
  | .and qs => by simpa [filterArgs] using filterArgsList_good b C k qs
  | .or qs => by simpa [filterArgs] using filterArgsList_good b C k qs
  | .not q => by simpa [filterArgs] using filterArgs_good b C k q
  | .cmp op n v => by simpa [filterArgs] using opArgs_good b C k op n v
  | .isIn n vs => by
    simp only [filterArgs, allGood_cons, good_nameArg, true_and]
    intro a ha; simp only [List.mem_map] at ha; obtain ⟨v, _, rfl⟩ := ha; simp
  | .exist ns => by
    simp only [filterArgs]
    intro a ha; simp only [List.mem_map] at ha; obtain ⟨v, _, rfl⟩ := ha; simp
theorem filterArgsList_good (b : Bool) (C : Crypto) (k : Nat) : ∀ qs, AllGood b (filterArgsList C k qs)
  | [] => by simp [filterArgsList]
  | q :: qs => by
    simp only [filterArgsList, allGood_append]
    exact ⟨filterArgs_good b C k q, filterArgsList_good b C k qs⟩
end

theorem encodeFilter_good (b : Bool) (C : Crypto) (k f) : AllGood b (encodeFilter C k f).2 := by
  unfold encodeFilter; split
  · simp
  · exact filterArgs_good b C k _

/-! #### tie to the WQL encoder of Model/Wql.lean (C04): same argument bytes, in the same order -/

theorem valueArg_bytes (C : Crypto) (k p v) : (valueArg C k p v).bytes = encValueArg (tagCrypto C k) p v := by
  unfold valueArg encValueArg; split <;> simp [Src.tagValue, Crypto.searchable, tagCrypto]

theorem nameArg_bytes (C : Crypto) (k n) : (nameArg C k n).bytes = (tagCrypto C k).encName n.str := rfl

theorem encodeExistList_args (C : Crypto) (k neg) : ∀ (ns : List TagName) (args : List Bytes),
    (encodeExistList (tagCrypto C k) neg ns args).2 = args ++ (ns.map (nameArg C k)).map (·.bytes)
  | [], args => by simp [encodeExistList]
  | n :: ns, args => by
    simp only [encodeExistList, encodeExist1]
    rw [encodeExistList_args C k neg ns]
    simp [nameArg_bytes]

theorem opArgs_bytes (C : Crypto) (k op n v neg args) :
    (encodeOp (tagCrypto C k) op n v neg args).2 = args ++ (opArgs C k op n v).map (·.bytes) := by
  unfold encodeOp opArgs
  simp only [← valueArg_bytes]
  -- the two definitions branch alike; in each branch the lists agree entry by entry
  cases n.isPlain <;> cases op.prefixOp
  · rfl
  · by_cases hl : (valueArg C k false v).bytes.length > 12
    · simp only [if_pos hl]; rfl
    · simp only [if_neg hl]; rfl
  · rfl
  · rfl

mutual
theorem filterArgs_bytes (C : Crypto) (k : Nat) : ∀ (q : Query TagName) (neg : Bool) (args : List Bytes),
    (encode (tagCrypto C k) neg args q).2 = args ++ (filterArgs C k q).map (·.bytes)
  | .and qs, neg, args => by simp only [encode, filterArgs]; exact filterArgsList_bytes C k qs neg args
  | .or qs, neg, args => by simp only [encode, filterArgs]; exact filterArgsList_bytes C k qs neg args
  | .not q, neg, args => by simp only [encode, filterArgs]; exact filterArgs_bytes C k q (!neg) args
  | .cmp op n v, neg, args => by simp only [encode, filterArgs]; exact opArgs_bytes ..
  | .isIn n vs, neg, args => by
    simp only [encode, filterArgs, encodeIn, List.map_cons, List.map_map, nameArg_bytes]
    congr 2
    apply List.map_congr_left
    intro v _
    simp [valueArg_bytes]
  | .exist ns, neg, args => by
    simp only [encode, filterArgs]
    unfold encodeExist
    split
    · simp
    · simp [encodeExist1, nameArg_bytes]
    · simp only; exact encodeExistList_args C k neg _ args
theorem filterArgsList_bytes (C : Crypto) (k : Nat) : ∀ (qs : List (Query TagName)) (neg : Bool) (args : List Bytes),
    (encodeList (tagCrypto C k) neg args qs).2 = args ++ (filterArgsList C k qs).map (·.bytes)
  | [], neg, args => by simp [encodeList, filterArgsList]
  | q :: qs, neg, args => by
    simp only [encodeList, filterArgsList, List.map_append]
    rw [filterArgsList_bytes C k qs, filterArgs_bytes C k q]
    simp
end

@[simp] theorem sqlInsertItem_bound (db pid kind c n v g) :
    (sqlInsertItem db pid kind c n v g).2.2 = [Src.nat pid, Src.nat kind, c, n, v, Src.null] := by
  unfold sqlInsertItem; split <;> rfl
@[simp] theorem sqlUpdateItem_bound (db pid kind c n v g) :
    (sqlUpdateItem db pid kind c n v g).2.2 = [Src.nat pid, Src.nat kind, c, n, v, Src.null] := by
  unfold sqlUpdateItem; split <;> rfl
@[simp] theorem sqlDeleteTags_bound (db id) : (sqlDeleteTags db id).2 = [Src.nat id] := rfl
@[simp] theorem sqlDeleteItem_bound (db pid kind c n) :
    (sqlDeleteItem db pid kind c n).2.2 = [Src.nat pid, Src.nat kind, c, n] := rfl
@[simp] theorem sqlDeleteAll_bound (like db pid kind c f) :
    (sqlDeleteAll like db pid kind c f).2.2 = scopeBound pid kind c f := rfl
@[simp] theorem sqlSelect_bound (like db pid kind c f) :
    (sqlSelect like db pid kind c f).2 = scopeBound pid kind c f := rfl
@[simp] theorem sqlFetch_bound (db pid kind c n) :
    (sqlFetch db pid kind c n).2 = [Src.nat pid, Src.nat kind, c, n] := rfl
@[simp] theorem sqlInsertProfile_bound (db n k kid) : (sqlInsertProfile db n k kid).2.2 = [n, k] := by
  unfold sqlInsertProfile; split <;> rfl
@[simp] theorem sqlDeleteProfile_bound (db n) : (sqlDeleteProfile db n).2.2 = [n] := rfl
@[simp] theorem sqlSelectProfile_bound (db n) : (sqlSelectProfile db n).2 = [n] := rfl
@[simp] theorem sqlUpdateProfileKey_bound (db k pid) : (sqlUpdateProfileKey db k pid).2 = [k, Src.nat pid] := rfl

theorem scopeBound_good (b : Bool) (C : Crypto) (k pid kind cat f) :
    AllGood b (scopeBound pid kind (encCatOpt C k cat) (encodeFilter C k f)) := by
  unfold scopeBound
  rw [allGood_append]
  constructor
  · cases cat <;> simp [allGood_cons, encCatOpt]
  · split
    · simp
    · exact encodeFilter_good b C k f

/-- the tag rows of an `update`: `tags = none` inserts none -/
theorem encTags_good (b : Bool) (C : Crypto) (k id : Nat) (tags : Option (List Tag)) (db : PDb) :
    AllGood b (insertTags db id ((tags.map fun ts => ts.map (encryptTag C k)).getD [])).2 := by
  cases tags with
  | none => simp [insertTags]
  | some ts =>
    show AllGood b (insertTags db id (ts.map (encryptTag C k))).2
    induction ts generalizing db with
    | nil => simp [insertTags]
    | cons t ts ih =>
      simp only [List.map, insertTags, encryptTag, sqlInsertTag, allGood_append, allGood_cons]
      refine ⟨⟨by simp, by simp, ?_, by simp, by simp⟩, ih _⟩
      split <;> simp

/-! #### nonces -/

/-- every value encryption so far used a distinct, already consumed position of the random stream, and its
    result starts with the nonce drawn there -/
def SealedOk (rng : Nat → Nonce) (x : Ctx) : Prop :=
  (∀ e ∈ x.sealed, e.1 < x.ctr ∧ e.2.bytes.take 12 = (rng e.1).val) ∧ (x.sealed.map (·.1)).Pairwise (· < ·)

/-- no value encryption, the stream only advances -/
def Same (x x' : Ctx) : Prop := x'.sealed = x.sealed ∧ x.ctr ≤ x'.ctr

theorem same_refl (x : Ctx) : Same x x := ⟨rfl, Nat.le_refl _⟩
theorem same_trans {x y z : Ctx} (h1 : Same x y) (h2 : Same y z) : Same x z :=
  ⟨h2.1.trans h1.1, Nat.le_trans h1.2 h2.2⟩
theorem same_bind (x : Ctx) (as : List Arg) : Same x (x.bind as) := ⟨rfl, Nat.le_refl _⟩
theorem same_nextKey (x : Ctx) (n : Nat) : Same x { x with nextKey := n } := ⟨rfl, Nat.le_refl _⟩

theorem sealedOk_same {rng x x'} (h : Same x x') (hx : SealedOk rng x) : SealedOk rng x' := by
  obtain ⟨hs, hc⟩ := h
  refine ⟨fun e he => ?_, by rw [hs]; exact hx.2⟩
  rw [hs] at he
  exact ⟨Nat.lt_of_lt_of_le (hx.1 e he).1 hc, (hx.1 e he).2⟩

theorem take12_seal (C : Crypto) (k c n) (r : Nonce) (v) : (C.sealValue k c n r v).bytes.take 12 = r.val := by
  simp only [Crypto.sealValue]
  rw [List.take_append_of_le_length (by rw [r.property]; exact Nat.le_refl _), List.take_of_length_le (by rw [r.property]; exact Nat.le_refl _)]

/-- The context after one more value encryption `a`, drawn at the current position of the stream.  This is literally the
    context that `update` builds after `sealValue`, so `Ok.logged` / `Ok.insertItem` / `Ok.updateItem` apply after
    `unfold update` by definitional unfolding. -/
def _root_.Askar.Provenance.Ctx.seal (x : Ctx) (a : Arg) : Ctx := { x with ctr := x.ctr + 1, sealed := x.sealed ++ [(x.ctr, a)] }

@[simp] theorem seal_sealed (x : Ctx) (a : Arg) : (x.seal a).sealed = x.sealed ++ [(x.ctr, a)] := rfl

theorem sealedOk_seal {rng x} (a : Arg) (ha : a.bytes.take 12 = (rng x.ctr).val) (hx : SealedOk rng x) :
    SealedOk rng (x.seal a) := by
  refine ⟨fun e he => ?_, ?_⟩
  · simp only [seal_sealed, List.mem_append, List.mem_singleton] at he
    rcases he with he | rfl
    · exact ⟨Nat.lt_succ_of_lt (hx.1 e he).1, (hx.1 e he).2⟩
    · exact ⟨Nat.lt_succ_self _, ha⟩
  · simp only [seal_sealed, List.map_append, List.map_cons, List.map_nil]
    rw [List.pairwise_append]
    refine ⟨hx.2, by simp, fun i hi j hj => ?_⟩
    simp only [List.mem_singleton] at hj
    simp only [List.mem_map] at hi
    obtain ⟨e, he, rfl⟩ := hi
    subst hj
    exact (hx.1 e he).1

/-- The random stream does not repeat among its first `n` draws.  (`Function.Injective rng` would be an unsatisfiable
    hypothesis: there are only 2^96 nonces.) -/
def InjBelow (rng : Nat → Nonce) (n : Nat) : Prop := ∀ i j, i < n → j < n → rng i = rng j → i = j

theorem sealed_pairwise {rng x} (h : SealedOk rng x) (hinj : InjBelow rng x.ctr) :
    x.sealed.Pairwise (fun a b => rng a.1 ≠ rng b.1) := by
  obtain ⟨h1, h2⟩ := h
  rw [List.pairwise_map] at h2
  have h3 := List.Pairwise.and_mem.mp h2
  refine h3.imp ?_
  intro a b ⟨ha, hb, hab⟩ heq
  have := hinj a.1 b.1 (h1 a ha).1 (h1 b hb).1 heq
  exact Nat.lt_irrefl _ (this ▸ hab)

/-- two logged encryptions with the same bytes start with the same nonce, so they were drawn at the same position -/
theorem sealed_index_of_bytes {rng x} (h : SealedOk rng x) (hinj : InjBelow rng x.ctr) {e e' : Nat × Arg}
    (he : e ∈ x.sealed) (he' : e' ∈ x.sealed) (hb : e.2.bytes = e'.2.bytes) : e.1 = e'.1 := by
  obtain ⟨l, t⟩ := h.1 e he
  obtain ⟨l', t'⟩ := h.1 e' he'
  rw [hb] at t
  exact hinj _ _ l l' (Subtype.ext (t.symm.trans t'))

theorem sealed_values_nodup {rng x} (h : SealedOk rng x) (hinj : InjBelow rng x.ctr) :
    (x.sealed.map (·.2.bytes)).Nodup := by
  rw [List.Nodup, List.pairwise_map]
  refine (List.Pairwise.and_mem.mp (List.pairwise_map.mp h.2)).imp ?_
  intro a b ⟨ha, hb, hab⟩ heq
  exact Nat.lt_irrefl _ (sealed_index_of_bytes h hinj ha hb heq ▸ hab)

/-- byte `j` of `toyNonce i` is `i / 256 ^ j % 256`; the head is stated in that form (`j = 0`) because `rfl` proves it so,
    and not with `i % 256` -/
theorem toyNonce_head (i : Nat) : (toyNonce i).val.head? = some (UInt8.ofNat (i / 256 ^ 0 % 256)) := rfl

theorem toyNonce_injBelow : InjBelow toyNonce 256 := by
  intro i j hi hj h
  have h0 := congrArg (fun n : Nonce => n.val.head?.map UInt8.toNat) h
  simp only [toyNonce_head, Option.map_some, Option.some.injEq, UInt8.toNat_ofNat', Nat.pow_zero, Nat.div_one,
    Nat.mod_mod] at h0
  rwa [Nat.mod_eq_of_lt hi, Nat.mod_eq_of_lt hj] at h0

theorem injBelow_mono {rng : Nat → Nonce} {n k : Nat} (h : InjBelow rng n) (hk : k ≤ n) : InjBelow rng k :=
  fun i j hi hj e => h i j (Nat.lt_of_lt_of_le hi hk) (Nat.lt_of_lt_of_le hj hk) e

theorem wrapProfileKey_good {b : Bool} (C : Crypto) (rng : Nat → Nonce) {sk : Option Nat} (x : Ctx) (k : Nat)
    (hk : b = false → sk.isSome) : Good b (wrapProfileKey C rng sk x k).1 := by
  intro f hf
  cases sk with
  | none =>
    cases b with
    | false => simp at hk
    | true => simp [wrapProfileKey, Crypto.wrap, Src.profileKey] at hf; exact ⟨rfl, hf.symm⟩
  | some s => simp [wrapProfileKey, Crypto.wrap] at hf

theorem wrapProfileKey_prov (C : Crypto) (rng sk x k) : (wrapProfileKey C rng sk x k).1.prov = keyProv sk := by
  cases sk <;> rfl

theorem newStoreKey_isSome {m : Method} (x : Ctx) (hm : m ≠ .none) : (newStoreKey m x).1.isSome := by
  cases m <;> simp [newStoreKey] at hm ⊢

theorem wrapProfileKey_same (C rng sk x k) : Same x (wrapProfileKey C rng sk x k).2 := by
  unfold wrapProfileKey
  simp only; split
  · exact ⟨rfl, Nat.le_succ _⟩
  · exact same_refl x

theorem wrapProfileKey_bound (C rng sk x k) : (wrapProfileKey C rng sk x k).2.bound = x.bound := by
  unfold wrapProfileKey
  simp only; split <;> rfl

theorem newStoreKey_same (m x) : Same x (newStoreKey m x).2 := by
  unfold newStoreKey; cases m <;> exact ⟨rfl, Nat.le_refl _⟩

theorem newStoreKey_bound (m x) : (newStoreKey m x).2.bound = x.bound := by
  unfold newStoreKey; cases m <;> rfl

theorem rowsOk_cascade {db : PDb} (h : RowsOk db) : RowsOk (cascadeTags db) :=
  ⟨h.1, fun t ht => h.2 t (List.mem_filter.mp ht).1⟩

theorem rowsOk_filterItems {db : PDb} (f : PItem → Bool) (h : RowsOk db) : RowsOk { db with items := db.items.filter f } :=
  ⟨fun it hit => h.1 it (List.mem_filter.mp hit).1, h.2⟩

theorem searchable_pc (C : Crypto) (k f x) : (C.searchable k f x).prov.profileCipher = some f := rfl
theorem sealValue_pc (C : Crypto) (k c n r v) : (C.sealValue k c n r v).prov.profileCipher = some .value := rfl

theorem encTags_rows (C : Crypto) (k id : Nat) (tags : Option (List Tag)) (db : PDb) (h : RowsOk db) :
    RowsOk (insertTags db id ((tags.map fun ts => ts.map (encryptTag C k)).getD [])).1 := by
  cases tags with
  | none => exact h
  | some ts =>
    show RowsOk (insertTags db id (ts.map (encryptTag C k))).1
    induction ts generalizing db with
    | nil => exact h
    | cons t ts ih =>
      simp only [List.map, insertTags, encryptTag]
      apply ih
      refine ⟨h.1, fun t' ht' => ?_⟩
      simp only [sqlInsertTag, List.mem_append, List.mem_singleton] at ht'
      rcases ht' with ht' | rfl
      · exact h.2 t' ht'
      · refine ⟨rfl, ?_⟩
        cases hp : t.plain <;> simp [Src.tagValue, Crypto.searchable, Prov.profileCipher]

@[simp] theorem sqlInsertItem_profiles (db pid kind c n v g) : (sqlInsertItem db pid kind c n v g).1.profiles = db.profiles := by
  unfold sqlInsertItem; split <;> rfl
@[simp] theorem sqlUpdateItem_profiles (db pid kind c n v g) : (sqlUpdateItem db pid kind c n v g).1.profiles = db.profiles := by
  unfold sqlUpdateItem; split <;> rfl
@[simp] theorem sqlDeleteTags_profiles (db id) : (sqlDeleteTags db id).1.profiles = db.profiles := rfl
@[simp] theorem insertTags_profiles (id) (l : List (Arg × Arg × Bool)) : ∀ db : PDb, (insertTags db id l).1.profiles = db.profiles := by
  induction l with
  | nil => exact fun db => rfl
  | cons e ts ih => intro db; simp only [insertTags]; rw [ih]; rfl
@[simp] theorem sqlDeleteItem_profiles (db pid kind c n) : (sqlDeleteItem db pid kind c n).1.profiles = db.profiles := rfl
@[simp] theorem sqlDeleteAll_profiles (like db pid kind c f) : (sqlDeleteAll like db pid kind c f).1.profiles = db.profiles := rfl

/-- the loop of `rekey`: names are untouched; a row not yet wrapped under the new store key has its id among those
    still to be visited -/
theorem rewrapAll_profiles (C rng sk) (ps : List PProfile) : ∀ (db : PDb) (x : Ctx),
    (∀ p ∈ db.profiles, p.name.prov = .profileName ∧ (p.key.prov = keyProv sk ∨ p.id ∈ ps.map (·.id))) →
    ∀ p ∈ (rewrapAll C rng sk ps db x).1.profiles, p.name.prov = .profileName ∧ p.key.prov = keyProv sk := by
  induction ps with
  | nil => exact fun db x h p hp => ⟨(h p hp).1, (h p hp).2.resolve_right (by simp)⟩
  | cons q ps ih =>
    intro db x h
    simp only [rewrapAll]
    apply ih
    intro p' hp'
    simp only [sqlUpdateProfileKey, List.mem_map] at hp'
    obtain ⟨p0, hp0, rfl⟩ := hp'
    split
    · exact ⟨(h p0 hp0).1, .inl (wrapProfileKey_prov ..)⟩
    · rename_i hid
      refine ⟨(h p0 hp0).1, (h p0 hp0).2.imp_right fun hm => ?_⟩
      simp only [List.map_cons, List.mem_cons] at hm
      exact hm.resolve_left (by simpa using hid)

theorem rewrapAll_spec {b : Bool} (C rng) {sk : Option Nat} (hk : b = false → sk.isSome) (ps : List PProfile) :
    ∀ (db : PDb) (x : Ctx),
      (rewrapAll C rng sk ps db x).1.items = db.items ∧ (rewrapAll C rng sk ps db x).1.tags = db.tags ∧
      Same x (rewrapAll C rng sk ps db x).2 ∧ (AllGood b x.bound → AllGood b (rewrapAll C rng sk ps db x).2.bound) := by
  induction ps with
  | nil => exact fun db x => ⟨rfl, rfl, same_refl x, id⟩
  | cons p ps ih =>
    intro db x
    simp only [rewrapAll]
    obtain ⟨hi, ht, hs, hb⟩ := ih (sqlUpdateProfileKey db (wrapProfileKey C rng sk x p.keyId).1 p.id).1
      ((wrapProfileKey C rng sk x p.keyId).2.bind (sqlUpdateProfileKey db (wrapProfileKey C rng sk x p.keyId).1 p.id).2)
    refine ⟨hi, ht, same_trans (same_trans (wrapProfileKey_same ..) (same_bind _ _)) hs, fun hx => hb ?_⟩
    simp only [Ctx.bind, wrapProfileKey_bound, sqlUpdateProfileKey_bound, allGood_append, allGood_cons]
    exact ⟨hx, wrapProfileKey_good C rng x p.keyId hk, by simp⟩

/-! #### live rows and the log of value encryptions -/

/-- the key of the UNIQUE index of `items` (`ix_items_uniq` in Model/SqlExec.lean), on the stored bytes -/
def PItem.ukey (it : PItem) : Nat × Kind × Bytes × Bytes := (it.pid, it.kind, it.cat.bytes, it.name.bytes)

theorem matches_iff (it : PItem) (pid : Nat) (kind : Kind) (cat name : Arg) :
    it.matches pid kind cat name = true ↔ PItem.ukey it = (pid, kind, cat.bytes, name.bytes) := by
  simp [PItem.matches, PItem.ukey, and_assoc]

def Uniq (l : List PItem) : Prop := l.Pairwise (fun a b => PItem.ukey a ≠ PItem.ukey b)

def NIx (a b : PItem) : Prop := a.nonceIx ≠ b.nonceIx

/-- `l` (the table operated on) has unique keys; every row of `l` and of `o` (the rows of the other stores) holds the
    value logged at its ghost index; no two of these rows carry the same index -/
def Live (l o : List PItem) (x : Ctx) : Prop :=
  Uniq l ∧ (∀ it ∈ l ++ o, (it.nonceIx, it.value) ∈ x.sealed) ∧ (l ++ o).Pairwise NIx

theorem live_same {l o x x'} (hs : Same x x') (h : Live l o x) : Live l o x' :=
  ⟨h.1, fun it hit => by rw [hs.1]; exact h.2.1 it hit, h.2.2⟩

theorem live_logged {l o x a} (h : Live l o x) : Live l o (x.seal a) :=
  ⟨h.1, fun it hit => List.mem_append_left _ (h.2.1 it hit), h.2.2⟩

theorem live_filter {l o x} (f : PItem → Bool) (h : Live l o x) : Live (l.filter f) o x := by
  have hsub : (l.filter f ++ o).Sublist (l ++ o) := List.Sublist.append List.filter_sublist (List.Sublist.refl _)
  exact ⟨h.1.sublist List.filter_sublist, fun it hit => h.2.1 it (hsub.subset hit), h.2.2.sublist hsub⟩

theorem live_nil {l o x} (h : Live l o x) : Live [] l x := by
  have hsub : l.Sublist (l ++ o) := List.sublist_append_left _ _
  exact ⟨List.Pairwise.nil, fun it hit => h.2.1 it (hsub.subset hit), h.2.2.sublist hsub⟩

theorem live_swap {l o x} (h : Live l o x) (ho : Uniq o) : Live o l x :=
  ⟨ho, fun it hit => h.2.1 it (by simp only [List.mem_append] at hit ⊢; exact hit.symm),
    (List.pairwise_append_comm fun hab e => hab e.symm).mp h.2.2⟩

theorem live_push {rng l o x} (hx : SealedOk rng x) (h : Live l o x) (new : PItem) (hnew : new.nonceIx = x.ctr)
    (hk : ∀ it ∈ l, PItem.ukey it ≠ PItem.ukey new) :
    Live (l ++ [new]) o (x.seal new.value) := by
  obtain ⟨h1, h2, h3⟩ := h
  have hlt : ∀ it ∈ l ++ o, it.nonceIx < x.ctr := fun it hit => (hx.1 _ (h2 it hit)).1
  refine ⟨?_, ?_, ?_⟩
  · exact List.pairwise_append.mpr ⟨h1, by simp, fun a ha b hb => by
      simp only [List.mem_singleton] at hb; subst hb; exact hk a ha⟩
  · intro it hit
    simp only [seal_sealed, List.mem_append, List.mem_singleton] at hit ⊢
    rcases hit with (hit | rfl) | hit
    · exact .inl (h2 it (List.mem_append_left _ hit))
    · exact .inr (by rw [hnew])
    · exact .inl (h2 it (List.mem_append_right _ hit))
  · rw [List.append_assoc, List.pairwise_append] at *
    obtain ⟨p1, p2, p3⟩ := h3
    refine ⟨p1, ?_, ?_⟩
    · simp only [List.singleton_append, List.pairwise_cons]
      refine ⟨fun b hb e => ?_, p2⟩
      have := hlt b (List.mem_append_right _ hb)
      rw [← e, hnew] at this; exact Nat.lt_irrefl _ this
    · intro a ha b hb
      simp only [List.singleton_append, List.mem_cons] at hb
      rcases hb with rfl | hb
      · intro e
        have := hlt a (List.mem_append_left _ ha)
        rw [e, hnew] at this; exact Nat.lt_irrefl _ this
      · exact p3 a ha b hb

theorem ukey_setValue (it : PItem) (c : Bool) (v : Arg) (n : Nat) (pl : Entry) :
    PItem.ukey (if c then { it with value := v, nonceIx := n, plain := pl } else it) = PItem.ukey it := by
  cases c <;> rfl

theorem live_set {rng l o x} (hx : SealedOk rng x) (h : Live l o x) (m : PItem → Bool) (v : Arg) (pl : Entry)
    (hm : ∀ a ∈ l, ∀ b ∈ l, m a = true → m b = true → PItem.ukey a = PItem.ukey b) :
    Live (l.map fun it => if m it then { it with value := v, nonceIx := x.ctr, plain := pl } else it) o (x.seal v) := by
  obtain ⟨h1, h2, h3⟩ := h
  have hlt : ∀ it ∈ l ++ o, it.nonceIx < x.ctr := fun it hit => (hx.1 _ (h2 it hit)).1
  refine ⟨?_, ?_, ?_⟩
  · unfold Uniq
    rw [List.pairwise_map]
    refine h1.imp ?_
    intro a b hab
    rw [ukey_setValue, ukey_setValue]
    exact hab
  · intro it hit
    simp only [seal_sealed, List.mem_append, List.mem_map, List.mem_singleton] at hit ⊢
    rcases hit with ⟨a, ha, rfl⟩ | hit
    · split
      · exact .inr rfl
      · exact .inl (h2 a (List.mem_append_left _ ha))
    · exact .inl (h2 it (List.mem_append_right _ hit))
  · rw [List.pairwise_append] at h3 ⊢
    obtain ⟨p1, p2, p3⟩ := h3
    refine ⟨?_, p2, ?_⟩
    · rw [List.pairwise_map]
      have := List.Pairwise.and_mem.mp (h1.and p1)
      refine this.imp ?_
      intro a b ⟨ha, hb, hk, hn⟩
      have la := hlt a (List.mem_append_left _ ha)
      have lb := hlt b (List.mem_append_left _ hb)
      by_cases ma : m a = true
      · by_cases mb : m b = true
        · exact absurd (hm a ha b hb ma mb) hk
        · rw [if_pos ma, if_neg mb]
          exact Nat.ne_of_gt lb
      · by_cases mb : m b = true
        · rw [if_neg ma, if_pos mb]
          exact Nat.ne_of_lt la
        · rw [if_neg ma, if_neg mb]
          exact hn
    · intro a' ha' b hb
      simp only [List.mem_map] at ha'
      obtain ⟨a, ha, rfl⟩ := ha'
      by_cases ma : m a = true
      · rw [if_pos ma]
        exact Nat.ne_of_gt (hlt b (List.mem_append_right _ hb))
      · rw [if_neg ma]
        exact p3 a ha b hb

@[simp] theorem insertTags_items (id) (l : List (Arg × Arg × Bool)) : ∀ db : PDb, (insertTags db id l).1.items = db.items := by
  induction l with
  | nil => exact fun db => rfl
  | cons e ts ih => intro db; simp only [insertTags]; rw [ih]; rfl

theorem live_values_nodup {rng l o x} (hs : SealedOk rng x) (hl : Live l o x) (hinj : InjBelow rng x.ctr) :
    ((l ++ o).map (·.value.bytes)).Nodup := by
  rw [List.Nodup, List.pairwise_map]
  refine (List.Pairwise.and_mem.mp hl.2.2).imp ?_
  intro a b ⟨ha, hb, hab⟩ heq
  exact hab (sealed_index_of_bytes hs hinj (hl.2.1 a ha) (hl.2.1 b hb) heq)

/-! #### one invariant for a store and the context it shares with the other stores of the process -/

/-- What C02 claims, as an invariant of a store `s`, the rows `o` of the other stores and the context `x`.
    `b = false`: the store has, and keeps, a store key, and no plaintext secret at all is bound;
    `b = true`: any key method, the unwrapped profile key is tolerated among the bound arguments. -/
structure Ok (b : Bool) (rng : Nat → Nonce) (o : List PItem) (s : PStore) (x : Ctx) : Prop where
  bound : AllGood b x.bound
  key : b = false → s.storeKey.isSome
  sealed : SealedOk rng x
  rows : RowsOk s.db
  profiles : ProfilesOk s
  live : Live s.db.items o x

variable {b : Bool} {rng : Nat → Nonce} {o : List PItem} {s s' : PStore} {x x' : Ctx}

namespace Ok

theorem same (h : Ok b rng o s x) (hs : Same x x') (hb : AllGood b x'.bound) : Ok b rng o s x' :=
  ⟨hb, h.key, sealedOk_same hs h.sealed, h.rows, h.profiles, live_same hs h.live⟩

theorem bind {as : List Arg} (h : Ok b rng o s x) (ha : AllGood b as) : Ok b rng o s (x.bind as) :=
  h.same (same_bind x as) (allGood_append.2 ⟨h.bound, ha⟩)

/-- the tags, the `config` table and the cache may change freely, as long as the tags stay well-formed -/
theorem db (h : Ok b rng o s x) (hk : s'.storeKey = s.storeKey) (hi : s'.db.items = s.db.items)
    (hp : s'.db.profiles = s.db.profiles) (ht : ∀ t ∈ s'.db.tags, TagOk t) : Ok b rng o s' x :=
  ⟨h.bound, by rw [hk]; exact h.key, h.sealed, ⟨by rw [hi]; exact h.rows.1, ht⟩, by unfold ProfilesOk; rw [hp, hk]; exact h.profiles,
    by rw [hi]; exact h.live⟩

theorem store (h : Ok b rng o s x) (hd : s'.db = s.db) (hk : s'.storeKey = s.storeKey) : Ok b rng o s' x :=
  h.db hk (by rw [hd]) (by rw [hd]) (by rw [hd]; exact h.rows.2)

theorem logged {a : Arg} (h : Ok b rng o s x) (ha : a.bytes.take 12 = (rng x.ctr).val) : Ok b rng o s (x.seal a) :=
  ⟨h.bound, h.key, sealedOk_seal a ha h.sealed, h.rows, h.profiles, live_logged h.live⟩

/-- INSERT of an item whose value was just sealed: a duplicate key leaves the table alone, a new row is well-formed and
    carries the fresh index -/
theorem insertItem {pid kind c n v g} (h : Ok b rng o s x) (hv : v.bytes.take 12 = (rng x.ctr).val)
    (hg : g.nonceIx = x.ctr) (pc : c.prov.profileCipher = some .category) (pn : n.prov.profileCipher = some .name)
    (pv : v.prov.profileCipher = some .value) :
    Ok b rng o { s with db := (sqlInsertItem s.db pid kind c n v g).1 } (x.seal v) := by
  unfold sqlInsertItem
  by_cases hany : (s.db.items.any fun it => it.matches pid kind c n) = true
  · rw [if_pos hany]
    exact h.logged hv
  · rw [if_neg hany]
    refine ⟨h.bound, h.key, sealedOk_seal v hv h.sealed, ⟨fun it hit => ?_, h.rows.2⟩, h.profiles, ?_⟩
    · rcases List.mem_append.mp hit with hit | hit
      · exact h.rows.1 it hit
      · rw [List.mem_singleton.mp hit]
        exact ⟨pc, pn, pv⟩
    · exact live_push h.sealed h.live ⟨_, pid, kind, c, n, v, g.keyId, g.nonceIx, g.plain⟩ hg fun it hit e =>
        hany (List.any_eq_true.mpr ⟨it, hit, (matches_iff ..).mpr e⟩)

/-- UPDATE of the value just sealed: the rows with the key (at most one) take the value and the fresh index -/
theorem updateItem {pid kind c n v g} (h : Ok b rng o s x) (hv : v.bytes.take 12 = (rng x.ctr).val)
    (hg : g.nonceIx = x.ctr) (pv : v.prov.profileCipher = some .value) :
    Ok b rng o { s with db := (sqlUpdateItem s.db pid kind c n v g).1 } (x.seal v) := by
  unfold sqlUpdateItem
  cases s.db.items.find? (fun it => it.matches pid kind c n) with
  | none => exact h.logged hv
  | some _ =>
    refine ⟨h.bound, h.key, sealedOk_seal v hv h.sealed, ⟨fun it hit => ?_, h.rows.2⟩, h.profiles, ?_⟩
    · obtain ⟨it0, hit0, rfl⟩ := List.mem_map.mp hit
      have h0 := h.rows.1 it0 hit0
      by_cases hm : it0.matches pid kind c n = true
      · rw [if_pos hm]
        exact ⟨h0.1, h0.2.1, pv⟩
      · rw [if_neg hm]
        exact h0
    · rw [hg]
      exact live_set h.sealed h.live (fun it => it.matches pid kind c n) v g.plain
        fun a _ b _ ma mb => ((matches_iff ..).mp ma).trans ((matches_iff ..).mp mb).symm

theorem insertTagRows (C : Crypto) (k id : Nat) (tags : Option (List Tag)) (h : Ok b rng o s x) :
    Ok b rng o { s with db := (insertTags s.db id ((tags.map fun ts => ts.map (encryptTag C k)).getD [])).1 } x :=
  h.db rfl (insertTags_items ..) (insertTags_profiles ..) (encTags_rows C k id tags s.db h.rows).2

theorem deleteTags (id : Nat) (h : Ok b rng o s x) : Ok b rng o { s with db := (sqlDeleteTags s.db id).1 } x :=
  h.db rfl rfl rfl fun t ht => h.rows.2 t (List.mem_filter.mp ht).1

/-- DELETE of items, with the cascade to their tags -/
theorem filterItems (f : PItem → Bool) (h : Ok b rng o s x) :
    Ok b rng o { s with db := cascadeTags { s.db with items := s.db.items.filter f } } x :=
  ⟨h.bound, h.key, h.sealed, rowsOk_cascade (rowsOk_filterItems f h.rows), h.profiles, live_filter f h.live⟩

end Ok

/-- `s'`, `x'` come from `s`, `x` by an operation that leaves the tables and the store key alone and encrypts no value:
    whatever held of ANY store sharing the context still holds -/
def Reads (b : Bool) (s : PStore) (x : Ctx) (s' : PStore) (x' : Ctx) : Prop :=
  s'.db = s.db ∧ s'.storeKey = s.storeKey ∧ Same x x' ∧ (AllGood b x.bound → AllGood b x'.bound)

theorem Reads.refl (b : Bool) (s : PStore) (x : Ctx) : Reads b s x s x := ⟨rfl, rfl, same_refl x, id⟩

theorem Reads.bind {s₀ x₀} {as : List Arg} (h : Reads b s₀ x₀ s x) (ha : AllGood b as) : Reads b s₀ x₀ s (x.bind as) :=
  ⟨h.1, h.2.1, same_trans h.2.2.1 (same_bind x as), fun hb => allGood_append.2 ⟨h.2.2.2 hb, ha⟩⟩

namespace Ok

theorem reads_other {t : PStore} (h : Ok b rng o t x) (hr : Reads b s x s' x') : Ok b rng o t x' :=
  h.same hr.2.2.1 (hr.2.2.2 h.bound)

theorem reads (h : Ok b rng o s x) (hr : Reads b s x s' x') : Ok b rng o s' x' :=
  (h.reads_other hr).store hr.1 hr.2.1

end Ok

/-! #### the operations -/

def On {α : Type} (I : PStore → Ctx → Prop) (r : PStore × Ctx × α) : Prop := I r.1 r.2.1

/-- An operation that resolves the profile and stops on an error keeps `I` if `resolveP` and the rest do.  The `match` is
    the one every operation of Model/Provenance.lean opens with: `refine resolveP_then …` after `unfold op` unifies `f`
    with the rest of the operation. -/
theorem resolveP_then {α : Type} {I : PStore → Ctx → Prop} {s x p} {f : PStore → Ctx → Nat → Nat → PStore × Ctx × Except Err α}
    (h : On I (resolveP s x p)) (hf : ∀ s x pid k, I s x → On I (f s x pid k)) :
    On I (match resolveP s x p with
      | (s, x, Except.error e) => (s, x, Except.error e)
      | (s, x, Except.ok (pid, k)) => f s x pid k) := by
  generalize resolveP s x p = r at h ⊢
  obtain ⟨s', x', (e | ⟨pid, k⟩)⟩ := r
  · exact h
  · exact hf s' x' pid k h

theorem resolveP_reads (b : Bool) (s x p) : On (Reads b s x) (resolveP s x p) := by
  unfold resolveP
  split
  · exact Reads.refl b s x
  · simp only
    split <;> exact (Reads.refl b s x).bind (by simp [allGood_cons])

/-- the arguments of FETCH_QUERY / DELETE_QUERY, and the first four of INSERT_QUERY / UPDATE_QUERY -/
theorem rowKey_good (b : Bool) (C : Crypto) (k pid : Nat) (kind : Kind) (cat name : String) :
    AllGood b [Src.nat pid, Src.nat kind, C.searchable k .category (Src.category cat), C.searchable k .name (Src.name name)] := by
  simp [allGood_cons]

theorem update_ok {C : Crypto} {p kind ins cat name value tags} (h : Ok b rng o s x) :
    On (Ok b rng o) (update C rng s x p kind ins cat name value tags) := by
  unfold update
  refine resolveP_then (h.reads (resolveP_reads b s x p)) fun s x pid k h => ?_
  have hv := take12_seal C k (Src.category cat) (Src.name name) (rng x.ctr) (Src.value value)
  have hb : AllGood b [Src.nat pid, Src.nat kind, C.searchable k .category (Src.category cat),
      C.searchable k .name (Src.name name), C.sealValue k (Src.category cat) (Src.name name) (rng x.ctr) (Src.value value),
      Src.null] :=
    allGood_append (l₁ := [_, _, _, _]).2 ⟨rowKey_good b C k pid kind cat name, by simp [allGood_cons]⟩
  cases ins
  · simp only [Bool.false_eq_true, if_false, sqlUpdateItem_bound]
    split
    · exact (h.logged hv).bind hb
    · exact (((((h.updateItem hv rfl (sealValue_pc ..)).deleteTags _).insertTagRows C k _ tags).bind hb).bind
        (by simp [allGood_cons])).bind (encTags_good b C k _ tags _)
  · simp only [if_true, sqlInsertItem_bound]
    split
    · exact (h.logged hv).bind hb
    · exact (((h.insertItem hv rfl (searchable_pc ..) (searchable_pc ..) (sealValue_pc ..)).insertTagRows C k _ tags).bind hb).bind
        (encTags_good b C k _ tags _)

theorem remove_ok {C : Crypto} {p kind cat name} (h : Ok b rng o s x) :
    On (Ok b rng o) (remove C s x p kind cat name) := by
  unfold remove
  refine resolveP_then (h.reads (resolveP_reads b s x p)) fun s x pid k h => ?_
  simp only
  split
  · exact h.bind (rowKey_good b C k pid kind cat name)
  · exact (h.filterItems _).bind (rowKey_good b C k pid kind cat name)

theorem removeAll_ok {C : Crypto} {like p kind cat f} (h : Ok b rng o s x) :
    On (Ok b rng o) (removeAll C like s x p kind cat f) := by
  unfold removeAll
  exact resolveP_then (h.reads (resolveP_reads b s x p)) fun s x pid k h =>
    (h.filterItems _).bind (by simpa using scopeBound_good b C k pid kind cat f)

theorem select_reads (b : Bool) (C : Crypto) (like s x p kind cat f) :
    On (Reads b s x) (select C like s x p kind cat f) := by
  unfold select
  exact resolveP_then (I := Reads b s x) (resolveP_reads b s x p) fun s' x' pid k h =>
    h.bind (by simpa using scopeBound_good b C k pid kind cat f)

theorem fetch_reads (b : Bool) (C : Crypto) (s x p kind cat name) :
    On (Reads b s x) (fetch C s x p kind cat name) := by
  unfold fetch
  exact resolveP_then (I := Reads b s x) (resolveP_reads b s x p) fun s' x' pid k h =>
    h.bind (rowKey_good b C k pid kind cat name)

theorem reopen_reads (b : Bool) (s x) : Reads b s x (reopen s x).1 (reopen s x).2 := by
  unfold reopen
  simp only
  split <;> exact (Reads.refl b s x).bind (by simp [allGood_cons])

namespace Ok

theorem wrap (C : Crypto) (sk : Option Nat) (k : Nat) (h : Ok b rng o s x) :
    Ok b rng o s (wrapProfileKey C rng sk x k).2 :=
  h.same (wrapProfileKey_same ..) (by rw [wrapProfileKey_bound]; exact h.bound)

theorem insertProfile {n key : Arg} {kid : Nat} {c} (h : Ok b rng o s x) (hn : n.prov = .profileName)
    (hkey : key.prov = keyProv s.storeKey) :
    Ok b rng o { s with db := (sqlInsertProfile s.db n key kid).1, cache := c } x := by
  unfold sqlInsertProfile
  by_cases hdup : (s.db.profiles.any fun p => p.name.bytes == n.bytes) = true
  · rw [if_pos hdup]
    exact h.store rfl rfl
  · rw [if_neg hdup]
    refine ⟨h.bound, h.key, h.sealed, h.rows, fun p hp => ?_, h.live⟩
    rcases List.mem_append.mp hp with hp | hp
    · exact h.profiles p hp
    · rw [List.mem_singleton.mp hp]
      exact ⟨hn, hkey⟩

end Ok

theorem createProfile_ok {C : Crypto} {name} (h : Ok b rng o s x) :
    On (Ok b rng o) (createProfile C rng s x name) := by
  unfold createProfile
  have hx := (h.same (same_nextKey x (x.nextKey + 1)) h.bound).wrap C s.storeKey x.nextKey
  have hw := hx.bind (as := [Src.profileName name, (wrapProfileKey C rng s.storeKey { x with nextKey := x.nextKey + 1 } x.nextKey).1])
    (by simp [allGood_cons, wrapProfileKey_good C rng _ _ h.key])
  simp only [sqlInsertProfile_bound]
  split
  · exact hw
  · exact hw.insertProfile rfl (wrapProfileKey_prov ..)

theorem removeProfile_ok {name} (h : Ok b rng o s x) :
    On (Ok b rng o) (removeProfile s x name) :=
  Ok.bind (as := [Src.profileName name])
    ⟨h.bound, h.key, h.sealed, rowsOk_cascade (rowsOk_filterItems _ h.rows),
      fun p hp => h.profiles p (List.mem_filter.mp hp).1, live_filter _ h.live⟩ (by simp [allGood_cons])

theorem setDefault_ok {name} (h : Ok b rng o s x) : Ok b rng o (setDefault s x name).1 (setDefault s x name).2 :=
  (h.db (s' := (setDefault s x name).1) rfl rfl rfl h.rows.2).bind (by simp [allGood_cons])

theorem rekey_ok {C : Crypto} {m} (h : Ok b rng o s x) (hm : b = false → m ≠ .none) :
    Ok b rng o (rekey C rng s x m).1 (rekey C rng s x m).2 := by
  have hk : b = false → (newStoreKey m x).1.isSome := fun hb => newStoreKey_isSome x (hm hb)
  obtain ⟨hi, ht, hs, hb⟩ := rewrapAll_spec (b := b) C rng hk s.db.profiles s.db (newStoreKey m x).2
  refine Ok.bind (s := (rekey C rng s x m).1) ⟨hb (by rw [newStoreKey_bound]; exact h.bound), hk,
    sealedOk_same (same_trans (newStoreKey_same m x) hs) h.sealed, ?_, ?_, ?_⟩ (by simp [allGood_cons])
  · exact ⟨fun it hit => h.rows.1 it (hi ▸ hit), fun t htt => h.rows.2 t (ht ▸ htt)⟩
  · -- at the start of the loop every row is still to be visited
    exact rewrapAll_profiles C rng (newStoreKey m x).1 s.db.profiles s.db (newStoreKey m x).2
      fun p hp => ⟨(h.profiles p hp).1, .inr (List.mem_map.mpr ⟨p, hp, rfl⟩)⟩
  · exact live_same (same_trans (newStoreKey_same m x) hs) (hi ▸ h.live)

theorem provision_ok {C : Crypto} {m} {p : String} (hb : AllGood b x.bound) (hs : SealedOk rng x) (hl : Live [] o x)
    (hm : b = false → m ≠ .none) : Ok b rng o (provision C rng x m p).1 (provision C rng x m p).2 := by
  have hk : b = false → (newStoreKey m x).1.isSome := fun hb => newStoreKey_isSome x (hm hb)
  have hsm : Same x (wrapProfileKey C rng (newStoreKey m x).1
      { (newStoreKey m x).2 with nextKey := (newStoreKey m x).2.nextKey + 1 } (newStoreKey m x).2.nextKey).2 :=
    same_trans (same_trans (newStoreKey_same m x) (same_nextKey _ _)) (wrapProfileKey_same ..)
  refine Ok.bind (s := (provision C rng x m p).1) ⟨?_, hk, sealedOk_same hsm hs, ?_, ?_, live_same hsm hl⟩ ?_
  · rw [wrapProfileKey_bound]; exact (newStoreKey_bound m x).symm ▸ hb
  · exact ⟨fun it hit => by simp [provision] at hit, fun t ht => by simp [provision] at ht⟩
  · intro q hq
    simp only [provision, List.mem_singleton] at hq
    subst hq
    exact ⟨rfl, wrapProfileKey_prov ..⟩
  · simp [allGood_cons, wrapProfileKey_good C rng _ _ hk]

theorem importRows_ok {C : Crypto} {profile} (es : List Entry) :
    ∀ (t : PStore) (x : Ctx), Ok b rng o t x → On (Ok b rng o) (importRows C rng profile es t x) := by
  induction es with
  | nil => exact fun t x h => h
  | cons e es ih =>
    intro t x h
    simp only [importRows]
    have hu := update_ok (C := C) (p := profile) (kind := e.kind) (ins := true) (cat := e.cat) (name := e.name)
      (value := e.value) (tags := some e.tags) h
    generalize update C rng t x profile e.kind true e.cat e.name e.value (some e.tags) = r at hu ⊢
    obtain ⟨t', x', (err | ⟨⟩)⟩ := r
    · exact hu
    · exact ih t' x' hu

/-- `copy_profile` for each profile: the source is only read; the rows of the source are the "other" rows while the
    target is filled -/
theorem copyProfiles_ok {C : Crypto} {like} (ps : List PProfile) :
    ∀ (src t : PStore) (x : Ctx), Ok b rng src.db.items t x →
      (copyProfiles C rng like ps src t x).1.db = src.db ∧
      (copyProfiles C rng like ps src t x).1.storeKey = src.storeKey ∧
      Ok b rng src.db.items (copyProfiles C rng like ps src t x).2.1 (copyProfiles C rng like ps src t x).2.2.1 := by
  induction ps with
  | nil => exact fun src t x h => ⟨rfl, rfl, h⟩
  | cons p ps ih =>
    intro src t x h
    simp only [copyProfiles]
    generalize (String.fromUTF8? (ByteArray.mk p.name.bytes.toArray)).getD "" = pname
    have hs := select_reads b C like src x pname none none none
    generalize select C like src x pname none none none = r at hs ⊢
    obtain ⟨src', x', (e | ⟨k, rows⟩)⟩ := r
    · exact ⟨hs.1, hs.2.1, h.reads_other hs⟩
    · simp only
      split
      · exact ⟨hs.1, hs.2.1, h.reads_other hs⟩
      · have hc := createProfile_ok (C := C) (name := pname) (h.reads_other hs)
        have hs2 := select_reads b C like (createProfile C rng t x' pname).1 (createProfile C rng t x' pname).2.1 pname none none none
        generalize select C like (createProfile C rng t x' pname).1 (createProfile C rng t x' pname).2.1 pname none none none = r2
          at hs2 ⊢
        obtain ⟨t', x'', (e | ⟨k2, existing⟩)⟩ := r2
        · exact ⟨hs.1, hs.2.1, hc.reads hs2⟩
        · simp only
          split
          · exact ⟨hs.1, hs.2.1, hc.reads hs2⟩
          · have hi := importRows_ok (C := C) (profile := pname) (rows.map (·.plain)) t' x'' (hc.reads hs2)
            generalize importRows C rng pname (rows.map (·.plain)) t' x'' = r3 at hi ⊢
            obtain ⟨t'', x3, (e | ⟨⟩)⟩ := r3
            · exact ⟨hs.1, hs.2.1, hi⟩
            · have := ih src' t'' x3 (hs.1 ▸ hi)
              rw [hs.1, hs.2.1] at this
              exact this

/-- what is known of a store nobody operates on -/
def Idle (c : PStore) : Prop := RowsOk c.db ∧ ProfilesOk c ∧ Uniq c.db.items

/-- the store `s` (up to its cache) takes the place of `t`, whose rows become the other rows -/
theorem swap_ok {t : PStore} (h : Ok b rng o s x) (ht : Ok b rng s.db.items t x') (hd : s'.db = s.db)
    (hk : s'.storeKey = s.storeKey) : Ok b rng t.db.items s' x' :=
  have hs' := h.store hd hk
  ⟨ht.bound, hs'.key, ht.sealed, hs'.rows, hs'.profiles, by rw [hd]; exact live_swap ht.live h.live.1⟩

/-- The target is provisioned as an EMPTY table beside the rows of `s` (`live_nil`), filled with the rows of `s` as the
    "other" rows (`copyProfiles_ok`); then the roles are exchanged (`swap_ok`, `live_swap`).  This is why `Ok` carries
    the list `o`. -/
theorem copyTo_ok {C : Crypto} {like m} (h : Ok b rng o s x) (hm : b = false → m ≠ .none) :
    Ok b rng (copyTo C rng like s x m).2.1.db.items (copyTo C rng like s x m).1 (copyTo C rng like s x m).2.2.1 ∧
    Idle (copyTo C rng like s x m).2.1 := by
  have h0 := h.bind (as := [Src.metaStr "default_profile"]) (by simp [allGood_cons])
  obtain ⟨hd, hk, ht⟩ := copyProfiles_ok (C := C) (like := like) s.db.profiles s _ _
    (provision_ok (C := C) (m := m) (p := defaultProfile s.db) h0.bound h0.sealed (live_nil h0.live) hm)
  exact ⟨swap_ok h ht hd hk, ht.rows, ht.profiles, ht.live.1⟩

/-! #### histories -/

def copyItems (st : St) : List PItem :=
  match st.copy with
  | none => []
  | some c => c.db.items

def StOk (b : Bool) (rng : Nat → Nonce) (st : St) : Prop :=
  Ok b rng (copyItems st) st.main st.ctx ∧ ∀ c, st.copy = some c → Idle c

theorem stOk_main {st : St} (h : StOk b rng st) (h' : Ok b rng (copyItems st) s x) :
    StOk b rng { st with main := s, ctx := x } :=
  ⟨h', h.2⟩

theorem step_ok {C : Crypto} {like} {st : St} (op : Op) (h : StOk b rng st) (hop : b = false → op.keepsProtected = true) :
    StOk b rng (step C rng like st op).1 := by
  have hm : ∀ m, op = .rekey m ∨ op = .copy m → b = false → m ≠ .none := by
    rintro m (rfl | rfl) hb rfl <;> simpa [Op.keepsProtected] using hop hb
  -- `step` is evaluated at the constructor first: left to `exact`, the unifier unfolds the operation as well
  cases op <;> simp only [step]
  case update p k ins c n v t => exact stOk_main h (update_ok h.1)
  case remove p k c n => exact stOk_main h (remove_ok h.1)
  case removeAll p k c f => exact stOk_main h (removeAll_ok h.1)
  case fetch p k c n => exact stOk_main h (h.1.reads (fetch_reads b C st.main st.ctx p k c n))
  case count p k c f => exact stOk_main h (h.1.reads (select_reads b C like st.main st.ctx p k c f))
  case scan p k c f => exact stOk_main h (h.1.reads (select_reads b C like st.main st.ctx p k c f))
  case insertKey p n m jwk alg thumbs t => exact stOk_main h (update_ok h.1)
  case createProfile n => exact stOk_main h (createProfile_ok h.1)
  case removeProfile n => exact stOk_main h (removeProfile_ok h.1)
  case setDefault n => exact stOk_main h (setDefault_ok h.1)
  case rekey m => exact stOk_main h (rekey_ok h.1 (hm m (.inl rfl)))
  case copy m =>
    have := copyTo_ok (C := C) (like := like) h.1 (hm m (.inr rfl))
    exact ⟨this.1, fun c hc => (Option.some.inj hc) ▸ this.2⟩
  case checkpoint => exact h
  case reopen => exact stOk_main h (h.1.reads (reopen_reads b st.main st.ctx))

theorem run_ok {C : Crypto} {like} (ops : List Op) : ∀ st : St, StOk b rng st →
    (b = false → ∀ op ∈ ops, op.keepsProtected = true) → StOk b rng (run C rng like st ops).1 := by
  induction ops with
  | nil => exact fun st h _ => h
  | cons op ops ih =>
    intro st h hops
    simp only [run]
    exact ih _ (step_ok op h (fun hb => hops hb op (List.mem_cons_self ..)))
      (fun hb o ho => hops hb o (List.mem_cons_of_mem _ ho))

theorem init_ok {C : Crypto} {m p} (hm : b = false → m ≠ .none) : StOk b rng (init C rng m p) :=
  ⟨provision_ok (o := []) (allGood_nil b) ⟨(fun e he => by cases he), List.Pairwise.nil⟩
    ⟨List.Pairwise.nil, (fun it hit => by cases hit), List.Pairwise.nil⟩ hm, fun c hc => by simp [init] at hc⟩

/-- the invariant of every reachable state; for `b = false` under the hypotheses of `no_plain_secret_bound` -/
theorem reachable_ok (b : Bool) (rng : Nat → Nonce) (C : Crypto) (like : Bytes → Bytes → Bool) (m : Method) (p : String)
    (ops : List Op) (hm : b = false → m ≠ .none) (hops : b = false → ∀ op ∈ ops, op.keepsProtected = true) :
    StOk b rng (run C rng like (init C rng m p) ops).1 :=
  run_ok ops _ (init_ok hm) hops

/-- …and without hypotheses when the unwrapped profile key is tolerated -/
theorem reachable (rng : Nat → Nonce) (C : Crypto) (like : Bytes → Bytes → Bool) (m : Method) (p : String) (ops : List Op) :
    StOk true rng (run C rng like (init C rng m p) ops).1 :=
  reachable_ok true rng C like m p ops (fun hb => by cases hb) (fun hb => by cases hb)

theorem no_plain_secret_bound (C : Crypto) (rng : Nat → Nonce) (like : Bytes → Bytes → Bool) (m : Method) (p : String)
    (ops : List Op) (hm : m ≠ .none) (hops : ∀ op ∈ ops, op.keepsProtected = true) :
    ∀ a ∈ boundArgs (run C rng like (init C rng m p) ops).1, a.prov.isSecretPlain = false := by
  intro a ha
  have h := (reachable_ok false rng C like m p ops (fun _ => hm) (fun _ => hops)).1.bound a ha
  cases hp : a.prov with
  | secretPlain f => have := h f hp; simp at this
  | _ => rfl

theorem value_nonces_fresh (C : Crypto) (rng : Nat → Nonce) (like : Bytes → Bytes → Bool) (m : Method) (p : String)
    (ops : List Op) (hinj : InjBelow rng (run C rng like (init C rng m p) ops).1.ctx.ctr) :
    (valueNonces rng (run C rng like (init C rng m p) ops).1).Nodup := by
  unfold valueNonces valueNonceIxs
  rw [List.map_map, List.Nodup, List.pairwise_map]
  exact sealed_pairwise (reachable rng C like m p ops).1.sealed hinj

theorem stOk_stores {st : St} (h : StOk b rng st) : ∀ s ∈ stores st, RowsOk s.db ∧ ProfilesOk s := by
  intro s hs
  simp only [stores, List.mem_cons, Option.mem_toList] at hs
  rcases hs with rfl | hs
  · exact ⟨h.1.rows, h.1.profiles⟩
  · exact ⟨(h.2 s hs).1, (h.2 s hs).2.1⟩

theorem stores_items (st : St) : (stores st).flatMap (·.db.items) = st.main.db.items ++ copyItems st := by
  unfold stores copyItems
  cases st.copy <;> simp

theorem values_logged_at (C : Crypto) (rng : Nat → Nonce) (like : Bytes → Bytes → Bool) (m : Method) (p : String) (ops : List Op) :
    ∀ s ∈ stores (run C rng like (init C rng m p) ops).1, ∀ it ∈ s.db.items,
      (it.nonceIx, it.value) ∈ (run C rng like (init C rng m p) ops).1.ctx.sealed := by
  intro s hs it hit
  exact (reachable rng C like m p ops).1.live.2.1 it (by
    rw [← stores_items]; exact List.mem_flatMap.mpr ⟨s, hs, hit⟩)

end Lemmas
end Askar.Provenance
