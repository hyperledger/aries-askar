/-
C12 — AES key wrap: the chunk loops of the model (`kwWrapPasses` / `kwUnwrapPasses` of `Model/Aead.lean`) compute
RFC 3394 §2.2 as transcribed in `Crypto/KeyWrap.lean` (index form over `ByteArray`s).  The specification's loops are
read as folds (`wrapWith_eq_fold`, `unwrapRaw_eq_fold`), their state is viewed as lists (`absBA`), each step commutes
with the view (`stepBA_abs`), hence so do the folds (`foldl_abs`); the list side is the index form `ixWrapStep` /
`ixUnwrapStep` of `Lemmas/Aead.lean`.  Core Lean only.
-/
import AskarModel.Crypto.KeyWrap
import AskarModel.Lemmas.Aead

namespace Askar.Aead.Lemmas
open Askar Askar.Aead Askar.Crypto Askar.Crypto.KeyWrap

/-! ### `ByteArray` ↔ `List UInt8` -/

theorem ba_toList_append (a b : ByteArray) : (a ++ b).toList = a.toList ++ b.toList := by
  simp [ByteArray.toList_eq_data]

theorem ba_toList_extract (b : ByteArray) (s e : Nat) : (b.extract s e).toList = (b.toList.drop s).take (e - s) := by
  simp [ByteArray.toList_eq_data, List.extract]

theorem ba_toList_ofList (l : List UInt8) : l.toByteArray.toList = l := by
  simp [ByteArray.toList_eq_data]

theorem ba_size (b : ByteArray) : b.size = b.toList.length := by
  simp [ByteArray.toList_eq_data]

theorem ba_get! (b : ByteArray) (i : Nat) : b.get! i = b.toList[i]! := by
  obtain ⟨⟨l⟩⟩ := b
  simp [ByteArray.get!, ByteArray.toList_eq_data]

theorem ba_toList_default : (default : ByteArray).toList = [] := by
  show ByteArray.empty.toList = []
  simp [ByteArray.toList_eq_data]

theorem xor8_toList (a b : ByteArray) (ha : a.toList.length = 8) (hb : b.toList.length = 8) :
    (xor8 a b).toList = Cbc.xor a.toList b.toList := by
  simp only [xor8, ba_toList_ofList, ba_get!]
  apply List.ext_getElem
  · simp [Cbc.xor, ha, hb]
  · intro i h1 h2
    have hi : i < 8 := by simpa using h1
    simp only [Cbc.xor, List.getElem_map, List.getElem_range, List.getElem_zipWith]
    rw [getElem!_pos a.toList i (by omega), getElem!_pos b.toList i (by omega)]

theorem mod_div_mod_256 (x N m : Nat) (h : m * 256 ∣ N) : x % N / m % 256 = x / m % 256 := by
  rw [← Nat.mod_mul_right_div_self, Nat.mod_mod_of_dvd _ h, Nat.mod_mul_right_div_self]

/-- the byte at `m = 256 ^ k` of the high and of the low 32-bit half of `t` -/
theorem be64_byte (t m : Nat) (h : m * 256 ∣ 4294967296) :
    t / 4294967296 % 4294967296 / m % 256 = t / (4294967296 * m) % 256 ∧ t % 4294967296 / m % 256 = t / m % 256 :=
  ⟨by rw [mod_div_mod_256 _ _ _ h, Nat.div_div_eq_div_mul], mod_div_mod_256 _ _ _ h⟩

theorem be64_toList (t : Nat) : (be64 t).toList = Bytes.be64 t := by
  have h3 := be64_byte t 16777216 (by decide)
  have h2 := be64_byte t 65536 (by decide)
  have h1 := be64_byte t 256 (by decide)
  have h0 := be64_byte t 1 (by decide)
  simp only [Nat.div_one, Nat.reduceMul] at h0 h1 h2 h3
  rw [be64, ba_toList_ofList, show List.range 8 = [0, 1, 2, 3, 4, 5, 6, 7] from rfl]
  simp only [List.map, Nat.reduceSub, Nat.reduceMul, Nat.reducePow, Nat.div_one, Bytes.be64, Bytes.be32, h0, h1, h2, h3]
  rfl

/-! ### the specification's unwrap counts down with `n - ii`: the same loop as a `foldr` over the indices -/

theorem foldl_down (α : Type) (f : α → Nat → α) (st : α) (n : Nat) :
    (List.range' 0 n).foldl (fun st ii => f st (n - ii)) st = (List.range' 1 n).foldr (fun i st => f st i) st := by
  have hrev : (List.range' 0 n).map (n - ·) = (List.range' 1 n).reverse := by
    apply List.ext_getElem
    · simp
    · intro i h1 h2
      simp at h1
      simp [List.getElem_reverse, List.getElem_range']
      omega
  rw [← List.foldl_map (f := (n - ·)) (g := f), hrev, List.foldl_reverse]

/-! ### the specification's loops as folds, and their list view -/

/-- the specification's loop body on `ByteArray`s: `sf` applied to `(A, R[i])`, `R[i]` written back -/
def stepBA (sf : ByteArray → ByteArray → ByteArray × ByteArray) (st : ByteArray × Array ByteArray) (i : Nat) :
    ByteArray × Array ByteArray :=
  ((sf st.1 st.2[i - 1]!).1, st.2.set! (i - 1) (sf st.1 st.2[i - 1]!).2)

/-- the body of the loops of `wrapWith` on `(A, R[i])`, with `t = n·j + i` -/
def wrapBody (ciph : ByteArray → ByteArray) (t : Nat) (a c : ByteArray) : ByteArray × ByteArray :=
  (xor8 ((ciph (a ++ c)).extract 0 8) (be64 t), (ciph (a ++ c)).extract 8 16)

/-- the body of the loops of `unwrapRaw` -/
def unwrapBody (inv : ByteArray → ByteArray) (t : Nat) (a c : ByteArray) : ByteArray × ByteArray :=
  ((inv (xor8 a (be64 t) ++ c)).extract 0 8, (inv (xor8 a (be64 t) ++ c)).extract 8 16)

def wrapStepBA (ciph : ByteArray → ByteArray) (n j : Nat) (st : ByteArray × Array ByteArray) (i : Nat) :
    ByteArray × Array ByteArray :=
  stepBA (wrapBody ciph (n * j + i)) st i

def unwrapStepBA (inv : ByteArray → ByteArray) (n j : Nat) (st : ByteArray × Array ByteArray) (i : Nat) :
    ByteArray × Array ByteArray :=
  stepBA (unwrapBody inv (n * j + i)) st i

/-- the list view of the specification's state `(A, R)` -/
def absBA (st : ByteArray × Array ByteArray) : Bytes × List Bytes := (st.1.toList, st.2.toList.map (·.toList))

theorem abs_get (r : Array ByteArray) (k : Nat) (h : k < r.size) :
    r[k]!.toList = (r.toList.map (·.toList))[k]! := by
  have h' : k < (r.toList.map (·.toList)).length := by simpa using h
  rw [getElem!_pos r k h, getElem!_pos (r.toList.map (·.toList)) k h']
  simp

theorem stepBA_abs (sf : ByteArray → ByteArray → ByteArray × ByteArray) (lf : Bytes → Bytes → Bytes × Bytes)
    (h : ∀ a c, a.toList.length = 8 → c.toList.length = 8 → ((sf a c).1.toList, (sf a c).2.toList) = lf a.toList c.toList)
    {n i : Nat} (hi : i ∈ List.range' 1 n) {st : ByteArray × Array ByteArray} (hb : Blocks n (absBA st)) :
    absBA (stepBA sf st i) = atIx lf (absBA st) i := by
  obtain ⟨hk, hg, hc⟩ := blocks_get hb hi
  have hget : st.2[i - 1]!.toList = (absBA st).2[i - 1]! := abs_get st.2 (i - 1) (by simpa [absBA] using hk)
  have := h st.1 st.2[i - 1]! hb.1 (by rw [hget, hg]; exact hc)
  simp only [absBA, stepBA, atIx, Array.set!_eq_setIfInBounds, Array.toList_setIfInBounds, List.map_set] at hget ⊢
  rw [← hget, ← this]

theorem ba_halves (b : ByteArray) (h : b.toList.length = 16) :
    (b.extract 0 8).toList = b.toList.take 8 ∧ (b.extract 8 16).toList = b.toList.drop 8 := by
  rw [ba_toList_extract, ba_toList_extract]
  exact ⟨by simp, List.take_of_length_le (by simp [h])⟩

theorem wrapBA_step (ciph : ByteArray → ByteArray) (enc : Bytes → Bytes) (hc : ∀ b, (ciph b).toList = enc b.toList)
    (hlen : ∀ b, b.length = 16 → (enc b).length = 16) (t : Nat) (a c : ByteArray) (ha : a.toList.length = 8)
    (hc8 : c.toList.length = 8) :
    ((wrapBody ciph t a c).1.toList, (wrapBody ciph t a c).2.toList) = kwWrapStep enc t a.toList c.toList := by
  have e1 : (ciph (a ++ c)).toList = enc (a.toList ++ c.toList) := by rw [hc, ba_toList_append]
  have hbl := hlen (a.toList ++ c.toList) (by rw [List.length_append, ha, hc8])
  obtain ⟨e2, e3⟩ := ba_halves _ (e1 ▸ hbl)
  simp only [wrapBody]
  rw [xor8_toList _ _ (by rw [e2, e1, List.length_take, hbl]; rfl) (by rw [be64_toList]; rfl), e2, e3, be64_toList, e1]
  rfl

theorem unwrapBA_step (inv : ByteArray → ByteArray) (dec : Bytes → Bytes) (hc : ∀ b, (inv b).toList = dec b.toList)
    (hlen : ∀ b, b.length = 16 → (dec b).length = 16) (t : Nat) (a c : ByteArray) (ha : a.toList.length = 8)
    (hc8 : c.toList.length = 8) :
    ((unwrapBody inv t a c).1.toList, (unwrapBody inv t a c).2.toList) = kwUnwrapStep dec t a.toList c.toList := by
  have hx : (xor8 a (be64 t)).toList = Cbc.xor a.toList (Bytes.be64 t) := by
    rw [xor8_toList _ _ ha (by rw [be64_toList]; rfl), be64_toList]
  have e1 : (inv (xor8 a (be64 t) ++ c)).toList = dec (Cbc.xor a.toList (Bytes.be64 t) ++ c.toList) := by
    rw [hc, ba_toList_append, hx]
  have hbl := hlen (Cbc.xor a.toList (Bytes.be64 t) ++ c.toList) (by rw [List.length_append, xor_length, ha, hc8]; rfl)
  obtain ⟨e2, e3⟩ := ba_halves _ (e1 ▸ hbl)
  simp only [unwrapBody]
  rw [e2, e3, e1]
  rfl

theorem foldl_abs {σ τ ι : Type} (abs : σ → τ) (P : τ → Prop) (f : σ → ι → σ) (g : τ → ι → τ) :
    ∀ (is : List ι) (st : σ), (∀ i ∈ is, ∀ st, P (abs st) → abs (f st i) = g (abs st) i ∧ P (g (abs st) i)) → P (abs st) →
      abs (is.foldl f st) = is.foldl g (abs st) ∧ P (is.foldl g (abs st))
  | [], st, _, h => ⟨rfl, h⟩
  | i :: is, st, hs, h => by
    obtain ⟨e, p⟩ := hs i (List.mem_cons_self ..) st h
    have := foldl_abs abs P f g is (f st i) (fun k hk => hs k (List.mem_cons_of_mem _ hk)) (e ▸ p)
    simp only [List.foldl_cons]
    rw [e] at this
    exact this

theorem wrapWith_eq_fold (ciph : ByteArray → ByteArray) (iv plain : ByteArray) :
    wrapWith ciph iv plain =
      (let st := (List.range' 0 6).foldl (fun st j => (List.range' 1 (plain.size / 8)).foldl (wrapStepBA ciph (plain.size / 8) j) st)
        (iv, (Array.range (plain.size / 8)).map fun i => plain.extract (8 * i) (8 * i + 8))
       st.2.foldl (· ++ ·) st.1) := by
  unfold wrapWith
  simp only [Id.run, Std.Legacy.Range.forIn_eq_forIn_range', Std.Legacy.Range.size]
  simp [List.forIn_pure_yield_eq_foldl]
  rfl

theorem unwrapRaw_eq_fold (inv : ByteArray → ByteArray) (c : ByteArray) :
    unwrapRaw inv c =
      (let st := (List.range' 0 6).foldl (fun st jj => (List.range' 0 (c.size / 8 - 1)).foldl
          (fun st ii => unwrapStepBA inv (c.size / 8 - 1) (5 - jj) st (c.size / 8 - 1 - ii)) st)
        (c.extract 0 8, (Array.range (c.size / 8 - 1)).map fun i => c.extract (8 * (i + 1)) (8 * (i + 1) + 8))
       (st.1, st.2.foldl (· ++ ·) ByteArray.empty)) := by
  unfold unwrapRaw
  simp only [Id.run, Std.Legacy.Range.forIn_eq_forIn_range', Std.Legacy.Range.size]
  simp [List.forIn_pure_yield_eq_foldl]
  rfl

theorem chunksN_eq_map (l : Bytes) : ∀ (k : Nat) (off : Nat),
    (List.range k).map (fun i => ((l.drop (8 * (i + off))).take 8)) = Cbc.chunksN 8 k (l.drop (8 * off))
  | 0, _ => by simp [Cbc.chunksN]
  | k + 1, off => by
    rw [List.range_succ_eq_map, List.map_cons, List.map_map, Cbc.chunksN, List.drop_drop]
    have := chunksN_eq_map l k (off + 1)
    rw [Nat.mul_add, Nat.mul_one] at this
    rw [← this]
    simp only [Nat.zero_add, List.cons.injEq, true_and]
    apply List.map_congr_left
    intro i _
    simp only [Function.comp, Nat.succ_eq_add_one]
    congr 2; omega

theorem foldl_append_toList : ∀ (l : List ByteArray) (a : ByteArray),
    (l.foldl (· ++ ·) a).toList = a.toList ++ (l.map (·.toList)).flatten
  | [], a => by simp
  | b :: l, a => by simp [foldl_append_toList l, ba_toList_append]

theorem absBA_init (a c : ByteArray) (n off : Nat) :
    absBA (a, (Array.range n).map fun i => c.extract (8 * (i + off)) (8 * (i + off) + 8)) =
      (a.toList, Cbc.chunksN 8 n (c.toList.drop (8 * off))) := by
  simp only [absBA, Array.toList_map, Array.toList_range, List.map_map]
  rw [← chunksN_eq_map]
  congr 1
  apply List.map_congr_left
  intro i _
  simp [ba_toList_extract]

/-- **RFC 3394 §2.2.1 = the wrap loop of the model**, for every block function that maps 128-bit blocks to 128-bit
    blocks, every 64-bit initial value and EVERY input (n = 0, 1 included; trailing bytes beyond the last complete
    64-bit block are ignored by both sides). -/
theorem wrapWith_refines (ciph : ByteArray → ByteArray) (enc : Bytes → Bytes) (hc : ∀ b, (ciph b).toList = enc b.toList)
    (hlen : ∀ b, b.length = 16 → (enc b).length = 16) (iv plain : ByteArray) (hiv : iv.size = 8) :
    (wrapWith ciph iv plain).toList =
      (kwWrapPasses enc (plain.size / 8) 6 0 iv.toList (Cbc.chunks 8 plain.toList)).1 ++
      (kwWrapPasses enc (plain.size / 8) 6 0 iv.toList (Cbc.chunks 8 plain.toList)).2.flatten := by
  rw [wrapWith_eq_fold]
  have hn : plain.toList.length / 8 = plain.size / 8 := by rw [ba_size]
  generalize plain.size / 8 = n at hn ⊢
  have hinit := absBA_init iv plain n 0
  simp only [Nat.add_zero, Nat.mul_zero, List.drop_zero] at hinit
  rw [show Cbc.chunksN 8 n plain.toList = Cbc.chunks 8 plain.toList by rw [Cbc.chunks, hn]] at hinit
  have hB : Blocks n (absBA (iv, (Array.range n).map fun i => plain.extract (8 * i) (8 * i + 8))) := by
    rw [hinit]; exact blocks_chunks _ _ (by rw [← ba_size]; exact hiv) hn
  obtain ⟨e, p⟩ := foldl_abs absBA (Blocks n) (fun st j => (List.range' 1 n).foldl (wrapStepBA ciph n j) st)
    (fun st j => (List.range' 1 n).foldl (ixWrapStep enc n j) st) (List.range' 0 6) _
    (fun j _ st hP => foldl_abs absBA (Blocks n) (wrapStepBA ciph n j) (ixWrapStep enc n j) (List.range' 1 n) st
      (fun i hi st hP => ⟨stepBA_abs _ _ (wrapBA_step ciph enc hc hlen _) hi hP,
        atIx_blocks (kwWrapStep_halves enc hlen _) hi hP⟩) hP) hB
  rw [hinit, ixWrap_passes enc _ 6 0 _ _ ((chunks_length 8 _).trans hn)] at e
  simp only
  rw [← Array.foldl_toList, foldl_append_toList, ← e]
  rfl

/-- **RFC 3394 §2.2.2 steps 1–2 = the unwrap loop of the model**, for every input of at least one 64-bit block -/
theorem unwrapRaw_refines (inv : ByteArray → ByteArray) (dec : Bytes → Bytes) (hc : ∀ b, (inv b).toList = dec b.toList)
    (hlen : ∀ b, b.length = 16 → (dec b).length = 16) (c : ByteArray) (h8 : 8 ≤ c.size) :
    (unwrapRaw inv c).1.toList =
      (kwUnwrapPasses dec (c.size / 8 - 1) 6 0 (c.toList.take 8) (Cbc.chunks 8 (c.toList.drop 8))).1 ∧
    (unwrapRaw inv c).2.toList =
      (kwUnwrapPasses dec (c.size / 8 - 1) 6 0 (c.toList.take 8) (Cbc.chunks 8 (c.toList.drop 8))).2.flatten := by
  rw [unwrapRaw_eq_fold]
  have hn : (c.toList.drop 8).length / 8 = c.size / 8 - 1 := by rw [drop_blocks 8, ba_size]
  generalize c.size / 8 - 1 = n at hn ⊢
  have hinit := absBA_init (c.extract 0 8) c n 1
  rw [ba_toList_extract, List.drop_zero, Nat.sub_zero, Nat.mul_one, show Cbc.chunksN 8 n (c.toList.drop 8) = Cbc.chunks 8 (c.toList.drop 8) by rw [Cbc.chunks, hn]] at hinit
  have hB : Blocks n (absBA (c.extract 0 8, (Array.range n).map fun i => c.extract (8 * (i + 1)) (8 * (i + 1) + 8))) := by
    rw [hinit]; exact blocks_chunks _ _ (by rw [List.length_take, ← ba_size]; omega) hn
  obtain ⟨e, p⟩ := foldl_abs absBA (Blocks n)
    (fun st jj => (List.range' 0 n).foldl (fun st ii => unwrapStepBA inv n (5 - jj) st (n - ii)) st)
    (fun st jj => (List.range' 0 n).foldl (fun st ii => ixUnwrapStep dec n (5 - jj) st (n - ii)) st) (List.range' 0 6) _
    (fun jj _ st hP => foldl_abs absBA (Blocks n) (fun st ii => unwrapStepBA inv n (5 - jj) st (n - ii))
      (fun st ii => ixUnwrapStep dec n (5 - jj) st (n - ii)) (List.range' 0 n) st
      (fun ii hi st hP =>
        have hi' : n - ii ∈ List.range' 1 n := List.mem_range'_1.2 (by have := List.mem_range'_1.1 hi; omega)
        ⟨stepBA_abs _ _ (unwrapBA_step inv dec hc hlen _) hi' hP, atIx_blocks (kwUnwrapStep_halves dec hlen _) hi' hP⟩) hP) hB
  rw [hinit] at e
  have hfold : (List.range' 0 6).foldl (fun st jj => (List.range' 0 n).foldl
      (fun st ii => ixUnwrapStep dec n (5 - jj) st (n - ii)) st) (c.toList.take 8, Cbc.chunks 8 (c.toList.drop 8)) =
      kwUnwrapPasses dec n 6 0 (c.toList.take 8) (Cbc.chunks 8 (c.toList.drop 8)) := by
    rw [← ixUnwrap_passes dec _ 6 0 _ _ ((chunks_length 8 _).trans hn)]
    simp only [foldl_down]
    rfl
  rw [hfold] at e
  simp only
  rw [← Array.foldl_toList, foldl_append_toList, ← e]
  exact ⟨rfl, by simp [absBA]⟩

/-- §2.2.2 with the integrity check (step 3) -/
theorem unwrapWith_refines (inv : ByteArray → ByteArray) (dec : Bytes → Bytes) (hc : ∀ b, (inv b).toList = dec b.toList)
    (hlen : ∀ b, b.length = 16 → (dec b).length = 16) (iv c : ByteArray) :
    (unwrapWith inv iv c).map (·.toList) =
      if c.size % 8 ≠ 0 ∨ c.size < 8 then none
      else if (kwUnwrapPasses dec (c.size / 8 - 1) 6 0 (c.toList.take 8) (Cbc.chunks 8 (c.toList.drop 8))).1 = iv.toList
        then some (kwUnwrapPasses dec (c.size / 8 - 1) 6 0 (c.toList.take 8) (Cbc.chunks 8 (c.toList.drop 8))).2.flatten
        else none := by
  unfold unwrapWith
  by_cases h : c.size % 8 ≠ 0 ∨ c.size < 8
  · have : (c.size % 8 != 0 || decide (c.size < 8)) = true := by
      rcases h with h | h <;> simp [h]
    simp [this, h]
  · have h8 : 8 ≤ c.size := by omega
    have : (c.size % 8 != 0 || decide (c.size < 8)) = false := by
      simp only [not_or, Nat.not_lt, ne_eq, Decidable.not_not] at h
      simp [h.1]; omega
    obtain ⟨e1, e2⟩ := unwrapRaw_refines inv dec hc hlen c h8
    simp only [this, Bool.false_eq_true, if_false, h, beq_iff_eq, e1]
    split <;> simp [e2]

/-- a block function on lists, seen by the `ByteArray` specification -/
def liftBA (f : Bytes → Bytes) : ByteArray → ByteArray := fun b => (f b.toList).toByteArray

theorem liftBA_toList (f : Bytes → Bytes) (b : ByteArray) : (liftBA f b).toList = f b.toList := ba_toList_ofList _

theorem defaultIV_toList : defaultIV.toList = kwIv := by
  simp only [defaultIV, ba_toList_ofList, kwIv]

/-- **`encrypt_in_place` of the model is RFC 3394 wrap** (`Crypto.KeyWrap.wrapWith`, the index form of §2.2.1, default
    IV), for every lawful 128-bit block cipher, every key and every accepted input — the empty input and a single
    64-bit block included -/
theorem kwEncrypt_is_rfc3394 (C : BlockCipher) (hC : C.Lawful) (key p : Bytes) (hp : p.length % 8 = 0) :
    kwEncrypt C key p [] [] = .ok ((wrapWith (liftBA (C.enc key)) defaultIV p.toByteArray).toList, p.length + 8) := by
  rw [kwEncrypt_of_shape C hC key p hp,
    wrapWith_refines (liftBA (C.enc key)) (C.enc key) (liftBA_toList _) (hC.enc_len key) defaultIV p.toByteArray
      (by rw [ba_size, defaultIV_toList]; rfl)]
  simp only [ba_size, ba_toList_ofList, defaultIV_toList]

/-- **`decrypt_in_place` of the model is RFC 3394 unwrap** (`Crypto.KeyWrap.unwrapWith`, §2.2.2 with the integrity
    check, default IV), for EVERY input: it returns the key data exactly when the specification does, and fails
    otherwise — with the length error for a length that is not a multiple of 8, the generic one else. -/
theorem kwDecrypt_is_rfc3394 (C : BlockCipher) (hC : C.Lawful) (key c : Bytes) :
    kwDecrypt C key c [] [] =
      match unwrapWith (liftBA (C.dec key)) defaultIV c.toByteArray with
      | some p => .ok p.toList
      | none => .err ⟨.Encryption, if c.length % 8 ≠ 0 then .kwLen else .default⟩ := by
  have hr := unwrapWith_refines (liftBA (C.dec key)) (C.dec key) (liftBA_toList _) (hC.dec_len key) defaultIV c.toByteArray
  simp only [ba_size, ba_toList_ofList, defaultIV_toList] at hr
  by_cases h3 : c.length % 8 = 0
  · by_cases h5 : 8 ≤ c.length
    · have hg : ¬ (c.length % 8 ≠ 0 ∨ c.length < 8) := by omega
      rw [kwDecrypt_of_shape C key c h3 h5]
      simp only [hg, if_false] at hr
      split at hr
      · rename_i hiv
        cases hu : unwrapWith (liftBA (C.dec key)) defaultIV c.toByteArray with
        | none => rw [hu] at hr; simp at hr
        | some p =>
          rw [hu] at hr
          simp only [Option.map_some, Option.some.injEq] at hr
          simp only [hiv, if_true, hr]
      · rename_i hiv
        cases hu : unwrapWith (liftBA (C.dec key)) defaultIV c.toByteArray with
        | some p => rw [hu] at hr; simp at hr
        | none => simp [hiv, h3]
    · have hg : c.length % 8 ≠ 0 ∨ c.length < 8 := by omega
      simp only [hg, if_true] at hr
      cases hu : unwrapWith (liftBA (C.dec key)) defaultIV c.toByteArray with
      | some p => rw [hu] at hr; simp at hr
      | none =>
        have : c.length / 8 < 1 := by omega
        simp [kwDecrypt, h3, this]
  · have hg : c.length % 8 ≠ 0 ∨ c.length < 8 := .inl h3
    simp only [hg, if_true] at hr
    cases hu : unwrapWith (liftBA (C.dec key)) defaultIV c.toByteArray with
    | some p => rw [hu] at hr; simp at hr
    | none => simp [kwDecrypt, h3]

theorem ba_ofList_toList (b : ByteArray) : b.toList.toByteArray = b := by
  ext1; simp [ByteArray.toList_eq_data]

/-- every `ByteArray` block function is the lift of a list function: the refinement applies to ANY `ciph` that maps
    16-byte blocks to 16-byte blocks — in particular to `Aes.cipher w` of the executable AES specification -/
theorem wrapWith_refines_any (ciph : ByteArray → ByteArray) (hlen : ∀ b, b.size = 16 → (ciph b).size = 16)
    (iv plain : ByteArray) (hiv : iv.size = 8) :
    (wrapWith ciph iv plain).toList =
      (kwWrapPasses (fun l => (ciph l.toByteArray).toList) (plain.size / 8) 6 0 iv.toList (Cbc.chunks 8 plain.toList)).1 ++
      (kwWrapPasses (fun l => (ciph l.toByteArray).toList) (plain.size / 8) 6 0 iv.toList (Cbc.chunks 8 plain.toList)).2.flatten :=
  wrapWith_refines ciph _ (fun b => by simp only [ba_ofList_toList]) (fun b hb => by
    rw [← ba_size]; exact hlen _ (by rw [ba_size, ba_toList_ofList]; exact hb)) iv plain hiv

theorem unwrapWith_refines_any (inv : ByteArray → ByteArray) (hlen : ∀ b, b.size = 16 → (inv b).size = 16)
    (iv c : ByteArray) :
    (unwrapWith inv iv c).map (·.toList) =
      if c.size % 8 ≠ 0 ∨ c.size < 8 then none
      else if (kwUnwrapPasses (fun l => (inv l.toByteArray).toList) (c.size / 8 - 1) 6 0 (c.toList.take 8)
          (Cbc.chunks 8 (c.toList.drop 8))).1 = iv.toList
        then some (kwUnwrapPasses (fun l => (inv l.toByteArray).toList) (c.size / 8 - 1) 6 0 (c.toList.take 8)
          (Cbc.chunks 8 (c.toList.drop 8))).2.flatten
        else none :=
  unwrapWith_refines inv _ (fun b => by simp only [ba_ofList_toList]) (fun b hb => by
    rw [← ba_size]; exact hlen _ (by rw [ba_size, ba_toList_ofList]; exact hb)) iv c

end Askar.Aead.Lemmas
