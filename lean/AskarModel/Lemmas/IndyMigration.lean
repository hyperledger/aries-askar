/-
Lemmas for the Indy migration (C18), Model/IndyMigration.lean.  A wallet whose cells are sealed under the wallet's keys
(`RowEncodes`) migrates record by record (`migrate_rows_exact`).  A run of `migrateFile` ends in exactly one of three ways
(`migrateFile_cases`): refused before anything is written, failed after `pre_upgrade` (what is left depends on the
variant), or complete.
-/
import AskarModel.Model.IndyMigration
import AskarModel.Lemmas.Store

namespace Askar.Indy
open Askar.Store Askar.Wql Askar.Copy

namespace Lemmas

inductive Forall2 {α β : Type} (R : α → β → Prop) : List α → List β → Prop
  | nil : Forall2 R [] []
  | cons {a : α} {b : β} {l₁ : List α} {l₂ : List β} : R a b → Forall2 R l₁ l₂ → Forall2 R (a :: l₁) (b :: l₂)

/-- `merged` is an Indy-style encryption of `pt` under `k`: some 12-byte nonce followed by the AEAD output -/
def Sealed (A : Aead) (k pt merged : Bytes) : Prop := ∃ n : Bytes, n.length = nonceLen ∧ merged = n ++ A.enc k n pt

theorem decryptMerged_sealed (A : Aead) (hA : A.Correct) (k pt merged : Bytes) (h : Sealed A k pt merged) :
    decryptMerged A k merged = .ok pt := by
  obtain ⟨n, hn, rfl⟩ := h
  have h1 : ¬ (n ++ A.enc k n pt).length < nonceLen := by simp [hn]
  have h2 : (n ++ A.enc k n pt).take nonceLen = n := by rw [← hn]; simp
  have h3 : (n ++ A.enc k n pt).drop nonceLen = A.enc k n pt := by rw [← hn]; simp
  simp only [decryptMerged, h1, if_false, h2, h3, hA.dec_enc]

/-- a wallet record in the clear -/
structure Rec where
  typ : String
  name : String
  value : Bytes
  encTags : List (String × String)
  plainTags : List (String × String)

/-- the askar record the wallet record must become: kind Item, type ↦ category, both tag kinds -/
def Rec.toEntry (r : Rec) : Entry :=
  ⟨2, r.typ, r.name, r.value,
   r.encTags.map (fun t => ⟨false, t.1, t.2⟩) ++ r.plainTags.map (fun t => ⟨true, t.1, t.2⟩)⟩

def TagEncodes (A : Aead) (keys : Keys) (valueEnc : Bool) (p : Bytes × Bytes) (t : String × String) : Prop :=
  Sealed A keys.tagNameKey (utf8 t.1) p.1 ∧
  (if valueEnc then Sealed A keys.tagValueKey (utf8 t.2) p.2 else p.2 = utf8 t.2)

/-- `row` is an Indy encoding of `r`: any nonces, any 32-byte item key -/
def RowEncodes (A : Aead) (keys : Keys) (row : Row) (r : Rec) : Prop :=
  Sealed A keys.typeKey (utf8 r.typ) row.typ ∧ Sealed A keys.nameKey (utf8 r.name) row.name ∧
  (∃ ik v, ik.length = itemKeyLen ∧ Sealed A keys.valueKey ik row.key ∧ row.value = some v ∧ Sealed A ik r.value v) ∧
  Forall2 (TagEncodes A keys true) row.tagsEnc r.encTags ∧
  Forall2 (TagEncodes A keys false) row.tagsPlain r.plainTags

/-- `String::from_utf8` gives the string back from its UTF-8 bytes (a fact about the decoder, needed only for the
    strings the wallet actually holds) -/
def Decodes (utf8dec : Bytes → Option String) (s : String) : Prop := utf8dec (utf8 s) = some s

def TagsDecode (utf8dec : Bytes → Option String) (ts : List (String × String)) : Prop :=
  ∀ t ∈ ts, Decodes utf8dec t.1 ∧ Decodes utf8dec t.2

def RecDecodes (utf8dec : Bytes → Option String) (r : Rec) : Prop :=
  Decodes utf8dec r.typ ∧ Decodes utf8dec r.name ∧ TagsDecode utf8dec r.encTags ∧ TagsDecode utf8dec r.plainTags

theorem decryptTags_encoded (A : Aead) (hA : A.Correct) (utf8dec : Bytes → Option String)
    (keys : Keys) (valueEnc : Bool)
    (ps : List (Bytes × Bytes)) (ts : List (String × String)) (h : Forall2 (TagEncodes A keys valueEnc) ps ts)
    (hU : TagsDecode utf8dec ts) :
    decryptTags A utf8dec keys.tagNameKey (if valueEnc then some keys.tagValueKey else none) ps = .ok ts := by
  induction h with
  | nil => rfl
  | @cons p t ps ts hpt _ ih =>
    obtain ⟨hn, hv⟩ := hpt
    obtain ⟨pn, pv⟩ := p
    obtain ⟨tn, tv⟩ := t
    have ih := ih (fun t ht => hU t (by simp [ht]))
    obtain ⟨h1, h2⟩ := hU (tn, tv) (by simp)
    unfold Decodes at h1 h2
    simp only at h1 h2
    simp only [decryptTags, decryptMerged_sealed A hA _ _ _ hn, h1]
    cases valueEnc with
    | true =>
      simp only [if_true] at hv ih ⊢
      simp only [decryptMerged_sealed A hA _ _ _ hv, h2, ih]
    | false =>
      simp only [Bool.false_eq_true, if_false] at hv ih ⊢
      subst hv
      simp only [h2, ih]

theorem decryptItem_encoded (A : Aead) (hA : A.Correct) (utf8dec : Bytes → Option String)
    (keys : Keys) (row : Row) (r : Rec) (h : RowEncodes A keys row r) (hU : RecDecodes utf8dec r) :
    decryptItem A utf8dec keys row =
      .ok { id := row.id, typ := utf8 r.typ, name := utf8 r.name, value := some r.value, tags := r.toEntry.tags } := by
  obtain ⟨ht, hn, ⟨ik, v, hlen, hk, hv, hval⟩, hte, htp⟩ := h
  have h1 := decryptTags_encoded A hA utf8dec keys true _ _ hte hU.2.2.1
  have h2 := decryptTags_encoded A hA utf8dec keys false _ _ htp hU.2.2.2
  simp only [if_true, Bool.false_eq_true, if_false] at h1 h2
  simp only [decryptItem, decryptMerged_sealed A hA _ _ _ hk, hlen, ne_eq, not_true_eq_false, if_false, hv,
    decryptMerged_sealed A hA _ _ _ hval, Except.map, h1, h2, decryptMerged_sealed A hA _ _ _ ht,
    decryptMerged_sealed A hA _ _ _ hn, Rec.toEntry]

def migratedRow (pkey : Nat) (id : Nat) (r : Rec) : Item :=
  { id := id, pid := 1, key := pkey, kind := 2, cat := r.typ, name := r.name, value := r.value,
    tags := r.toEntry.tags, expiry := none }

theorem migrateRows_encoded (A : Aead) (hA : A.Correct) (utf8dec : Bytes → Option String)
    (keys : Keys) (pkey : Nat)
    (rows : List Row) (recs : List Rec) (h : Forall2 (RowEncodes A keys) rows recs) :
    ∀ (db : Db), (∀ r ∈ recs, RecDecodes utf8dec r) → recs.Pairwise (fun a b => ¬(a.typ = b.typ ∧ a.name = b.name)) →
      (∀ it ∈ db.items, ∀ r ∈ recs, ¬(it.pid = 1 ∧ it.cat = r.typ ∧ it.name = r.name)) →
      ∃ (db' : Db) (added : List Item), migrateRows A utf8dec keys pkey rows db = .ok db' ∧
        db'.items = db.items ++ added ∧ added.map toEntry = recs.map Rec.toEntry ∧
        (∀ it ∈ added, it.pid = 1 ∧ it.key = pkey ∧ it.expiry = none) ∧ db'.profiles = db.profiles := by
  induction h with
  | nil => intro db _ _ _; exact ⟨db, [], rfl, by simp, rfl, by simp, rfl⟩
  | @cons row r rows recs hrow _ ih =>
    intro db hU hpw hfresh
    have hUr := hU r (by simp)
    have hdec := decryptItem_encoded A hA utf8dec keys row r hrow hUr
    have hUt : utf8dec (utf8 r.typ) = some r.typ := hUr.1
    have hUn : utf8dec (utf8 r.name) = some r.name := hUr.2.1
    have hnodup : (db.items.any (·.sameIdent 1 pkey 2 r.typ r.name)) = false := by
      apply Bool.eq_false_iff.mpr
      intro hany
      obtain ⟨it, hit, hs⟩ := List.any_eq_true.mp hany
      have := (Askar.Store.Lemmas.sameIdent_iff it 1 pkey 2 r.typ r.name).mp hs
      exact hfresh it hit r (by simp) ⟨this.1, this.2.2.2.1, this.2.2.2.2⟩
    simp only [List.pairwise_cons] at hpw
    let newRow := migratedRow pkey (nextId (db.items.map (·.id))) r
    have hstep : insertMigrated utf8dec pkey db
        { id := row.id, typ := utf8 r.typ, name := utf8 r.name, value := some r.value, tags := r.toEntry.tags } =
        .ok { db with items := db.items ++ [newRow] } := by
      simp only [insertMigrated, hUt, hUn, Option.isSome_some, if_true, hnodup, Bool.false_eq_true, if_false,
        Option.getD_some, newRow, migratedRow]
    obtain ⟨db', added, hm, hitems, hmap, hall, hprof⟩ := ih { db with items := db.items ++ [newRow] }
      (fun r' hr' => hU r' (by simp [hr'])) hpw.2 (by
      intro it hit r' hr' hc
      simp only [List.mem_append, List.mem_singleton] at hit
      rcases hit with hit | rfl
      · exact hfresh it hit r' (by simp [hr']) hc
      · exact hpw.1 r' hr' ⟨hc.2.1, hc.2.2⟩)
    refine ⟨db', newRow :: added, ?_, ?_, ?_, ?_, hprof⟩
    · simp only [migrateRows, hdec, hstep, hm]
    · rw [hitems]; simp
    · simp only [List.map_cons, hmap]
      congr 1
    · intro it hit
      simp only [List.mem_cons] at hit
      rcases hit with rfl | hit
      · exact ⟨rfl, rfl, rfl⟩
      · exact hall it hit

theorem migrateRows_fresh (A : Aead) (hA : A.Correct) (utf8dec : Bytes → Option String) (keys : Keys) (pkey : Nat)
    (walletName : String) (rows : List Row) (recs : List Rec) (h : Forall2 (RowEncodes A keys) rows recs)
    (hU : ∀ r ∈ recs, RecDecodes utf8dec r) (huniq : recs.Pairwise (fun a b => ¬(a.typ = b.typ ∧ a.name = b.name))) :
    ∃ db', migrateRows A utf8dec keys pkey rows { profiles := [⟨1, walletName, pkey⟩] } = .ok db' ∧
      abs ⟨1, pkey⟩ db' = recs.map Rec.toEntry ∧ (∀ it ∈ db'.items, it.key = pkey ∧ it.expiry = none) ∧
      db'.profiles = [⟨1, walletName, pkey⟩] := by
  obtain ⟨db', added, hm, hitems, hmap, hall, hprof⟩ :=
    migrateRows_encoded A hA utf8dec keys pkey rows recs h { profiles := [⟨1, walletName, pkey⟩] } hU huniq (by simp)
  refine ⟨db', hm, ?_, ?_, hprof⟩
  · simp only [abs, hitems, List.nil_append]
    rw [List.filter_eq_self.mpr (by intro it hit; simp [(hall it hit).1]), hmap]
  · intro it hit
    simp only [hitems, List.nil_append] at hit
    exact ⟨(hall it hit).2.1, (hall it hit).2.2⟩

theorem migrate_rows_exact (A : Aead) (hA : A.Correct) (utf8dec : Bytes → Option String)
    (unwrapKeys : Bytes → Option Keys) (keys : Keys) (pkey : Nat)
    (w : Wallet) (walletName : String) (recs : List Rec)
    (hU : ∀ r ∈ recs, RecDecodes utf8dec r)
    (hfresh : w.migrated = false) (hkeys : unwrapKeys w.keysEnc = some keys)
    (henc : Forall2 (RowEncodes A keys) w.rows recs)
    (huniq : recs.Pairwise (fun a b => ¬(a.typ = b.typ ∧ a.name = b.name))) :
    ∃ st : StoreSt, migrate A utf8dec unwrapKeys pkey w walletName = .ok st ∧
      abs ⟨1, pkey⟩ st.db = recs.map Rec.toEntry ∧
      (∀ it ∈ st.db.items, it.key = pkey ∧ it.expiry = none) ∧
      st.db.profiles = [⟨1, walletName, pkey⟩] ∧ st.default = walletName ∧
      resolve st.db st.h walletName = .ok (⟨1, pkey⟩, st.h) := by
  obtain ⟨db', hm, habs, hall, hprof⟩ := migrateRows_fresh A hA utf8dec keys pkey walletName w.rows recs henc hU huniq
  refine ⟨{ db := db', h := { cache := [(walletName, 1, pkey)], nextKey := pkey + 1 }, default := walletName }, ?_, habs, hall,
    hprof, rfl, ?_⟩
  · simp only [migrate, hfresh, Bool.false_eq_true, if_false, hkeys, hm]
  · simp [resolve, cacheGet]

/-! ### `fetch_indy_key` -/

theorem masterKey_error (P : KeyPrims) (kdf : Kdf) (wk : String) (salt : Option Bytes) (e : Err)
    (h : masterKey P kdf wk salt = .error e) : e = .input := by
  unfold masterKey at h
  -- every failing branch says `Input`
  repeat' split at h
  all_goals cases h
  all_goals rfl

theorem fetchIndyKey_json (A : Aead) (P : KeyPrims) (kdf : Kdf) (wk : String) (keysEnc : Bytes) (salt : Option Bytes)
    (hs : ∀ s, salt = some s → saltLen ≤ s.length) :
    fetchIndyKey A P kdf wk (.json keysEnc salt) =
      match masterKey P kdf wk (salt.map (·.take saltLen)) with
      | .error e => .error e
      | .ok master =>
        if keysEnc.length < nonceLen then .error .input
        else
          match A.dec master (keysEnc.take nonceLen) (keysEnc.drop nonceLen) with
          | none => .error .input
          | some mpk =>
            match P.decodeKeys mpk with
            | none => .error .input
            | some keys => .ok keys := by
  cases salt with
  | none => rfl
  | some s =>
    simp only [fetchIndyKey, Nat.not_lt.mpr (hs s rfl), if_false, Option.map_some]
    rfl

theorem fetchIndyKey_error (A : Aead) (P : KeyPrims) (kdf : Kdf) (wk : String) (m : Meta) (e : Err)
    (h : fetchIndyKey A P kdf wk m = .error e) :
    (e = .backend ∧ m = .noRow) ∨ (e = .panic ∧ ∃ k s, m = .json k (some s) ∧ s.length < saltLen) ∨ e = .input := by
  cases m with
  | noRow => simp only [fetchIndyKey] at h; cases h; exact .inl ⟨rfl, rfl⟩
  | notJson => simp only [fetchIndyKey] at h; cases h; exact .inr (.inr rfl)
  | json k salt =>
    by_cases hs : ∀ s, salt = some s → saltLen ≤ s.length
    · rw [fetchIndyKey_json A P kdf wk k salt hs] at h
      refine .inr (.inr ?_)
      split at h
      · next hm => cases h; exact masterKey_error P kdf wk _ _ hm
      · -- past the master key every failing branch says `Input`
        repeat' split at h
        all_goals cases h
        all_goals rfl
    · obtain ⟨s, hss⟩ := Classical.not_forall.mp hs
      obtain ⟨rfl, hlt⟩ := Classical.not_imp.mp hss
      have hlt : s.length < saltLen := Nat.not_le.mp hlt
      simp only [fetchIndyKey, hlt, if_true] at h
      cases h
      exact .inr (.inl ⟨rfl, k, s, rfl, hlt⟩)

/-- the wallet key (or the method) does not open the key record: Input -/
theorem fetchIndyKey_wrong_key (A : Aead) (P : KeyPrims) (kdf : Kdf) (wk : String) (keysEnc : Bytes) (salt : Option Bytes)
    (master : Bytes) (hs : ∀ s, salt = some s → saltLen ≤ s.length)
    (hmaster : masterKey P kdf wk (salt.map (·.take saltLen)) = .ok master)
    (hdec : A.dec master (keysEnc.take nonceLen) (keysEnc.drop nonceLen) = none) :
    fetchIndyKey A P kdf wk (.json keysEnc salt) = .error .input := by
  rw [fetchIndyKey_json A P kdf wk keysEnc salt hs]
  simp only [hmaster, hdec]
  split <;> rfl

/-! ### `update_items` -/

theorem updateItems_inv (A : Aead) (u : Bytes → Option String) (keys : Keys) (pkey : Nat) (fault : Option Nat) :
    ∀ (rows : List Row) (db : Db), (updateItems A u keys pkey fault rows db).1 <:+ rows ∧
      ∀ p db', updateItems A u keys pkey fault rows db = (p, db', .ok ()) →
        p = [] ∧ migrateRows A u keys pkey rows db = .ok db' := by
  intro rows
  induction rows with
  | nil =>
    intro db
    refine ⟨List.suffix_refl _, fun p db' h => ?_⟩
    cases h
    exact ⟨rfl, rfl⟩
  | cons r rest ih =>
    intro db
    simp only [updateItems, migrateRows]
    split
    · exact ⟨List.suffix_refl _, fun p db' h => by cases h⟩
    · split
      · exact ⟨List.suffix_refl _, fun p db' h => by cases h⟩
      · split
        · exact ⟨List.suffix_refl _, fun p db' h => by cases h⟩
        · exact ⟨(ih _).1.trans (List.suffix_cons r rest), (ih _).2⟩

theorem updateItems_of_migrateRows (A : Aead) (u : Bytes → Option String) (keys : Keys) (pkey : Nat) :
    ∀ (rows : List Row) (db db' : Db), migrateRows A u keys pkey rows db = .ok db' →
      updateItems A u keys pkey none rows db = ([], db', .ok ()) := by
  intro rows
  induction rows with
  | nil => intro db db' h; simp only [migrateRows] at h; cases h; rfl
  | cons r rest ih =>
    intro db db' h
    simp only [migrateRows] at h
    simp only [updateItems]
    cases hdec : decryptItem A u keys r with
    | error e => rw [hdec] at h; cases h
    | ok it =>
      rw [hdec] at h
      simp only at h ⊢
      cases hins : insertMigrated u pkey db it with
      | error e => rw [hins] at h; cases h
      | ok db1 =>
        rw [hins] at h
        simp only at h ⊢
        have : ¬ ((none : Option Nat) = some r.id) := by simp
        simp only [this, if_false]
        exact ih _ _ h

/-! ### `migrate` on the file -/

/-- the store `migrate` writes when everything goes through -/
def finished (a : Args) (kdf : Kdf) (f : File) (db' : Db) : File :=
  { hasMeta := false, mval := .noRow, upgraded := true, pending := [],
    config := [("default_profile", a.walletName),
               ("key", keyUri kdf (match f.mval with | .json _ (some s) => some (s.take saltLen) | _ => none)),
               ("version", "1")],
    db := db' }

theorem finished_isAskar (a : Args) (kdf : Kdf) (f : File) (db' : Db) : (finished a kdf f db').isAskar := by
  simp [finished, File.isAskar]

/-- what the autocommit variant (`g = false`) leaves after a failure among the items: the Askar tables, the rows migrated
    so far, `config` without `version` -/
def stuckAt (a : Args) (kdf : Kdf) (f : File) (p' : List Row) (db' : Db) : File :=
  { f with upgraded := true, pending := p', db := db',
           config := [("default_profile", a.walletName),
                      ("key", keyUri kdf (match f.mval with | .json _ (some s) => some (s.take saltLen) | _ => none))] }

section Run
variable (g : Bool) (A : Aead) (u : Bytes → Option String) (P : KeyPrims) (fault : Option Nat) (a : Args) (f : File)

/-- refused before anything is written: a file without `metadata` (migrated, or never a wallet) or with the Askar tables
    already there (half migrated) — Backend; Input when the method name is invalid, since `connect` fails first -/
theorem migrateFile_refused (h : f.hasMeta = false ∨ f.upgraded = true) :
    migrateFile g A u P fault a f = (f, .error (if (Kdf.parse a.kdf).isSome then .backend else .input)) := by
  unfold migrateFile
  cases Kdf.parse a.kdf with
  | none => rfl
  | some kdf =>
    rcases h with h | h
    · simp [h]
    · cases hm : f.hasMeta <;> simp [h]

theorem migrateFile_eq (kdf : Kdf) (hk : Kdf.parse a.kdf = some kdf) (hm : f.hasMeta = true) (hu : f.upgraded = false) :
    migrateFile g A u P fault a f =
      match fetchIndyKey A P kdf a.walletKey f.mval with
      | .error e => (if g then f else { f with upgraded := true }, .error e)
      | .ok keys =>
        match updateItems A u keys a.pkey fault f.pending { profiles := [⟨1, a.walletName, a.pkey⟩] } with
        | (p', db', .error e) => (if g then f else stuckAt a kdf f p' db', .error e)
        | (_, db', .ok ()) => (finished a kdf f db', .ok ()) := by
  unfold migrateFile
  simp only [hk]
  rw [if_neg (by simp [hm]), if_neg (by simp [hu])]
  rfl

theorem migrateFile_of_key_error (kdf : Kdf) (e : Err) (hk : Kdf.parse a.kdf = some kdf)
    (hm : f.hasMeta = true) (hu : f.upgraded = false)
    (hf : fetchIndyKey A P kdf a.walletKey f.mval = .error e) :
    migrateFile g A u P fault a f = (if g then f else { f with upgraded := true }, .error e) := by
  rw [migrateFile_eq g A u P fault a f kdf hk hm hu, hf]

theorem migrateFile_of_items_ok (kdf : Kdf) (keys : Keys) (p' : List Row) (db' : Db)
    (hk : Kdf.parse a.kdf = some kdf) (hm : f.hasMeta = true) (hu : f.upgraded = false)
    (hf : fetchIndyKey A P kdf a.walletKey f.mval = .ok keys)
    (hup : updateItems A u keys a.pkey fault f.pending { profiles := [⟨1, a.walletName, a.pkey⟩] } = (p', db', .ok ())) :
    migrateFile g A u P fault a f = (finished a kdf f db', .ok ()) := by
  simp only [migrateFile_eq g A u P fault a f kdf hk hm hu, hf, hup]

/-- The three ways a run ends.  The middle case names the file `cur` that the autocommit variant leaves and says
    `f' = if g then f else cur`, so that one statement serves both variants and the facts about a partial migration are
    read off `cur`'s fields. -/
theorem migrateFile_cases {f' : File} {r : Except Err Unit} (h : migrateFile g A u P fault a f = (f', r)) :
    -- refused: bad method name, already migrated, or half migrated — nothing written
    (f' = f ∧ ((Kdf.parse a.kdf = none ∧ r = .error .input) ∨
       (Kdf.parse a.kdf ≠ none ∧ (f.hasMeta = false ∨ f.upgraded = true) ∧ r = .error .backend))) ∨
    -- failed after `pre_upgrade`
    (∃ kdf cur e, Kdf.parse a.kdf = some kdf ∧ f.hasMeta = true ∧ f.upgraded = false ∧
       f' = (if g then f else cur) ∧ r = .error e ∧
       cur.hasMeta = true ∧ cur.upgraded = true ∧ cur.mval = f.mval ∧ cur.pending <:+ f.pending ∧
       ((fetchIndyKey A P kdf a.walletKey f.mval = .error e ∧ cur = { f with upgraded := true }) ∨
        (∃ keys, fetchIndyKey A P kdf a.walletKey f.mval = .ok keys ∧
           (updateItems A u keys a.pkey fault f.pending { profiles := [⟨1, a.walletName, a.pkey⟩] }).2.2 = .error e))) ∨
    -- complete
    (∃ kdf keys db', Kdf.parse a.kdf = some kdf ∧ f.hasMeta = true ∧ f.upgraded = false ∧
       fetchIndyKey A P kdf a.walletKey f.mval = .ok keys ∧
       updateItems A u keys a.pkey fault f.pending { profiles := [⟨1, a.walletName, a.pkey⟩] } = ([], db', .ok ()) ∧
       f' = finished a kdf f db' ∧ r = .ok ()) := by
  cases hk : Kdf.parse a.kdf with
  | none =>
    simp only [migrateFile, hk] at h
    cases h
    exact .inl ⟨rfl, .inl ⟨rfl, rfl⟩⟩
  | some kdf =>
    by_cases hr : f.hasMeta = false ∨ f.upgraded = true
    · rw [migrateFile_refused g A u P fault a f hr, hk] at h
      cases h
      exact .inl ⟨rfl, .inr ⟨by simp, hr, rfl⟩⟩
    · have hm : f.hasMeta = true := by simpa using mt Or.inl hr
      have hu : f.upgraded = false := by simpa using mt Or.inr hr
      rw [migrateFile_eq g A u P fault a f kdf hk hm hu] at h
      cases hf : fetchIndyKey A P kdf a.walletKey f.mval with
      | error e =>
        simp only [hf] at h
        cases h
        exact .inr (.inl ⟨kdf, { f with upgraded := true }, e, rfl, hm, hu, rfl, rfl, hm, rfl, rfl, List.suffix_refl _,
          .inl ⟨hf, rfl⟩⟩)
      | ok keys =>
        have hinv := updateItems_inv A u keys a.pkey fault f.pending { profiles := [⟨1, a.walletName, a.pkey⟩] }
        simp only [hf] at h
        generalize hup : updateItems A u keys a.pkey fault f.pending { profiles := [⟨1, a.walletName, a.pkey⟩] } = res at h hinv
        obtain ⟨p', db', _ | ⟨⟨⟩⟩⟩ := res
        · cases h
          exact .inr (.inl ⟨kdf, stuckAt a kdf f p' db', _, rfl, hm, hu, rfl, rfl, hm, rfl, rfl, hinv.1, .inr ⟨keys, hf, by rw [hup]⟩⟩)
        · cases h
          obtain ⟨rfl, _⟩ := hinv.2 _ _ rfl
          exact .inr (.inr ⟨kdf, keys, db', rfl, hm, hu, hf, hup, rfl, rfl⟩)

end Run

/-! ### the two AEAD instances are correct (non-vacuity of `Aead.Correct`) -/

theorem toyAead_correct : toyAead.Correct := ⟨by
  intro k n m
  have h1 : (k ++ n ++ m).take (k.length + n.length) = k ++ n :=
    List.take_left' (l₁ := k ++ n) (l₂ := m) (List.length_append)
  have h2 : (k ++ n ++ m).drop (k.length + n.length) = m :=
    List.drop_left' (l₁ := k ++ n) (l₂ := m) (List.length_append)
  simp only [toyAead, h1, h2, beq_self_eq_true, if_true]⟩

theorem macAead_correct : macAead.Correct := ⟨by
  intro k n m
  have hl : (macOf k n m).length = tagLen := by simp [macOf]
  have h0 : ¬ (m ++ macOf k n m).length < tagLen := by simp [hl]
  have h1 : (m ++ macOf k n m).length - tagLen = m.length := by simp [hl]
  simp only [macAead, h0, if_false, h1, List.take_left', List.drop_left', beq_self_eq_true, if_true]⟩

end Lemmas
end Askar.Indy
