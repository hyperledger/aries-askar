/-
Tie 1: the two models of profiles and the key cache agree when ONE store handle acts.

  engine C07   `Askar.Store`        one handle `h` (cache + key counter), tables at the level of decrypted rows with row ids, kinds,
                                    byte values, expiry; `createProfile`, `removeProfile`, `resolve`, `ping`, `step`
  engine C07H  `Askar.TwoHandles`   shared tables (no item row ids, one kind, text values, no expiry, key counter in the database)
                                    + one cache PER handle; `createProfile`, `removeProfile`, `resolve`, `ping`, `openSession`,
                                    `scan`, `insert` … `removeAll`

What is related (`Sim`): the profile rows one to one (`liftProf`), the handle's cache entry by entry (`liftEntry`), the key counter
(`Store.Handle.nextKey` = `TwoHandles.Db.nextKey`), and the item rows one to one IN ORDER: a Store row is the TwoHandles row with
SOME row id (`ItemRel`: the TwoHandles model has no item ids, so the abstraction map `absDb` takes the id assignment as a
parameter), the fixed kind `E.kind`, no expiry, and the payload pushed through an arbitrary encoding `E` of values and tags.
The Store side's ids increase along the list (`Store.Sorted`, an invariant of every Store run).
-/
import AskarModel.Lemmas.TwoHandles
import AskarModel.Lemmas.Refine

namespace Askar.Ties.Profiles
open Askar

inductive All₂ {α β : Type} (R : α → β → Prop) : List α → List β → Prop
  | nil : All₂ R [] []
  | cons {a b l₁ l₂} : R a b → All₂ R l₁ l₂ → All₂ R (a :: l₁) (b :: l₂)

namespace All₂
variable {α β γ : Type} {R : α → β → Prop} {l₁ : List α} {l₂ : List β}

theorem any_eq {p : α → Bool} {q : β → Bool} (hpq : ∀ a b, R a b → p a = q b) (h : All₂ R l₁ l₂) :
    l₁.any p = l₂.any q := by
  induction h with
  | nil => rfl
  | cons hab _ ih => simp only [List.any_cons, hpq _ _ hab, ih]

theorem all_eq {p : α → Bool} {q : β → Bool} (hpq : ∀ a b, R a b → p a = q b) (h : All₂ R l₁ l₂) :
    l₁.all p = l₂.all q := by
  induction h with
  | nil => rfl
  | cons hab _ ih => simp only [List.all_cons, hpq _ _ hab, ih]

theorem filter {p : α → Bool} {q : β → Bool} (hpq : ∀ a b, R a b → p a = q b) (h : All₂ R l₁ l₂) :
    All₂ R (l₁.filter p) (l₂.filter q) := by
  induction h with
  | nil => exact .nil
  | @cons a b _ _ hab _ ih =>
    simp only [List.filter_cons, hpq _ _ hab]
    cases q b with
    | true => exact .cons hab ih
    | false => exact ih

theorem length_eq (h : All₂ R l₁ l₂) : l₁.length = l₂.length := by
  induction h with
  | nil => rfl
  | cons _ _ ih => simp [ih]

theorem map {α' β' : Type} {S : α' → β' → Prop} {f : α → α'} {g : β → β'} (hf : ∀ a b, R a b → S (f a) (g b))
    (h : All₂ R l₁ l₂) : All₂ S (l₁.map f) (l₂.map g) := by
  induction h with
  | nil => exact .nil
  | cons hab _ ih => exact .cons (hf _ _ hab) ih

theorem append {m₁ : List α} {m₂ : List β} (h : All₂ R l₁ l₂) (h' : All₂ R m₁ m₂) : All₂ R (l₁ ++ m₁) (l₂ ++ m₂) := by
  induction h with
  | nil => exact h'
  | cons hab _ ih => exact .cons hab ih

theorem map_eq {F : α → γ} {G : β → γ} (hFG : ∀ a b, R a b → F a = G b) (h : All₂ R l₁ l₂) : l₁.map F = l₂.map G := by
  induction h with
  | nil => rfl
  | cons hab _ ih => simp only [List.map_cons, hFG _ _ hab, ih]

theorem find?_map {p : α → Bool} {q : β → Bool} {F : α → γ} {G : β → γ} (hpq : ∀ a b, R a b → p a = q b)
    (hFG : ∀ a b, R a b → F a = G b) (h : All₂ R l₁ l₂) : (l₁.find? p).map F = (l₂.find? q).map G := by
  induction h with
  | nil => rfl
  | @cons a b _ _ hab _ ih =>
    simp only [List.find?_cons, hpq _ _ hab]
    cases q b with
    | true => simp only [Option.map_some, hFG _ _ hab]
    | false => exact ih

theorem mem_right (h : All₂ R l₁ l₂) {b : β} (hb : b ∈ l₂) : ∃ a ∈ l₁, R a b := by
  induction h with
  | nil => cases hb
  | cons hab _ ih =>
    rcases List.mem_cons.mp hb with rfl | hb'
    · exact ⟨_, List.mem_cons_self, hab⟩
    · obtain ⟨a, ha, hr⟩ := ih hb'
      exact ⟨a, List.mem_cons_of_mem _ ha, hr⟩

theorem mem_left (h : All₂ R l₁ l₂) {a : α} (ha : a ∈ l₁) : ∃ b ∈ l₂, R a b := by
  induction h with
  | nil => cases ha
  | cons hab _ ih =>
    rcases List.mem_cons.mp ha with rfl | ha'
    · exact ⟨_, List.mem_cons_self, hab⟩
    · obtain ⟨b, hb, hr⟩ := ih ha'
      exact ⟨b, List.mem_cons_of_mem _ hb, hr⟩

end All₂

/-! ## the abstraction -/

/-- how the payload of a TwoHandles record (text value, `(plain?, name, value)` tags, no kind) is read as a Store record:
    ANY encoding — the theorems hold for all of them -/
structure Enc where
  kind : Store.Kind
  val : String → Bytes
  tag : Nat × String × String → Wql.Tag

def liftErr : TwoHandles.Err → Store.Err
  | .notFound => .notFound | .duplicate => .duplicate | .backend => .backend | .encryption => .encryption

def liftSess (s : TwoHandles.Sess) : Store.Sess := ⟨s.pid, s.key⟩

def liftProf (r : TwoHandles.ProfRow) : Store.Profile := ⟨r.id, r.name, r.key⟩

def liftEntry (e : TwoHandles.CacheEntry) : String × Nat × Nat := (e.name, e.pid, e.key)

def liftRec (E : Enc) (r : TwoHandles.Rec) : Store.Entry := ⟨E.kind, r.cat, r.name, E.val r.value, r.tags.map E.tag⟩

def liftItem (E : Enc) (id : Nat) (it : TwoHandles.Item) : Store.Item :=
  { id := id, pid := it.pid, key := it.key, kind := E.kind, cat := it.data.cat, name := it.data.name,
    value := E.val it.data.value, tags := it.data.tags.map E.tag, expiry := none }

/-- `b` is the row `a` under some row id -/
def ItemRel (E : Enc) (a : TwoHandles.Item) (b : Store.Item) : Prop := b = liftItem E b.id a

def absHandle (h : TwoHandles.Handle) (db : TwoHandles.Db) : Store.Handle :=
  { cache := h.cache.map liftEntry, nextKey := db.nextKey }

/-- the abstraction map for the item row ids `ids` (TwoHandles rows carry none) -/
def absDb (E : Enc) (ids : List Nat) (db : TwoHandles.Db) : Store.Db :=
  { items := List.zipWith (liftItem E) ids db.items, profiles := db.profiles.map liftProf }

/-- the simulation relation: `(sdb, sh)` is the image of `(db, h's cache)` for SOME increasing assignment of item row ids.
    The handle component is an equation (`sh` is a function of `h` and `db`): the store-level lemmas substitute it first. -/
structure Sim (E : Enc) (h : TwoHandles.Handle) (db : TwoHandles.Db) (sdb : Store.Db) (sh : Store.Handle) : Prop where
  profiles : sdb.profiles = db.profiles.map liftProf
  items : All₂ (ItemRel E) db.items sdb.items
  sorted : Store.Sorted sdb
  handle : sh = absHandle h db

theorem all₂_zipWith (E : Enc) : ∀ (ids : List Nat) (items : List TwoHandles.Item), ids.length = items.length →
    All₂ (ItemRel E) items (List.zipWith (liftItem E) ids items)
  | [], [], _ => .nil
  | i :: ids, a :: items, h => .cons rfl (all₂_zipWith E ids items (by simpa using h))
  | [], _ :: _, h => by simp at h
  | _ :: _, [], h => by simp at h

theorem ids_zipWith (E : Enc) : ∀ (ids : List Nat) (items : List TwoHandles.Item), ids.length = items.length →
    (List.zipWith (liftItem E) ids items).map (·.id) = ids
  | [], [], _ => rfl
  | i :: ids, a :: items, h => by
    simp only [List.zipWith_cons_cons, List.map_cons, ids_zipWith E ids items (by simpa using h)]
    rfl
  | [], _ :: _, h => by simp at h
  | _ :: _, [], h => by simp at h

inductive ItemCall
  | insert (r : TwoHandles.Rec)
  | replace (r : TwoHandles.Rec)
  | remove (c n : String)
  | fetch (c n : String)
  | fetchAll (cat : Option String)
  | count (cat : Option String)
  | removeAll (cat : Option String)
  deriving Repr, DecidableEq

inductive TOut
  | ok
  | err (e : TwoHandles.Err)
  | removed (b : Bool)
  | sess (s : TwoHandles.Sess)
  | one (r : Option TwoHandles.Rec)
  | recs (rs : List TwoHandles.Rec)
  | count (n : Nat)
  | scanned (rs : List TwoHandles.Rec)
  deriving Repr, DecidableEq

inductive SOut
  | removed (b : Bool)
  | sess (s : Store.Sess)
  | out (o : Store.Out)
  deriving Repr

/-- outputs are compared through the payload encoding; a scan is reported in pages of `page` rows by the Store model -/
def liftOut (E : Enc) (page : Nat) : TOut → SOut
  | .ok => .out .ok
  | .err e => .out (.err (liftErr e))
  | .removed b => .removed b
  | .sess s => .sess (liftSess s)
  | .one r => .out (.entry (r.map (liftRec E)))
  | .recs rs => .out (.entries (rs.map (liftRec E)))
  | .count n => .out (.count n)
  | .scanned rs => .out (.pages (Store.batches page (rs.map (liftRec E))))

/-- the Store-model call of a TwoHandles item call: kind `E.kind`, no expiry, no tag filter, no window -/
def toOp (E : Enc) : ItemCall → Store.Op
  | .insert r => .insert E.kind r.cat r.name (E.val r.value) (some (r.tags.map E.tag)) none
  | .replace r => .replace E.kind r.cat r.name (E.val r.value) (some (r.tags.map E.tag)) none
  | .remove c n => .remove E.kind c n
  | .fetch c n => .fetch E.kind c n
  | .fetchAll cat => .fetchAll none cat none none false
  | .count cat => .count none cat none
  | .removeAll cat => .removeAll none cat none

def thItem (s : TwoHandles.Sess) (db : TwoHandles.Db) : ItemCall → TwoHandles.Db × TOut
  | .insert r => match TwoHandles.insert s db r with | .ok db' => (db', .ok) | .error e => (db, .err e)
  | .replace r => match TwoHandles.replace s db r with | .ok db' => (db', .ok) | .error e => (db, .err e)
  | .remove c n => match TwoHandles.remove s db c n with | .ok db' => (db', .ok) | .error e => (db, .err e)
  | .fetch c n => (db, .one (TwoHandles.fetch s db c n))
  | .fetchAll cat => match TwoHandles.fetchAll s db cat with | .ok rs => (db, .recs rs) | .error e => (db, .err e)
  | .count cat => (db, .count (TwoHandles.count s db cat))
  | .removeAll cat => ((TwoHandles.removeAll s db cat).1, .count (TwoHandles.removeAll s db cat).2)

/-- the only call on which the two models can differ: an insert through a pair whose profile row is gone -/
def ItemCall.needsParent : ItemCall → Bool
  | .insert _ => true
  | _ => false

theorem beq_dec {α : Type} [BEq α] [LawfulBEq α] [DecidableEq α] (a b : α) : (a == b) = decide (a = b) := by
  by_cases h : a = b <;> simp [h]

theorem decryptRows_eq (key : Nat) (l : List Store.Item) :
    Store.decryptRows key l = if l.all (fun it => it.key == key) then .ok (l.map Store.toEntry) else .error .encryption := by
  induction l with
  | nil => rfl
  | cons x l ih =>
    simp only [Store.decryptRows, ih, Store.decryptRow, List.all_cons, List.map_cons]
    cases x.key == key <;> cases l.all (fun it => it.key == key) <;> rfl

theorem matchFilter_none (like : Bytes → Bytes → Bool) (b : Store.Item) : Store.matchFilter like none b = true := by
  simp [Store.matchFilter, Store.matchTags]

theorem doFetch_eq (db : Store.Db) (now : Int) (s : Store.Sess) (k : Store.Kind) (c n : String) :
    Store.doFetch db now s k c n =
      (db.items.find? fun it => it.sameIdent s.pid s.key k c n && Store.live now it).map Store.toEntry := by
  unfold Store.doFetch
  cases db.items.find? fun it => it.sameIdent s.pid s.key k c n && Store.live now it <;> rfl

section ItemCalls
variable (E : Enc) (like : Bytes → Bytes → Bool) (page : Nat) (now : Int) (s : TwoHandles.Sess)
  {a : TwoHandles.Item} {b : Store.Item} {db : TwoHandles.Db} {sdb : Store.Db}

theorem hits_eq (c n : String) (hab : ItemRel E a b) : TwoHandles.hits s c n a = b.sameIdent s.pid s.key E.kind c n := by
  rw [hab]
  simp [TwoHandles.hits, Store.Item.sameIdent, liftItem, Bool.and_assoc, beq_dec]

theorem inScope_eq (cat : Option String) (hab : ItemRel E a b) :
    TwoHandles.inScope s cat a = b.inScope s.pid s.key none cat := by
  rw [hab]
  cases cat <;> simp [TwoHandles.inScope, Store.Item.inScope, liftItem, beq_dec]

theorem live_rel (hab : ItemRel E a b) : Store.live now b = true := by
  rw [hab]; rfl

theorem toEntry_rel (hab : ItemRel E a b) : liftRec E a.data = Store.toEntry b := by
  rw [hab]; rfl

theorem scopeFilter_eq (cat : Option String) (hab : ItemRel E a b) :
    TwoHandles.inScope s cat a = (b.inScope s.pid s.key none cat && Store.live now b && Store.matchFilter like none b) := by
  rw [inScope_eq E s cat hab, live_rel E now hab, matchFilter_none, Bool.and_true, Bool.and_true]

theorem rows_tie (cat : Option String) (hi : All₂ (ItemRel E) db.items sdb.items) (hsorted : Store.Sorted sdb) :
    Store.decryptRows s.key (Store.selectRows like sdb now s.pid s.key none cat none none none false) =
      match TwoHandles.fetchAll s db cat with
      | .ok rs => .ok (rs.map (liftRec E))
      | .error e => .error (liftErr e) := by
  have hf := hi.filter (p := TwoHandles.inScope s cat)
    (q := fun it => it.inScope s.pid s.key none cat && Store.live now it && Store.matchFilter like none it)
    (fun a b hab => scopeFilter_eq E like now s cat hab)
  have hsel : Store.selectRows like sdb now s.pid s.key none cat none none none false =
      sdb.items.filter (fun it => it.inScope s.pid s.key none cat && Store.live now it && Store.matchFilter like none it) := by
    simp only [Store.selectRows, Store.window, Bool.false_eq_true, if_false]
    exact Store.sortById_filter hsorted _
  rw [hsel, decryptRows_eq]
  have hall := hf.all_eq (p := fun it => decide (it.key = s.key)) (q := fun it => it.key == s.key)
    (fun a b hab => by rw [hab]; simp [liftItem, beq_dec])
  have hmap := hf.map_eq (F := fun a => liftRec E a.data) (G := Store.toEntry) (fun a b hab => toEntry_rel E hab)
  unfold TwoHandles.fetchAll
  simp only
  rw [hall]
  split
  · simp only [List.map_map]
    rw [← hmap]
    rfl
  · rfl

theorem any_hits (hi : All₂ (ItemRel E) db.items sdb.items) (c n : String) :
    db.items.any (TwoHandles.hits s c n) = sdb.items.any (fun it => it.sameIdent s.pid s.key E.kind c n) :=
  hi.any_eq (fun _ _ hab => hits_eq E s c n hab)

/-- Each case is the same list operation on both sides (append one row / map / filter / find / count), compared through
    `ItemRel`. -/
theorem item_rows (hi : All₂ (ItemRel E) db.items sdb.items) (hsorted : Store.Sorted sdb) (c : ItemCall) (hfk : c.needsParent = true → db.hasId s.pid = true) :
    All₂ (ItemRel E) (thItem s db c).1.items (Store.step like page now (liftSess s) sdb (toOp E c)).1.items ∧
    SOut.out (Store.step like page now (liftSess s) sdb (toOp E c)).2 = liftOut E page (thItem s db c).2 := by
  cases c with
  | insert r =>
    simp only [toOp, Store.step, Store.Lemmas.doInsert_none, liftSess, ← any_hits E s hi r.cat r.name, thItem,
      TwoHandles.insert, hfk rfl, if_true]
    cases db.items.any (TwoHandles.hits s r.cat r.name) with
    | true => exact ⟨hi, rfl⟩
    | false => exact ⟨hi.append (.cons rfl .nil), rfl⟩
  | replace r =>
    simp only [toOp, Store.step, Store.Lemmas.doReplace_none, liftSess, ← any_hits E s hi r.cat r.name, thItem,
      TwoHandles.replace]
    by_cases hd : db.items.any (TwoHandles.hits s r.cat r.name) = true
    · simp only [hd, if_true]
      refine ⟨hi.map ?_, rfl⟩
      intro a b hab
      rw [← hits_eq E s r.cat r.name hab]
      by_cases hh : TwoHandles.hits s r.cat r.name a = true
      · -- a row that is hit already has the new category and name
        simp only [hh, if_true]
        have hcn : a.data.cat = r.cat ∧ a.data.name = r.name := by
          simp [TwoHandles.hits] at hh; exact ⟨hh.1.2, hh.2⟩
        unfold ItemRel at hab ⊢
        rw [hab]
        simp [liftItem, hcn.1, hcn.2]
      · simp only [hh, Bool.false_eq_true, if_false]
        exact hab
    · simp only [hd, Bool.false_eq_true, if_false]
      exact ⟨hi, rfl⟩
  | remove c n =>
    simp only [toOp, Store.step, Store.doRemove, liftSess, ← any_hits E s hi c n, thItem, TwoHandles.remove]
    by_cases hd : db.items.any (TwoHandles.hits s c n) = true
    · simp only [hd, if_true]
      exact ⟨hi.filter (p := fun it => !TwoHandles.hits s c n it) (q := fun it => !it.sameIdent s.pid s.key E.kind c n)
        (fun a b hab => by rw [hits_eq E s c n hab]), rfl⟩
    · simp only [hd, Bool.false_eq_true, if_false]
      exact ⟨hi, rfl⟩
  | removeAll cat =>
    have hq : ∀ a b, ItemRel E a b →
        TwoHandles.inScope s cat a = (b.inScope s.pid s.key none cat && Store.matchFilter like none b) :=
      fun a b hab => by rw [inScope_eq E s cat hab, matchFilter_none, Bool.and_true]
    simp only [toOp, Store.step, Store.doRemoveAll, liftSess, thItem, TwoHandles.removeAll, TwoHandles.count, liftOut]
    refine ⟨hi.filter (p := fun it => !TwoHandles.inScope s cat it)
      (q := fun it => !(it.inScope s.pid s.key none cat && Store.matchFilter like none it))
      (fun a b hab => by rw [hq a b hab]), ?_⟩
    congr 2
    exact (hi.filter hq).length_eq.symm
  | fetch c n =>
    simp only [toOp, Store.step, doFetch_eq, liftSess, thItem, TwoHandles.fetch, liftOut, Option.map_map]
    refine ⟨hi, ?_⟩
    congr 2
    exact hi.find?_map (p := TwoHandles.hits s c n)
      (q := fun it => it.sameIdent s.pid s.key E.kind c n && Store.live now it)
      (F := fun a => liftRec E a.data) (G := Store.toEntry)
      (fun a b hab => by rw [hits_eq E s c n hab, live_rel E now hab, Bool.and_true])
      (fun a b hab => toEntry_rel E hab) |>.symm
  | count cat =>
    simp only [toOp, Store.step, Store.doCount, liftSess, thItem, TwoHandles.count, liftOut]
    refine ⟨hi, ?_⟩
    congr 2
    exact (hi.filter (fun a b hab => scopeFilter_eq E like now s cat hab)).length_eq.symm
  | fetchAll cat =>
    simp only [toOp, Store.step, Store.doFetchAll, liftSess, thItem, rows_tie E like now s cat hi hsorted]
    cases TwoHandles.fetchAll s db cat <;> exact ⟨hi, rfl⟩

end ItemCalls

theorem sim_items {E : Enc} {h : TwoHandles.Handle} {db db' : TwoHandles.Db} {sdb sdb' : Store.Db} {sh : Store.Handle}
    (hs : Sim E h db sdb sh) (hp : db'.profiles = db.profiles) (hk : db'.nextKey = db.nextKey)
    (hp' : sdb'.profiles = sdb.profiles) (hi : All₂ (ItemRel E) db'.items sdb'.items) (hsorted : Store.Sorted sdb') :
    Sim E h db' sdb' sh where
  profiles := by rw [hp', hp, hs.profiles]
  items := hi
  sorted := hsorted
  handle := by rw [hs.handle]; simp [absHandle, hk]

theorem thItem_shape (s : TwoHandles.Sess) (db : TwoHandles.Db) (c : ItemCall) :
    ∃ items, (thItem s db c).1 = { db with items := items } ∧
      ∀ it ∈ items, (∃ it0 ∈ db.items, it.pid = it0.pid ∧ it.key = it0.key) ∨ (it.pid = s.pid ∧ it.key = s.key) := by
  have same : ∃ items, db = { db with items := items } ∧
      ∀ it ∈ items, (∃ it0 ∈ db.items, it.pid = it0.pid ∧ it.key = it0.key) ∨ (it.pid = s.pid ∧ it.key = s.key) :=
    ⟨db.items, rfl, fun it hit => Or.inl ⟨it, hit, rfl, rfl⟩⟩
  cases c with
  | insert r =>
    simp only [thItem]
    cases hi : TwoHandles.insert s db r with
    | error e => exact same
    | ok db' =>
      obtain ⟨_, _, rfl⟩ := (TwoHandles.insert_ok_iff s db db' r).mp hi
      refine ⟨_, rfl, fun it hit => ?_⟩
      rcases List.mem_append.mp hit with h | h
      · exact Or.inl ⟨it, h, rfl, rfl⟩
      · rw [List.mem_singleton.mp h]; exact Or.inr ⟨rfl, rfl⟩
  | replace r =>
    simp only [thItem]
    cases hi : TwoHandles.replace s db r with
    | error e => exact same
    | ok db' =>
      obtain ⟨_, rfl⟩ := (TwoHandles.replace_ok_iff s db db' r).mp hi
      refine ⟨_, rfl, fun it hit => ?_⟩
      obtain ⟨it0, h0, rfl⟩ := List.mem_map.mp hit
      exact Or.inl ⟨it0, h0, by split <;> exact ⟨rfl, rfl⟩⟩
  | remove c n =>
    simp only [thItem]
    cases hi : TwoHandles.remove s db c n with
    | error e => exact same
    | ok db' =>
      obtain ⟨_, rfl⟩ := (TwoHandles.remove_ok_iff s db db' c n).mp hi
      exact ⟨_, rfl, fun it hit => Or.inl ⟨it, (List.mem_filter.mp hit).1, rfl, rfl⟩⟩
  | fetch c n => exact same
  | fetchAll cat => simp only [thItem]; cases TwoHandles.fetchAll s db cat <;> exact same
  | count cat => exact same
  | removeAll cat => exact ⟨_, rfl, fun it hit => Or.inl ⟨it, (List.mem_filter.mp hit).1, rfl, rfl⟩⟩

theorem thItem_frame (s : TwoHandles.Sess) (db : TwoHandles.Db) (c : ItemCall) :
    (thItem s db c).1.profiles = db.profiles ∧ (thItem s db c).1.nextKey = db.nextKey := by
  obtain ⟨items, he, _⟩ := thItem_shape s db c
  rw [he]
  exact ⟨rfl, rfl⟩

/-- One item call through any pair `s` — opened now, or held for however long.  The side condition concerns `insert`
    alone: the profile row with the pair's id must still exist (it does for every session `Store::session` has just handed
    out: the ping); without it the models differ (`Askar.Ties.insert_without_parent_row_differs`). -/
theorem item_refines (E : Enc) (like : Bytes → Bytes → Bool) (page : Nat) (now : Int) (s : TwoHandles.Sess)
    {h : TwoHandles.Handle} {db : TwoHandles.Db} {sdb : Store.Db} {sh : Store.Handle} (hs : Sim E h db sdb sh)
    (c : ItemCall) (hfk : c.needsParent = true → db.hasId s.pid = true) :
    Sim E h (thItem s db c).1 (Store.step like page now (liftSess s) sdb (toOp E c)).1 sh ∧
    SOut.out (Store.step like page now (liftSess s) sdb (toOp E c)).2 = liftOut E page (thItem s db c).2 := by
  have hr := item_rows E like page now s hs.items hs.sorted c hfk
  have hfr := thItem_frame s db c
  exact ⟨sim_items hs hfr.1 hfr.2 (Store.step_effect like page now (liftSess s) sdb (toOp E c)).frame.2 hr.1
    (Store.step_sorted like page now (liftSess s) sdb (toOp E c) hs.sorted), hr.2⟩

/-! ## store-level calls: tables and cache under the map -/

theorem foldl_max_ids (ps : List TwoHandles.ProfRow) (a : Nat) :
    List.foldl max a ((ps.map liftProf).map (·.id)) = max a (TwoHandles.maxId ps) := by
  induction ps generalizing a with
  | nil => simp [TwoHandles.maxId]
  | cons r rs ih =>
    simp only [List.map_cons, List.foldl_cons, ih, TwoHandles.maxId, liftProf]
    exact Nat.max_assoc _ _ _

/-- both models allocate `max(id) + 1` -/
theorem nextId_eq (db : TwoHandles.Db) : Store.nextId ((db.profiles.map liftProf).map (·.id)) = db.newRowId := by
  unfold Store.nextId TwoHandles.Db.newRowId
  rw [foldl_max_ids, Nat.zero_max]

theorem find_name_eq (db : TwoHandles.Db) (n : String) :
    (db.profiles.map liftProf).find? (fun p => p.name == n) = (db.rowByName n).map liftProf := by
  unfold TwoHandles.Db.rowByName
  rw [List.find?_map]
  rfl

theorem any_name_eq (db : TwoHandles.Db) (n : String) :
    (db.profiles.map liftProf).any (fun p => p.name == n) = (db.rowByName n).isSome := by
  rw [← Option.isSome_map (f := liftProf), ← find_name_eq, Bool.eq_iff_iff, List.any_eq_true, List.find?_isSome]

theorem any_id_eq (db : TwoHandles.Db) (p : Nat) : (db.profiles.map liftProf).any (fun q => q.id == p) = db.hasId p := by
  unfold TwoHandles.Db.hasId
  rw [List.any_map]
  rfl

theorem cacheGet_eq (c : List TwoHandles.CacheEntry) (n : String) :
    Store.cacheGet (c.map liftEntry) n = (TwoHandles.cacheGet c n).map (fun e => (e.pid, e.key)) := by
  unfold Store.cacheGet TwoHandles.cacheGet
  rw [List.find?_map, Option.map_map]
  rfl

theorem cacheDel_eq (c : List TwoHandles.CacheEntry) (n : String) :
    (c.map liftEntry).filter (fun x => x.1 != n) = (TwoHandles.cacheDel c n).map liftEntry := by
  unfold TwoHandles.cacheDel
  rw [List.filter_map]
  congr 2
  funext e
  by_cases h : e.name = n <;> simp [h, liftEntry]

theorem cachePut_eq (c : List TwoHandles.CacheEntry) (n : String) (p k : Nat) :
    Store.cachePut (c.map liftEntry) n (p, k) = (TwoHandles.cachePut c n p k).map liftEntry := by
  unfold Store.cachePut TwoHandles.cachePut
  rw [List.map_cons, cacheDel_eq]
  rfl

section StoreCalls
variable {E : Enc} {h : TwoHandles.Handle} {db : TwoHandles.Db} {sdb : Store.Db} {sh : Store.Handle}

theorem sim_handle (hs : Sim E h db sdb sh) (h' : TwoHandles.Handle) : Sim E h' db sdb (absHandle h' db) :=
  ⟨hs.profiles, hs.items, hs.sorted, rfl⟩

theorem create_tie_dup (hs : Sim E h db sdb sh) {n : String} {row : TwoHandles.ProfRow} (hr : db.rowByName n = some row) :
    Store.createProfile sdb sh n = .error .duplicate := by
  unfold Store.createProfile
  rw [hs.profiles, any_name_eq, hr]
  rfl

theorem create_tie_new (hs : Sim E h db sdb sh) {n : String} (hr : db.rowByName n = none) :
    ∃ sdb' sh', Store.createProfile sdb sh n = .ok (sdb', sh') ∧
      Sim E { h with cache := TwoHandles.cachePut h.cache n db.newRowId db.nextKey }
        { db with profiles := db.profiles ++ [⟨db.newRowId, n, db.nextKey⟩], nextKey := db.nextKey + 1 } sdb' sh' := by
  have hsh := hs.handle
  subst hsh
  unfold Store.createProfile
  rw [hs.profiles, any_name_eq, hr]
  refine ⟨_, _, rfl, ?_, hs.items, hs.sorted, ?_⟩
  · simp only [nextId_eq, absHandle, List.map_append, List.map_cons, List.map_nil, liftProf]
  · simp only [absHandle, nextId_eq, cachePut_eq]

/-! ### remove_profile

Stated for the literal `true` (eviction); `step_refines` gets here by unfolding `Store.evictOnRemove`, so its `remove` case is
where a flip of that constant shows. -/

theorem remove_tie (hs : Sim E h db sdb sh) (n : String) :
    Sim E (TwoHandles.removeProfile h db n).1 (TwoHandles.removeProfile h db n).2.1
      (Store.removeProfile sdb sh n true).1.1 (Store.removeProfile sdb sh n true).1.2 ∧
    (Store.removeProfile sdb sh n true).2 = (TwoHandles.removeProfile h db n).2.2 := by
  have hsh := hs.handle
  subst hsh
  unfold TwoHandles.removeProfile Store.removeProfile
  rw [hs.profiles, find_name_eq]
  cases hr : db.rowByName n with
  | none =>
    simp only [Option.map_none, if_true]
    exact ⟨⟨hs.profiles, hs.items, hs.sorted, by simp only [absHandle, cacheDel_eq]⟩, trivial⟩
  | some row =>
    simp only [Option.map_some, if_true]
    refine ⟨⟨?_, ?_, ?_, ?_⟩, trivial⟩
    · show (db.profiles.map liftProf).filter (fun p => p.name != n) = (db.profiles.filter fun r => decide (r.name ≠ n)).map liftProf
      rw [List.filter_map]
      congr 2
      funext r
      by_cases h : r.name = n <;> simp [h, liftProf]
    · exact hs.items.filter (p := fun it => decide (it.pid ≠ row.id)) (q := fun it => it.pid != (liftProf row).id)
        (fun a b hab => by rw [hab]; simp [liftItem, liftProf, bne, beq_dec])
    · exact Store.sorted_filter _ _ hs.sorted
    · simp only [absHandle, cacheDel_eq]

/-- `resolve_profile_key` without validation (`validate = false`) -/
theorem resolve_tie (hs : Sim E h db sdb sh) (n : String) :
    (Store.resolve sdb sh n = match (TwoHandles.resolve false h db n).2 with
      | .ok s => .ok (liftSess s, absHandle (TwoHandles.resolve false h db n).1 db)
      | .error e => .error (liftErr e)) ∧
    ∀ e, (TwoHandles.resolve false h db n).2 = .error e → (TwoHandles.resolve false h db n).1 = h := by
  have hsh := hs.handle
  subst hsh
  unfold TwoHandles.resolve Store.resolve
  simp only [Bool.false_eq_true, if_false, absHandle, cacheGet_eq]
  cases hc : TwoHandles.cacheGet h.cache n with
  | some e => simp [liftSess]
  | none =>
    simp only [Option.map_none, hs.profiles, find_name_eq]
    cases hr : db.rowByName n with
    | none => simp [liftErr]
    | some row => simp [liftSess, liftProf, cachePut_eq]

theorem ping_tie (hs : Sim E h db sdb sh) (s : TwoHandles.Sess) :
    Store.ping sdb (liftSess s) = if TwoHandles.ping db s = true then .ok () else .error .notFound := by
  unfold Store.ping TwoHandles.ping
  rw [hs.profiles, liftSess, any_id_eq]

/-- `Store::session` in the Store model's vocabulary: `resolve` through the handle, then `ping` -/
def storeOpen (sdb : Store.Db) (sh : Store.Handle) (name : String) : Store.Handle × Except Store.Err Store.Sess :=
  match Store.resolve sdb sh name with
  | .error e => (sh, .error e)
  | .ok (s, sh') =>
    match Store.ping sdb s with
    | .ok _ => (sh', .ok s)
    | .error e => (sh', .error e)

theorem open_tie (hs : Sim E h db sdb sh) (p : Option String) :
    storeOpen sdb sh (p.getD h.active) =
      (absHandle (TwoHandles.openSession false h db p).1 db,
       match (TwoHandles.openSession false h db p).2 with
       | .ok s => .ok (liftSess s)
       | .error e => .error (liftErr e)) := by
  obtain ⟨hr, herr⟩ := resolve_tie hs (p.getD h.active)
  unfold storeOpen
  rw [hr, TwoHandles.openSession_eq]
  cases hres : (TwoHandles.resolve false h db (p.getD h.active)).2 with
  | error e => simp only [herr e hres, hs.handle]
  | ok s =>
    simp only [ping_tie hs s]
    cases TwoHandles.ping db s <;> rfl

theorem scan_tie (like : Bytes → Bytes → Bool) (page : Nat) (now : Int) (hs : Sim E h db sdb sh)
    (s : TwoHandles.Sess) (cat : Option String) :
    (Store.step like page now (liftSess s) sdb (.scan none cat none none none false)).2 =
      match TwoHandles.fetchAll s db cat with
      | .ok rs => .pages (Store.batches page (rs.map (liftRec E)))
      | .error e => .err (liftErr e) := by
  have := rows_tie E like now s cat hs.items hs.sorted
  simp only [Store.step, Store.doScan, liftSess, this]
  cases TwoHandles.fetchAll s db cat with
  | ok rs => simp only [Store.drain_batches]
  | error e => rfl

end StoreCalls

/-! ## histories of ONE handle -/

/-- a call of the single handle.  `item p c` is `Store::session(p)` (resolve + ping), the call `c`, drop — the session is
    opened for the call; calls through a pair held for longer are covered by `item_refines`. -/
inductive Call
  | create (n : String)
  | remove (n : String)
  | openSession (p : Option String)
  | scan (p : Option String) (cat : Option String)
  | item (p : Option String) (c : ItemCall)
  deriving Repr, DecidableEq

/-- one call in the TwoHandles model (`resolve_profile_key` with `validate = false`) -/
def thStep (st : TwoHandles.Handle × TwoHandles.Db) : Call → (TwoHandles.Handle × TwoHandles.Db) × TOut
  | .create n =>
    (((TwoHandles.createProfile st.1 st.2 n).1, (TwoHandles.createProfile st.1 st.2 n).2.1),
     match (TwoHandles.createProfile st.1 st.2 n).2.2 with | .ok _ => .ok | .error e => .err e)
  | .remove n =>
    (((TwoHandles.removeProfile st.1 st.2 n).1, (TwoHandles.removeProfile st.1 st.2 n).2.1),
     .removed (TwoHandles.removeProfile st.1 st.2 n).2.2)
  | .openSession p =>
    (((TwoHandles.openSession false st.1 st.2 p).1, st.2),
     match (TwoHandles.openSession false st.1 st.2 p).2 with | .ok s => .sess s | .error e => .err e)
  | .scan p cat =>
    (((TwoHandles.scan false st.1 st.2 p cat).1, st.2),
     match (TwoHandles.scan false st.1 st.2 p cat).2 with | .ok rs => .scanned rs | .error e => .err e)
  | .item p c =>
    match (TwoHandles.openSession false st.1 st.2 p).2 with
    | .error e => (((TwoHandles.openSession false st.1 st.2 p).1, st.2), .err e)
    | .ok s => (((TwoHandles.openSession false st.1 st.2 p).1, (thItem s st.2 c).1), (thItem s st.2 c).2)

/-- the same call in the Store model: `createProfile` / `removeProfile` (eviction as `Store.evictOnRemove` says) / `resolve` / `ping` /
    `step`; `act` is the handle's active profile name (the Store model leaves it to its driver) -/
def storeStep (E : Enc) (like : Bytes → Bytes → Bool) (page : Nat) (now : Int) (act : String) (st : Store.Db × Store.Handle) :
    Call → (Store.Db × Store.Handle) × SOut
  | .create n =>
    match Store.createProfile st.1 st.2 n with
    | .ok r => (r, .out .ok)
    | .error e => (st, .out (.err e))
  | .remove n =>
    ((Store.removeProfile st.1 st.2 n Store.evictOnRemove).1, .removed (Store.removeProfile st.1 st.2 n Store.evictOnRemove).2)
  | .openSession p =>
    ((st.1, (storeOpen st.1 st.2 (p.getD act)).1),
     match (storeOpen st.1 st.2 (p.getD act)).2 with | .ok s => .sess s | .error e => .out (.err e))
  | .scan p cat =>
    match Store.resolve st.1 st.2 (p.getD act) with
    | .error e => (st, .out (.err e))
    | .ok (s, h') => ((st.1, h'), .out (Store.step like page now s st.1 (.scan none cat none none none false)).2)
  | .item p c =>
    match (storeOpen st.1 st.2 (p.getD act)).2 with
    | .error e => ((st.1, (storeOpen st.1 st.2 (p.getD act)).1), .out (.err e))
    | .ok s =>
      (((Store.step like page now s st.1 (toOp E c)).1, (storeOpen st.1 st.2 (p.getD act)).1),
       .out (Store.step like page now s st.1 (toOp E c)).2)

theorem thStep_active (st : TwoHandles.Handle × TwoHandles.Db) (c : Call) : (thStep st c).1.1.active = st.1.active := by
  cases c with
  | create n => simp only [thStep, TwoHandles.createProfile]; cases st.2.rowByName n <;> rfl
  | remove n => simp only [thStep, TwoHandles.removeProfile]; cases st.2.rowByName n <;> rfl
  | openSession p => simp only [thStep, TwoHandles.openSession_eq, TwoHandles.resolve_active]
  | scan p cat => simp only [thStep, TwoHandles.scan_eq, TwoHandles.resolve_active]
  | item p c =>
    simp only [thStep]
    cases (TwoHandles.openSession false st.1 st.2 p).2 <;> simp only [TwoHandles.openSession_eq, TwoHandles.resolve_active]

theorem step_refines (E : Enc) (like : Bytes → Bytes → Bool) (page : Nat) (now : Int)
    {h : TwoHandles.Handle} {db : TwoHandles.Db} {sdb : Store.Db} {sh : Store.Handle} (hs : Sim E h db sdb sh) (c : Call) :
    Sim E (thStep (h, db) c).1.1 (thStep (h, db) c).1.2
      (storeStep E like page now h.active (sdb, sh) c).1.1 (storeStep E like page now h.active (sdb, sh) c).1.2 ∧
    (storeStep E like page now h.active (sdb, sh) c).2 = liftOut E page (thStep (h, db) c).2 := by
  cases c with
  | create n =>
    cases hr : db.rowByName n with
    | some row =>
      simp only [thStep, storeStep, TwoHandles.createProfile, hr, create_tie_dup hs hr]
      exact ⟨hs, rfl⟩
    | none =>
      obtain ⟨sdb', sh', h1, h2⟩ := create_tie_new hs hr
      simp only [thStep, storeStep, TwoHandles.createProfile_absent h db n hr, h1]
      exact ⟨h2, rfl⟩
  | remove n =>
    have := remove_tie hs n
    simp only [thStep, storeStep, Store.evictOnRemove]
    exact ⟨this.1, by rw [this.2]; rfl⟩
  | openSession p =>
    simp only [thStep, storeStep, open_tie hs p]
    refine ⟨sim_handle hs _, ?_⟩
    cases (TwoHandles.openSession false h db p).2 <;> rfl
  | scan p cat =>
    obtain ⟨hr, herr⟩ := resolve_tie hs (p.getD h.active)
    simp only [thStep, storeStep, TwoHandles.scan_eq, hr]
    cases hres : (TwoHandles.resolve false h db (p.getD h.active)).2 with
    | error e => simp only [herr e hres]; exact ⟨hs, rfl⟩
    | ok s =>
      simp only [scan_tie like page now hs s cat]
      refine ⟨sim_handle hs _, ?_⟩
      cases TwoHandles.fetchAll s db cat <;> rfl
  | item p c =>
    simp only [thStep, storeStep, open_tie hs p]
    cases ho : (TwoHandles.openSession false h db p).2 with
    | error e => exact ⟨sim_handle hs _, rfl⟩
    | ok s =>
      have hid : db.hasId s.pid = true :=
        TwoHandles.openSession_hasId (h' := (TwoHandles.openSession false h db p).1) (by rw [← ho])
      have := item_refines E like page now s (sim_handle hs (TwoHandles.openSession false h db p).1) c (fun _ => hid)
      exact ⟨⟨this.1.profiles, this.1.items, this.1.sorted, by simp [absHandle, (thItem_frame s db c).2]⟩, by rw [← this.2]⟩

def thRun (st : TwoHandles.Handle × TwoHandles.Db) : List Call → (TwoHandles.Handle × TwoHandles.Db) × List TOut
  | [] => (st, [])
  | c :: cs => ((thRun (thStep st c).1 cs).1, (thStep st c).2 :: (thRun (thStep st c).1 cs).2)

def storeRun (E : Enc) (like : Bytes → Bytes → Bool) (page : Nat) (now : Int) (act : String) (st : Store.Db × Store.Handle) :
    List Call → (Store.Db × Store.Handle) × List SOut
  | [] => (st, [])
  | c :: cs =>
    ((storeRun E like page now act (storeStep E like page now act st c).1 cs).1,
     (storeStep E like page now act st c).2 :: (storeRun E like page now act (storeStep E like page now act st c).1 cs).2)

theorem thRun_eq : ∀ (st : TwoHandles.Handle × TwoHandles.Db) (cs : List Call), thRun st cs = Run.run thStep st cs
  | _, [] => rfl
  | st, c :: cs => by simp only [thRun, Run.run, thRun_eq _ cs]

theorem storeRun_eq (E : Enc) (like : Bytes → Bytes → Bool) (page : Nat) (now : Int) (act : String) :
    ∀ (st : Store.Db × Store.Handle) (cs : List Call),
      storeRun E like page now act st cs = Run.run (storeStep E like page now act) st cs
  | _, [] => rfl
  | st, c :: cs => by simp only [storeRun, Run.run, storeRun_eq E like page now act _ cs]

theorem thRun_active (cs : List Call) (st : TwoHandles.Handle × TwoHandles.Db) : (thRun st cs).1.1.active = st.1.active := by
  rw [thRun_eq]
  exact Run.run_inv (fun s => s.1.active = st.1.active) (fun s c hs => (thStep_active s c).trans hs) rfl cs

theorem run_refines (E : Enc) (like : Bytes → Bytes → Bool) (page : Nat) (now : Int) (cs : List Call) :
    ∀ {h : TwoHandles.Handle} {db : TwoHandles.Db} {sdb : Store.Db} {sh : Store.Handle}, Sim E h db sdb sh →
    Sim E (thRun (h, db) cs).1.1 (thRun (h, db) cs).1.2
      (storeRun E like page now h.active (sdb, sh) cs).1.1 (storeRun E like page now h.active (sdb, sh) cs).1.2 ∧
    (storeRun E like page now h.active (sdb, sh) cs).2 = (thRun (h, db) cs).2.map (liftOut E page) := by
  induction cs with
  | nil => intro h db sdb sh hs; exact ⟨hs, rfl⟩
  | cons c cs ih =>
    intro h db sdb sh hs
    have h1 := step_refines E like page now hs c
    have hact := thStep_active (h, db) c
    have h2 := ih h1.1
    rw [hact] at h2
    simp only [thRun, storeRun, List.map_cons]
    exact ⟨h2.1, by rw [h1.2, h2.2]⟩

/-! ## what every single-handle history keeps true

An invariant of the TwoHandles model alone (the Store model is not mentioned); the tie uses it only through
`Askar.Ties.single_handle_store_invariants`; `Askar.Ties.single_handle_cache_fresh` states that every history keeps it. -/

/-- unique names and unique row ids (the UNIQUE constraint on `profiles.name`, the rowid) -/
def ProfilesUnique (db : TwoHandles.Db) : Prop := db.profiles.Pairwise (fun a b => a.name ≠ b.name ∧ a.id ≠ b.id)

def ItemsKeyed (db : TwoHandles.Db) : Prop := ∀ it ∈ db.items, ∃ r ∈ db.profiles, r.id = it.pid ∧ r.key = it.key

structure Good (h : TwoHandles.Handle) (db : TwoHandles.Db) : Prop where
  fresh : TwoHandles.CacheFresh h db
  unique : ProfilesUnique db
  keyed : ItemsKeyed db

theorem unique_eq {db : TwoHandles.Db} (hu : ProfilesUnique db)
    {a b : TwoHandles.ProfRow} (ha : a ∈ db.profiles) (hb : b ∈ db.profiles) (hab : a.name = b.name ∨ a.id = b.id) : a = b :=
  List.Pairwise.forall_of_forall_of_flip (R := fun a b => a.name = b.name ∨ a.id = b.id → a = b)
    (fun _ _ _ => rfl)
    (hu.imp fun h e => (e.elim h.1 h.2).elim)
    (hu.imp fun h e => (e.elim (fun e => h.1 e.symm) (fun e => h.2 e.symm)).elim) ha hb hab

theorem good_create {h : TwoHandles.Handle} {db : TwoHandles.Db} (hg : Good h db) (n : String) :
    Good (TwoHandles.createProfile h db n).1 (TwoHandles.createProfile h db n).2.1 := by
  have hf := TwoHandles.fresh_create h db hg.fresh n
  cases hr : db.rowByName n with
  | some row => simp only [TwoHandles.createProfile, hr]; exact hg
  | none =>
    rw [TwoHandles.createProfile_absent h db n hr] at hf ⊢
    refine ⟨hf, ?_, ?_⟩
    · -- the new row: its name has no row yet, its id is above every id in use
      refine List.pairwise_append.mpr ⟨hg.unique, List.pairwise_singleton _ _, ?_⟩
      intro a ha b hb
      rw [List.mem_singleton.mp hb]
      exact ⟨TwoHandles.rowByName_none hr a ha, Nat.ne_of_lt (Nat.lt_succ_of_le (TwoHandles.le_maxId ha))⟩
    · intro it hit
      obtain ⟨r, hrm, h1⟩ := hg.keyed it hit
      exact ⟨r, List.mem_append_left _ hrm, h1⟩

theorem good_remove {h : TwoHandles.Handle} {db : TwoHandles.Db} (hg : Good h db) (n : String) :
    Good (TwoHandles.removeProfile h db n).1 (TwoHandles.removeProfile h db n).2.1 := by
  have hf := TwoHandles.fresh_remove h db hg.fresh n
  cases hr : db.rowByName n with
  | none => simp only [TwoHandles.removeProfile, hr] at hf ⊢; exact ⟨hf, hg.unique, hg.keyed⟩
  | some row =>
    simp only [TwoHandles.removeProfile, hr] at hf ⊢
    refine ⟨hf, List.Pairwise.sublist List.filter_sublist hg.unique, ?_⟩
    -- an item row that survives the cascade is owned by another profile row, and that row survives the DELETE by name
    intro it hit
    have hm := List.mem_filter.mp hit
    have hne : it.pid ≠ row.id := by simpa using hm.2
    obtain ⟨r, hrm, h1, h2⟩ := hg.keyed it hm.1
    refine ⟨r, List.mem_filter.mpr ⟨hrm, ?_⟩, h1, h2⟩
    have hrow := TwoHandles.rowByName_some hr
    have : r.name ≠ n := by
      intro e
      have : r = row := unique_eq hg.unique hrm hrow.1 (Or.inl (e.trans hrow.2.symm))
      subst this
      exact hne h1.symm
    simpa using this

theorem thItem_keyed {s : TwoHandles.Sess} {db : TwoHandles.Db} (hk : ItemsKeyed db)
    (hrow : ∃ r ∈ db.profiles, r.id = s.pid ∧ r.key = s.key) (c : ItemCall) : ItemsKeyed (thItem s db c).1 := by
  obtain ⟨items, he, hsub⟩ := thItem_shape s db c
  rw [he]
  intro it hit
  rcases hsub it hit with ⟨it0, h0, e1, e2⟩ | ⟨e1, e2⟩
  · obtain ⟨r, hrm, h1, h2⟩ := hk it0 h0
    exact ⟨r, hrm, h1.trans e1.symm, h2.trans e2.symm⟩
  · obtain ⟨r, hrm, h1, h2⟩ := hrow
    exact ⟨r, hrm, h1.trans e1.symm, h2.trans e2.symm⟩

theorem good_step {h : TwoHandles.Handle} {db : TwoHandles.Db} (hg : Good h db) (c : Call) :
    Good (thStep (h, db) c).1.1 (thStep (h, db) c).1.2 := by
  cases c with
  | create n => exact good_create hg n
  | remove n => exact good_remove hg n
  | openSession p =>
    simp only [thStep, TwoHandles.openSession_eq]
    exact ⟨TwoHandles.fresh_resolve false h db hg.fresh _, hg.unique, hg.keyed⟩
  | scan p cat =>
    simp only [thStep, TwoHandles.scan_eq]
    exact ⟨TwoHandles.fresh_resolve false h db hg.fresh _, hg.unique, hg.keyed⟩
  | item p c =>
    have hf' : TwoHandles.CacheFresh (TwoHandles.openSession false h db p).1 db := by
      rw [TwoHandles.openSession_eq]; exact TwoHandles.fresh_resolve false h db hg.fresh _
    simp only [thStep]
    cases ho : (TwoHandles.openSession false h db p).2 with
    | error e => exact ⟨hf', hg.unique, hg.keyed⟩
    | ok s =>
      have hrow := TwoHandles.sees_named false h (TwoHandles.openSession false h db p).1 db p s (Or.inr hg.fresh) (by rw [← ho])
      have hfr := thItem_frame s db c
      refine ⟨TwoHandles.fresh_of_profiles hfr.1 hf', ?_, ?_⟩
      · unfold ProfilesUnique; rw [hfr.1]; exact hg.unique
      · exact thItem_keyed hg.keyed ⟨_, (TwoHandles.rowByName_some hrow).1, rfl, rfl⟩ c

theorem good_run (cs : List Call) {h : TwoHandles.Handle} {db : TwoHandles.Db} (hg : Good h db) :
    Good (thRun (h, db) cs).1.1 (thRun (h, db) cs).1.2 := by
  rw [thRun_eq]
  exact Run.run_inv (fun st => Good st.1 st.2) (fun _ c hg => good_step hg c) (s := (h, db)) hg cs

/-- a freshly provisioned store opened by one handle -/
theorem good_init (p : String) : Good ⟨p, [⟨p, 1, 0⟩]⟩ (TwoHandles.Db.provisioned p) := by
  refine ⟨?_, ?_, ?_⟩
  · intro e he
    simp only [List.mem_singleton] at he
    subst he
    simp [TwoHandles.Db.provisioned, TwoHandles.Db.rowByName]
  · simp [ProfilesUnique, TwoHandles.Db.provisioned]
  · intro it hit; simp [TwoHandles.Db.provisioned] at hit

theorem keyCoherent_of_good {h : TwoHandles.Handle} {db : TwoHandles.Db} (hg : Good h db) {s : TwoHandles.Sess}
    (hrow : ∃ r ∈ db.profiles, r.id = s.pid ∧ r.key = s.key) : ∀ it ∈ db.items, it.pid = s.pid → it.key = s.key := by
  intro it hit hp
  obtain ⟨r, hrm, h1, h2⟩ := hg.keyed it hit
  obtain ⟨r', hrm', h1', h2'⟩ := hrow
  have : r = r' := unique_eq hg.unique hrm hrm' (Or.inr (h1.trans (hp.trans h1'.symm)))
  subst this
  exact h2.symm.trans h2'

theorem store_keyCoherent (E : Enc) {h : TwoHandles.Handle} {db : TwoHandles.Db} {sdb : Store.Db} {sh : Store.Handle}
    (hs : Sim E h db sdb sh) {s : TwoHandles.Sess} (hk : ∀ it ∈ db.items, it.pid = s.pid → it.key = s.key) :
    Store.KeyCoherent (liftSess s) sdb := by
  intro it hit hp
  obtain ⟨a, ha, hab⟩ := hs.items.mem_right hit
  rw [hab] at hp ⊢
  exact hk a ha hp

end Askar.Ties.Profiles
