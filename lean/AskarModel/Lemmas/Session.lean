/-
Lemmas for C05 (Props/C05.lean): one-step facts about `TxStore.step` while a write
transaction is open, and the schedule inductions built on them.
-/
import AskarModel.Model.Session
import AskarModel.Lemmas.Run
namespace Askar.Store
namespace Lemmas

variable (like : Bytes → Bytes → Bool) (page : Nat) (now : Int)

/-- `txnOf` compares sessions field by field -/
theorem sess_eq_of (s' s : Sess) (h1 : s'.pid = s.pid) (h2 : s'.key = s.key) : s' = s := by
  cases s'; cases s; simp at h1 h2; simp [h1, h2]

theorem step_read_db (s : Sess) (db : Db) (op : Op) (hr : op.isWrite = false) :
    (step like page now s db op).1 = db := by
  cases op with
  | insert | replace | remove | removeAll => cases hr
  | fetch | count => rfl
  | fetchAll k c f lim desc =>
    show (match doFetchAll like db now s k c f lim desc with
      | .ok es => (db, Out.entries es)
      | .error e => (db, Out.err e)).1 = db
    split <;> rfl
  | scan k c f off lim desc =>
    show (match doScan like page db now s k c f off lim desc with
      | .ok ps => (db, Out.pages ps)
      | .error e => (db, Out.err e)).1 = db
    split <;> rfl

theorem run_cons_fst (st : TxStore) (cl : Call) (cs : List Call) :
    (TxStore.run like page now st (cl :: cs)).1
      = (TxStore.run like page now (TxStore.step like page now st cl).1 cs).1 := rfl

theorem run_cons_snd (st : TxStore) (cl : Call) (cs : List Call) :
    (TxStore.run like page now st (cl :: cs)).2
      = (TxStore.step like page now st cl).2 :: (TxStore.run like page now (TxStore.step like page now st cl).1 cs).2 := rfl

theorem txRun_eq : ∀ (st : TxStore) (cs : List Call),
    TxStore.run like page now st cs = Run.run (TxStore.step like page now) st cs
  | _, [] => rfl
  | st, cl :: cs => by simp only [TxStore.run, Run.run, txRun_eq _ cs]

theorem run_append_fst (st : TxStore) (cs ds : List Call) :
    (TxStore.run like page now st (cs ++ ds)).1
      = (TxStore.run like page now (TxStore.run like page now st cs).1 ds).1 := by
  simp only [txRun_eq]; exact Run.run_append_fst _ st cs ds

theorem run_single_fst (st : TxStore) (cl : Call) :
    (TxStore.run like page now st [cl]).1 = (TxStore.step like page now st cl).1 := rfl

theorem ownedBy_iff (st : TxStore) (i : Nat) : st.ownedBy i = true ↔ ∃ c, st.wtxn = some (i, c) := by
  unfold TxStore.ownedBy
  cases st.wtxn with
  | none => simp
  | some p =>
    obtain ⟨j, c⟩ := p
    simp only [beq_iff_eq, Option.some.injEq, Prod.mk.injEq, exists_eq_right']
    exact eq_comm

/-! ### one step while session `i` owns the write lock -/

theorem step_owner (st : TxStore) (i : Nat) (c : Db) (h : st.wtxn = some (i, c)) (s : Sess) (op : Op) :
    TxStore.step like page now st (.stmt i true s op)
      = ({ st with wtxn := some (i, (step like page now s c op).1) }, (step like page now s c op).2) := by
  simp [TxStore.step, TxStore.lockedByOther, TxStore.view, h]

theorem step_other (st : TxStore) (i : Nat) (c : Db) (h : st.wtxn = some (i, c))
    (j : Nat) (t : Bool) (s : Sess) (op : Op) (hj : ¬ (t = true ∧ j = i)) :
    (TxStore.step like page now st (.stmt j t s op)).1 = st := by
  cases t with
  | true =>
    have hji : j ≠ i := fun e => hj ⟨rfl, e⟩
    simp [TxStore.step, TxStore.lockedByOther, h, hji]
  | false =>
    cases hw : op.isWrite with
    | true => simp [TxStore.step, h, hw]
    | false =>
      have hdb := step_read_db like page now s st.db op hw
      simp [TxStore.step, hw, hdb]

theorem step_commit_other (st : TxStore) (i : Nat) (c : Db) (h : st.wtxn = some (i, c))
    (j : Nat) (hj : i ≠ j) :
    (TxStore.step like page now st (.commit j)).1 = st := by
  have hji : j ≠ i := fun e => hj e.symm
  simp [TxStore.step, h, hji]

theorem step_rollback_other (st : TxStore) (i : Nat) (c : Db) (h : st.wtxn = some (i, c))
    (j : Nat) (hj : i ≠ j) :
    (TxStore.step like page now st (.rollback j)).1 = st := by
  have hji : j ≠ i := fun e => hj e.symm
  simp [TxStore.step, h, hji]

theorem run_owned (st : TxStore) (i : Nat) (c : Db) (h : st.wtxn = some (i, c))
    (cs : List Call) (hc : noEnd i cs = true) :
    (TxStore.run like page now st cs).1.db = st.db ∧
    ∃ c', (TxStore.run like page now st cs).1.wtxn = some (i, c') := by
  induction cs generalizing st c with
  | nil => exact ⟨rfl, c, h⟩
  | cons cl cs ih =>
    rw [run_cons_fst]
    cases cl with
    | stmt j t s op =>
      have hc' : noEnd i cs = true := hc
      by_cases hj : t = true ∧ j = i
      · obtain ⟨rfl, rfl⟩ := hj
        rw [step_owner like page now st j c h]
        exact ih { st with wtxn := some (j, (step like page now s c op).1) } _ rfl hc'
      · rw [step_other like page now st i c h j t s op hj]
        exact ih st c h hc'
    | commit j =>
      have hc2 : i ≠ j ∧ noEnd i cs = true := by simpa [noEnd] using hc
      rw [step_commit_other like page now st i c h j hc2.1]
      exact ih st c h hc2.2
    | rollback j =>
      have hc2 : i ≠ j ∧ noEnd i cs = true := by simpa [noEnd] using hc
      rw [step_rollback_other like page now st i c h j hc2.1]
      exact ih st c h hc2.2

theorem begin_takes_lock (st : TxStore) (i : Nat) (s : Sess) (op : Op)
    (h : st.wtxn = none) :
    (TxStore.step like page now st (.stmt i true s op)).1.wtxn = some (i, (step like page now s st.db op).1) ∧
    (TxStore.step like page now st (.stmt i true s op)).2 = (step like page now s st.db op).2 ∧
    (TxStore.step like page now st (.stmt i true s op)).1.db = st.db := by
  simp [TxStore.step, TxStore.lockedByOther, TxStore.view, h]

theorem plain_call_immediate (st : TxStore) (j : Nat) (s : Sess) (op : Op)
    (h : st.wtxn = none) :
    (TxStore.step like page now st (.stmt j false s op)).1.db = (step like page now s st.db op).1 ∧
    (TxStore.step like page now st (.stmt j false s op)).2 = (step like page now s st.db op).2 ∧
    ∀ e, e = Call.commit j ∨ e = Call.rollback j →
      (TxStore.step like page now (TxStore.step like page now st (.stmt j false s op)).1 e).1.db = (step like page now s st.db op).1 := by
  have hs : TxStore.step like page now st (.stmt j false s op)
      = ({ st with db := (step like page now s st.db op).1 }, (step like page now s st.db op).2) := by
    simp [TxStore.step, h]
  rw [hs]
  refine ⟨rfl, rfl, ?_⟩
  rintro e (rfl | rfl) <;> simp [TxStore.step, h]

theorem blocked_call_no_effect (st : TxStore) (j : Nat) (t : Bool) (s : Sess) (op : Op)
    (h : st.lockedByOther j = true) (hw : t = true ∨ op.isWrite = true) :
    TxStore.step like page now st (.stmt j t s op) = (st, .err .backend) := by
  cases t with
  | true => simp [TxStore.step, h]
  | false =>
    have hw' : op.isWrite = true := hw.resolve_left Bool.false_ne_true
    cases hx : st.wtxn with
    | none => simp [TxStore.lockedByOther, hx] at h
    | some p => simp [TxStore.step, hw', hx]

end Lemmas
end Askar.Store
