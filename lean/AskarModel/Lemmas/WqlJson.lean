/- Lemmas about Model/WqlJson.lean: the round trip `parseQuery ∘ toValue`, what the value-level parser can return
   (`Outcome`), the legacy array form, and `n` levels of `$not` for the depth limit. -/
import AskarModel.Model.WqlJson
import AskarModel.Lemmas.Wql

namespace Askar.Wql.Lemmas

theorem strings_map_str (l : List String) : strings (l.map J.str) = some l := by
  induction l with
  | nil => rfl
  | cons a l ih => simp [strings, ih]

theorem cmpOfKey_jsonKey (op : CmpOp) (o : String) (h : op.jsonKey = some o) : cmpOfKey o = some op := by
  cases op <;> simp [CmpOp.jsonKey] at h <;> subst h <;> simp [cmpOfKey]

theorem toValues_isEmpty (qs : List (Query String)) : (toValues qs).isEmpty = qs.isEmpty := by
  cases qs <;> simp [toValues]

theorem reservedKey_false {n : String} (h : reservedKey n = false) :
    n ≠ "$and" ∧ n ≠ "$or" ∧ n ≠ "$not" ∧ n ≠ "$exist" := by
  simpa [reservedKey, and_assoc] using h

theorem wfList_map_str (l : List String) : wfList (l.map J.str) = true := by
  induction l with
  | nil => rfl
  | cons a l ih => simp [wfList, J.wf, ih]

theorem wfList_toValues (qs : List (Query String))
    (ih : ∀ q ∈ qs, sortedKeys (toMap q) = true ∧ wfKVs (toMap q) = true) : wfList (toValues qs) = true := by
  induction qs with
  | nil => rfl
  | cons q qs ihq =>
    have := ih q List.mem_cons_self
    simp [toValues, wfList, J.wf, this.1, this.2, ihq fun q hq => ih q (List.mem_cons_of_mem _ hq)]

theorem toValue_wf (q : Query String) : (toValue q).wf = true := by
  have key : ∀ q : Query String, sortedKeys (toMap q) = true ∧ wfKVs (toMap q) = true := by
    intro q
    induction q using Query.induct' with
    | and qs ih => cases h : qs.isEmpty <;> simp [toMap, h, sortedKeys, wfKVs, J.wf, wfList_toValues qs ih]
    | or qs ih => cases h : qs.isEmpty <;> simp [toMap, h, sortedKeys, wfKVs, J.wf, wfList_toValues qs ih]
    | not q ih => simp [toMap, sortedKeys, wfKVs, J.wf, ih.1, ih.2]
    | cmp op n v => cases op <;> simp [toMap, CmpOp.jsonKey, sortedKeys, wfKVs, J.wf]
    | isIn n vs => simp [toMap, sortedKeys, wfKVs, J.wf, wfList_map_str]
    | exist ns => simp [toMap, sortedKeys, wfKVs, J.wf, wfList_map_str]
  simp [toValue, J.wf, (key q).1, (key q).2]

/-! ### The round trip -/

/-- what `parse_query` computes on `to_value`'s object, with the operator list made explicit -/
def RoundTrips (q : Query String) : Prop :=
  ∃ ops, parseOps (toMap q) = .ok ops ∧ collapse ops = normJ q

theorem parseList_toValues (qs : List (Query String)) (ih : ∀ q ∈ qs, q.namesUnreserved = true → RoundTrips q)
    (h : namesUnreservedList qs = true) : parseList (toValues qs) = .ok (normJList qs) := by
  induction qs with
  | nil => rfl
  | cons q qs ihq =>
    simp only [namesUnreservedList, Bool.and_eq_true] at h
    obtain ⟨ops, h1, h2⟩ := ih q (List.mem_cons_self ..) h.1
    simp [toValues, parseList, h1, h2, normJList, ihq (fun q hq => ih q (List.mem_cons_of_mem _ hq)) h.2]

theorem toMap_roundTrips (q : Query String) : q.namesUnreserved = true → RoundTrips q := by
  induction q using Query.induct' with
  | and qs ih =>
    intro h
    simp only [Query.namesUnreserved] at h
    cases qs with
    | nil => exact ⟨[], rfl, rfl⟩
    | cons q0 qs =>
      refine ⟨[.and (normJList (q0 :: qs))], ?_, rfl⟩
      have hl := parseList_toValues (q0 :: qs) ih h
      simp [toMap, parseOps, parseOperator, toValues_isEmpty, hl]
  | or qs ih =>
    intro h
    simp only [Query.namesUnreserved] at h
    cases qs with
    | nil => exact ⟨[], rfl, rfl⟩
    | cons q0 qs =>
      refine ⟨[.or (normJList (q0 :: qs))], ?_, rfl⟩
      have hl := parseList_toValues (q0 :: qs) ih h
      simp [toMap, parseOps, parseOperator, toValues_isEmpty, hl]
  | not q ih =>
    intro h
    simp only [Query.namesUnreserved] at h
    obtain ⟨ops, h1, h2⟩ := ih h
    refine ⟨[.not (normJ q)], ?_, rfl⟩
    simp [toMap, parseOps, parseOperator, h1, h2]
  | cmp op n v =>
    intro h
    simp only [Query.namesUnreserved, Bool.not_eq_true'] at h
    obtain ⟨h1, h2, h3, h4⟩ := reservedKey_false h
    refine ⟨[.cmp op n v], ?_, rfl⟩
    cases hk : op.jsonKey with
    | none => cases op <;> simp [CmpOp.jsonKey] at hk; simp [toMap, CmpOp.jsonKey, parseOps, parseOperator, h1, h2, h3, h4]
    | some o =>
      simp [toMap, hk, parseOps, parseOperator, h1, h2, h3, h4, parseSingle, cmpOfKey_jsonKey op o hk]
  | isIn n vs =>
    intro h
    simp only [Query.namesUnreserved, Bool.not_eq_true'] at h
    obtain ⟨h1, h2, h3, h4⟩ := reservedKey_false h
    refine ⟨[.isIn n vs], ?_, rfl⟩
    simp [toMap, parseOps, parseOperator, h1, h2, h3, h4, parseSingle, cmpOfKey, strings_map_str]
  | exist ns =>
    intro _
    cases ns with
    | nil => exact ⟨[], rfl, rfl⟩
    | cons n ns =>
      refine ⟨[.exist (n :: ns)], ?_, rfl⟩
      have := strings_map_str (n :: ns)
      simp only [List.map_cons] at this
      simp [toMap, parseOps, parseOperator, this]

theorem json_roundtrip_names (q : Query String) (h : q.namesUnreserved = true) :
    parseQuery (toValue q) = .ok (normJ q) := by
  obtain ⟨ops, h1, h2⟩ := toMap_roundTrips q h
  simp [toValue, parseQuery, parseMap, h1, h2]

theorem jsonExpressible_iff (q : Query String) :
    q.jsonExpressible = true ↔ q.noEmptyOr = true ∧ q.namesUnreserved = true := by
  simp [Query.jsonExpressible]

theorem mapNamesList_isEmpty {N M : Type} (f : N → M) (qs : List (Query N)) :
    (mapNamesList f qs).isEmpty = qs.isEmpty := by
  cases qs <;> simp [mapNamesList]

theorem normJ_of_solid (q : Query String) : (tagQuery q).solid = true → normJ q = q := by
  have list : ∀ qs : List (Query String), (∀ q ∈ qs, (tagQuery q).solid = true → normJ q = q) →
      solidList (mapNamesList splitName qs) = true → normJList qs = qs := by
    intro qs ih h
    induction qs with
    | nil => rfl
    | cons q qs ihq =>
      simp only [mapNamesList, solidList, Bool.and_eq_true] at h
      simp [normJList, ih q (List.mem_cons_self ..) h.1, ihq (fun q hq => ih q (List.mem_cons_of_mem _ hq)) h.2]
  induction q using Query.induct' with
  | and qs ih =>
    intro h
    simp only [tagQuery, Query.mapNames, Query.solid, Bool.and_eq_true] at h
    simp [normJ, list qs ih h.2]
  | or qs ih =>
    intro h
    simp only [tagQuery, Query.mapNames, Query.solid, Bool.and_eq_true, mapNamesList_isEmpty] at h
    have : qs.isEmpty = false := by simpa using h.1
    simp [normJ, this, list qs ih h.2]
  | not q ih =>
    intro h
    simp only [tagQuery, Query.mapNames, Query.solid] at h
    simp [normJ, ih h]
  | cmp op n v => intro _; rfl
  | isIn n vs => intro _; rfl
  | exist ns =>
    intro h
    simp only [tagQuery, Query.mapNames, Query.solid] at h
    have : ns.isEmpty = false := by simpa using h
    simp [normJ, this]

theorem normJ_inDomain (q : Query String) (h : q.noEmptyOr = true) (hd : (tagQuery q).inDomain = true) :
    normJ q = q ∨ (q = .exist [] ∧ normJ q = .and []) := by
  cases q with
  | and qs =>
    cases qs with
    | nil => exact Or.inl rfl
    | cons q0 qs => exact Or.inl (normJ_of_solid _ (by simpa [tagQuery, Query.mapNames, mapNamesList, Query.inDomain] using hd))
  | or qs =>
    cases qs with
    | nil => simp [Query.noEmptyOr] at h
    | cons q0 qs => exact Or.inl (normJ_of_solid _ (by simpa [tagQuery, Query.mapNames, mapNamesList, Query.inDomain] using hd))
  | not q => exact Or.inl (normJ_of_solid _ (by simpa [tagQuery, Query.mapNames, Query.inDomain] using hd))
  | cmp op n v => exact Or.inl rfl
  | isIn n vs => exact Or.inl rfl
  | exist ns =>
    cases ns with
    | nil => exact Or.inr ⟨rfl, rfl⟩
    | cons n ns => exact Or.inl rfl

/-- Hence whatever does not tell a root `Exist []` from `And []` — the reference semantics, the encoder — does not tell
    the normal form from the filter. -/
theorem normJ_congr {α : Type} (f : Query TagName → α) (hf : f (tagQuery (.and [])) = f (tagQuery (.exist [])))
    (q : Query String) (h : q.noEmptyOr = true) (hd : (tagQuery q).inDomain = true) :
    f (tagQuery (normJ q)) = f (tagQuery q) := by
  rcases normJ_inDomain q h hd with h1 | ⟨h1, h2⟩
  · rw [h1]
  · rw [h2, h1, hf]

/-! ### What the value-level parser can return -/

theorem collapse_noEmpty (ops : List (Query String)) (h : noEmptyOrExistList ops = true) :
    noEmptyOrExist (collapse ops) = true := by
  unfold collapse
  split
  · simpa [noEmptyOrExistList] using h
  · simpa [noEmptyOrExist] using h

theorem strings_isEmpty {xs : List J} {ss : List String} (h : strings xs = some ss) :
    ss.isEmpty = xs.isEmpty := by
  cases xs with
  | nil => simp [strings] at h; subst h; rfl
  | cons x xs =>
    cases x <;> simp [strings] at h
    obtain ⟨a, _, rfl⟩ := h
    rfl

/-- Every outcome of the value-level parser: a result with property `P`, or one of the listed messages. -/
def Outcome {α : Type} (P : α → Prop) : Except String α → Prop
  | .ok a => P a
  | .error e => e ∈ parseErrorMessages

/-- membership by position: no string is compared -/
theorem msg_mem (i : Nat) {m : String} (h : parseErrorMessages[i]? = some m) : m ∈ parseErrorMessages :=
  List.mem_of_getElem? h

theorem cmpOfKey_some {o : String} {op : CmpOp} (h : cmpOfKey o = some op) :
    o = "$neq" ∨ o = "$gt" ∨ o = "$gte" ∨ o = "$lt" ∨ o = "$lte" ∨ o = "$like" := by
  apply Decidable.byContradiction
  intro hn
  simp only [not_or] at hn
  obtain ⟨h1, h2, h3, h4, h5, h6⟩ := hn
  rw [cmpOfKey, if_neg h1, if_neg h2, if_neg h3, if_neg h4, if_neg h5, if_neg h6] at h
  cases h

theorem cmpOfKey_msg {o : String} {op : CmpOp} (h : cmpOfKey o = some op) :
    (o ++ " must be used with string") ∈ parseErrorMessages := by
  rcases cmpOfKey_some h with rfl | rfl | rfl | rfl | rfl | rfl <;> simp [parseErrorMessages]

theorem parseSingle_outcome (o key : String) (v : J) :
    Outcome (fun q => noEmptyOrExist q = true) (parseSingle o key v) := by
  unfold parseSingle
  cases hop : cmpOfKey o with
  | some op =>
    cases v with
    | str s => rfl
    | _ => exact cmpOfKey_msg hop
  | none =>
    have herr : "$in must be used with array of strings" ∈ parseErrorMessages := msg_mem 13 rfl
    by_cases hin : o = "$in"
    · simp only [if_pos hin]
      cases v with
      | arr values =>
        dsimp only
        cases strings values with
        | some vs => rfl
        | none => exact herr
      | _ => exact herr
    · simp only [if_neg hin]
      exact msg_mem 14 rfl

/-- what `parseOperator` may return: nothing, or a filter without empty `$or` / `$exist` -/
def OpOk (o : Option (Query String)) : Prop := ∀ q, o = some q → noEmptyOrExist q = true

/-- One step of the parser, with the two facts about what is nested in `value` taken as hypotheses.  All the case
    analysis is here, outside the mutual block below: that block is then only the recursion over the nesting of `J`,
    which supplies `hl` and `ho`, and the bodies its termination check goes through stay short. -/
theorem parseOperator_step (key : String) (value : J)
    (hl : ∀ xs, value = .arr xs →
      Outcome (fun qs => noEmptyOrExistList qs = true ∧ qs.isEmpty = xs.isEmpty) (parseList xs))
    (ho : ∀ m, value = .obj m → Outcome (fun ops => noEmptyOrExistList ops = true) (parseOps m)) :
    Outcome OpOk (parseOperator key value) := by
  unfold parseOperator
  by_cases hand : key = "$and"
  · rw [if_pos hand]
    have herr : "$and must be array of JSON objects" ∈ parseErrorMessages := msg_mem 0 rfl
    cases value with
    | arr values =>
      dsimp only
      by_cases he : values.isEmpty = true
      · rw [if_pos he]; exact fun _ h => nomatch h
      · rw [if_neg he]
        have ih := hl values rfl
        cases hp : parseList values with
        | error e => rw [hp] at ih; exact ih
        | ok qs => rw [hp] at ih; intro q hq; cases hq; exact ih.1
    | _ => exact herr
  rw [if_neg hand]
  by_cases hor : key = "$or"
  · rw [if_pos hor]
    have herr : "$or must be array of JSON objects" ∈ parseErrorMessages := msg_mem 1 rfl
    cases value with
    | arr values =>
      dsimp only
      by_cases he : values.isEmpty = true
      · rw [if_pos he]; exact fun _ h => nomatch h
      · rw [if_neg he]
        have ih := hl values rfl
        cases hp : parseList values with
        | error e => rw [hp] at ih; exact ih
        | ok qs =>
          rw [hp] at ih; intro q hq; cases hq
          simpa [noEmptyOrExist, ih.1, ih.2] using he
    | _ => exact herr
  rw [if_neg hor]
  by_cases hnot : key = "$not"
  · rw [if_pos hnot]
    have herr : "$not must be JSON object" ∈ parseErrorMessages := msg_mem 2 rfl
    cases value with
    | obj m =>
      dsimp only
      have ih := ho m rfl
      cases hp : parseOps m with
      | error e => rw [hp] at ih; exact ih
      | ok ops =>
        rw [hp] at ih; intro q hq; cases hq
        simpa [noEmptyOrExist] using collapse_noEmpty ops ih
    | _ => exact herr
  rw [if_neg hnot]
  by_cases hex : key = "$exist"
  · rw [if_pos hex]
    have herr : "$exist must be used with a string or array of strings" ∈ parseErrorMessages := msg_mem 3 rfl
    cases value with
    | str k => intro q hq; cases hq; rfl
    | arr keys =>
      dsimp only
      by_cases he : keys.isEmpty = true
      · rw [if_pos he]; exact fun _ h => nomatch h
      · rw [if_neg he]
        cases hk : strings keys with
        | none => exact herr
        | some ks =>
          intro q hq; cases hq
          simpa [noEmptyOrExist, strings_isEmpty hk] using he
    | _ => exact herr
  rw [if_neg hex]
  have herr : "Unsupported value" ∈ parseErrorMessages := msg_mem 5 rfl
  cases value with
  | str v => intro q hq; cases hq; rfl
  | obj m =>
    have herr1 : "value must be JSON object of length 1" ∈ parseErrorMessages := msg_mem 4 rfl
    rcases m with _ | ⟨⟨o, v⟩, _ | _⟩
    · exact herr1
    · have ih := parseSingle_outcome o key v
      dsimp only
      cases hp : parseSingle o key v with
      | error e => rw [hp] at ih; exact ih
      | ok q => rw [hp] at ih; intro q' hq; cases hq; exact ih
    · exact herr1
  | _ => exact herr

mutual
theorem parseOperator_outcome (key : String) : (value : J) → Outcome OpOk (parseOperator key value)
  | .arr xs => parseOperator_step key _ (fun _ h => by cases h; exact parseList_outcome xs) (fun _ h => nomatch h)
  | .obj m => parseOperator_step key _ (fun _ h => nomatch h) (fun _ h => by cases h; exact parseOps_outcome m)
  | .null => parseOperator_step key _ (fun _ h => nomatch h) (fun _ h => nomatch h)
  | .bool _ => parseOperator_step key _ (fun _ h => nomatch h) (fun _ h => nomatch h)
  | .num _ => parseOperator_step key _ (fun _ h => nomatch h) (fun _ h => nomatch h)
  | .str _ => parseOperator_step key _ (fun _ h => nomatch h) (fun _ h => nomatch h)
theorem parseList_outcome :
    (xs : List J) → Outcome (fun qs => noEmptyOrExistList qs = true ∧ qs.isEmpty = xs.isEmpty) (parseList xs)
  | [] => ⟨rfl, rfl⟩
  | x :: rest => by
    have herr : "operator must be array of JSON objects" ∈ parseErrorMessages := msg_mem 6 rfl
    cases x with
    | obj m =>
      have ih1 := parseOps_outcome m
      have ih2 := parseList_outcome rest
      rw [parseList]
      cases h1 : parseOps m with
      | error e => rw [h1] at ih1; exact ih1
      | ok ops =>
        rw [h1] at ih1
        cases h2 : parseList rest with
        | error e => rw [h2] at ih2; exact ih2
        | ok out =>
          rw [h2] at ih2
          exact ⟨by simp [noEmptyOrExistList, collapse_noEmpty ops ih1, ih2.1], rfl⟩
    | _ => exact herr
theorem parseOps_outcome :
    (m : List (String × J)) → Outcome (fun ops => noEmptyOrExistList ops = true) (parseOps m)
  | [] => rfl
  | (key, value) :: rest => by
    have ih1 := parseOperator_outcome key value
    have ih2 := parseOps_outcome rest
    rw [parseOps]
    cases h1 : parseOperator key value with
    | error e => rw [h1] at ih1; exact ih1
    | ok o =>
      rw [h1] at ih1
      cases h2 : parseOps rest with
      | error e => rw [h2] at ih2; exact ih2
      | ok os =>
        rw [h2] at ih2
        cases o with
        | none => exact ih2
        | some q =>
          simp only [Outcome, noEmptyOrExistList, Bool.and_eq_true]
          exact ⟨ih1 q rfl, ih2⟩
end

theorem parseMap_outcome (m : List (String × J)) : Outcome (fun q => noEmptyOrExist q = true) (parseMap m) := by
  have ih := parseOps_outcome m
  unfold parseMap
  cases h : parseOps m with
  | error e => rw [h] at ih; exact ih
  | ok ops => rw [h] at ih; exact collapse_noEmpty ops ih

theorem legacyObjs_error {xs : List J} {e : String} (h : legacyObjs xs = .error e) :
    e = "Restriction is invalid" := by
  induction xs with
  | nil => simp [legacyObjs] at h
  | cons x xs ih =>
    cases x with
    | obj m =>
      simp only [legacyObjs] at h
      split at h
      · cases h; apply ih; assumption
      · cases h
    | _ => simp [legacyObjs] at h; exact h.symm

theorem parseQuery_outcome (j : J) : Outcome (fun q => noEmptyOrExist q = true) (parseQuery j) := by
  have herr : "Restriction must be either object or array" ∈ parseErrorMessages := msg_mem 16 rfl
  cases j with
  | obj m => exact parseMap_outcome m
  | arr xs =>
    unfold parseQuery
    dsimp only
    cases h : legacyObjs xs with
    | error e =>
      rw [legacyObjs_error h]
      exact msg_mem 15 rfl
    | ok res => exact parseMap_outcome _
  | _ => exact herr

theorem parseQuery_noEmpty (j : J) (q : Query String) (h : parseQuery j = .ok q) :
    noEmptyOrExist q = true := by
  have := parseQuery_outcome j
  rw [h] at this
  exact this

theorem parseQuery_classified (j : J) (e : String) (h : parseQuery j = .error e) : e ∈ parseErrorMessages := by
  have := parseQuery_outcome j
  rw [h] at this
  exact this

theorem noEmptyOr_of_noEmptyOrExist (q : Query String) (h : noEmptyOrExist q = true) : q.noEmptyOr = true := by
  have list : ∀ qs : List (Query String), (∀ q ∈ qs, noEmptyOrExist q = true → q.noEmptyOr = true) →
      noEmptyOrExistList qs = true → noEmptyOrList qs = true := by
    intro qs ih h
    induction qs with
    | nil => rfl
    | cons q qs ihq =>
      simp only [noEmptyOrExistList, Bool.and_eq_true] at h
      simp [noEmptyOrList, ih q (List.mem_cons_self ..) h.1, ihq (fun q hq => ih q (List.mem_cons_of_mem _ hq)) h.2]
  induction q using Query.induct' with
  | and qs ih => simp only [noEmptyOrExist] at h; simpa [Query.noEmptyOr] using list qs ih h
  | or qs ih =>
    simp only [noEmptyOrExist, Bool.and_eq_true] at h
    simp only [Query.noEmptyOr, h.1, Bool.true_and]
    exact list qs ih h.2
  | not q ih => simp only [noEmptyOrExist] at h; simpa [Query.noEmptyOr] using ih h
  | cmp op n v => rfl
  | isIn n vs => rfl
  | exist ns => rfl

/-! ### The legacy array form -/

theorem legacyObjs_objs (ms : List (List (String × J))) :
    legacyObjs (ms.map .obj) = .ok ((legacyKept ms).map .obj) := by
  induction ms with
  | nil => rfl
  | cons m ms ih =>
    simp only [List.map_cons, legacyObjs, ih, legacyKept, List.filter_cons]
    change Except.ok (if (dropNulls m).isEmpty = true then _ else J.obj (dropNulls m) :: _) = _
    cases hm : (dropNulls m).isEmpty <;> simp

theorem legacyObjs_nonobj {xs : List J} (h : ∃ x ∈ xs, x.isObj = false) :
    legacyObjs xs = .error "Restriction is invalid" := by
  induction xs with
  | nil => obtain ⟨x, hx, _⟩ := h; cases hx
  | cons y ys ih =>
    cases y with
    | obj m =>
      obtain ⟨x, hx, hx'⟩ := h
      have : ∃ x ∈ ys, x.isObj = false := by
        rcases List.mem_cons.mp hx with rfl | hx
        · simp [J.isObj] at hx'
        · exact ⟨x, hx, hx'⟩
      simp [legacyObjs, ih this]
    | null => rfl
    | bool b => rfl
    | num n => rfl
    | str s => rfl
    | arr zs => rfl

theorem legacyObjs_congr (pre : List J) {a b : List J} (h : legacyObjs a = legacyObjs b) :
    legacyObjs (pre ++ a) = legacyObjs (pre ++ b) := by
  induction pre with
  | nil => simpa using h
  | cons x pre ih =>
    cases x <;> simp [legacyObjs, ih]

theorem dropNulls_idem (m : List (String × J)) : dropNulls (dropNulls m) = dropNulls m := by
  simp [dropNulls, List.filter_filter]

theorem dropNulls_all_null {m : List (String × J)} (h : m.all (fun kv => kv.2.isNull) = true) :
    dropNulls m = [] := by
  simp only [dropNulls, List.filter_eq_nil_iff]
  intro kv hkv
  simp [List.all_eq_true.mp h kv hkv]

theorem legacyObjs_cons_obj (m : List (String × J)) (post : List J) :
    legacyObjs (.obj m :: post) =
      match legacyObjs post with
      | .error e => .error e
      | .ok res => .ok (if (dropNulls m).isEmpty then res else .obj (dropNulls m) :: res) := rfl

theorem legacyObjs_dropNulls (m : List (String × J)) (post : List J) :
    legacyObjs (.obj m :: post) = legacyObjs (.obj (dropNulls m) :: post) := by
  rw [legacyObjs_cons_obj, legacyObjs_cons_obj, dropNulls_idem]

theorem legacyObjs_null_only {m : List (String × J)} (h : m.all (fun kv => kv.2.isNull) = true)
    (post : List J) : legacyObjs (.obj m :: post) = legacyObjs post := by
  rw [legacyObjs_cons_obj, dropNulls_all_null h]
  cases legacyObjs post <;> rfl

theorem parseList_objs (ks : List (List (String × J))) (qs : List (Query String))
    (h : ParsesTo ks qs) : parseList (ks.map .obj) = .ok qs := by
  induction ks generalizing qs with
  | nil => cases qs with
    | nil => rfl
    | cons q qs => exact absurd h (by simp [ParsesTo])
  | cons m ks ih =>
    cases qs with
    | nil => exact absurd h (by simp [ParsesTo])
    | cons q qs =>
      obtain ⟨hm, hks⟩ := h
      simp only [parseQuery, parseMap] at hm
      split at hm
      · cases hm
      · rename_i ops hops
        cases hm
        simp [parseList, hops, ih qs hks]

theorem parseList_objs_error (pre : List (List (String × J))) (qs : List (Query String))
    (m : List (String × J)) (post : List J) (e : String)
    (h : ParsesTo pre qs) (hm : parseQuery (.obj m) = .error e) :
    parseList (pre.map .obj ++ .obj m :: post) = .error e := by
  induction pre generalizing qs with
  | nil =>
    simp only [parseQuery, parseMap] at hm
    split at hm
    · rename_i e' he'; cases hm; simp [parseList, he']
    · cases hm
  | cons m' ks ih =>
    cases qs with
    | nil => exact absurd h (by simp [ParsesTo])
    | cons q qs =>
      obtain ⟨hm', hks⟩ := h
      simp only [parseQuery, parseMap] at hm'
      split at hm'
      · cases hm'
      · rename_i ops hops
        simp [parseList, hops, ih qs hks]

theorem parseQuery_or_list (res : List J) (qs : List (Query String)) (h : parseList res = .ok qs)
    (hne : res ≠ []) : parseQuery (.obj [("$or", .arr res)]) = .ok (.or qs) := by
  cases res with
  | nil => exact absurd rfl hne
  | cons x xs => simp [parseQuery, parseMap, parseOps, parseOperator, h, collapse]

theorem holdsAny_eq_any (like : Bytes → Bytes → Bool) (tags : List Tag) (qs : List (Query String)) :
    holdsAny like tags false (mapNamesList splitName qs) = qs.any fun q => holds like tags (tagQuery q) := by
  induction qs with
  | nil => rfl
  | cons q qs ih => simp [mapNamesList, holdsAny, ih, holds, tagQuery]

theorem holds_or (like : Bytes → Bytes → Bool) (tags : List Tag) (qs : List (Query String)) :
    holds like tags (tagQuery (.or qs)) = qs.any fun q => holds like tags (tagQuery q) := by
  simp [holds, tagQuery, Query.mapNames, holdsP, holdsAny_eq_any]

end Askar.Wql.Lemmas

/-! ### Nesting: `n` levels of `$not` -/

namespace Askar.Wql

/-- `x` inside `n` levels of `{"$not": …}` -/
def deepNot (n : Nat) (x : J) : J := Nat.repeat (fun x => J.obj [("$not", x)]) n x

end Askar.Wql

namespace Askar.Wql.Lemmas

theorem repeat_succ' {α : Type} (f : α → α) (n : Nat) (a : α) :
    Nat.repeat f n (f a) = Nat.repeat f (n + 1) a := by
  induction n with
  | zero => rfl
  | succ n ih => exact congrArg f ih

theorem deepNot_succ (n : Nat) (x : J) : deepNot (n + 1) x = .obj [("$not", deepNot n x)] := rfl

theorem depth_deepNot (n : Nat) (x : J) : (deepNot n x).depth = x.depth + n := by
  induction n with
  | zero => rfl
  | succ n ih =>
    simp only [deepNot_succ, J.depth, depthKVs, ih]
    omega

theorem norm_deepNot (n : Nat) (x : J) : (deepNot n x).norm = deepNot n x.norm := by
  induction n with
  | zero => rfl
  | succ n ih => simp [deepNot_succ, J.norm, normKVs, J.normObj, J.insertKV, ih]

theorem parseMap_not (m : List (String × J)) : parseMap [("$not", .obj m)] = (parseMap m).map Query.not := by
  cases h : parseOps m <;> simp [parseMap, parseOps, parseOperator, h, collapse, Except.map]

theorem parseQuery_deepNot (n : Nat) (m : List (String × J)) :
    parseQuery (deepNot n (.obj m)) = (parseMap m).map (Nat.repeat Query.not n) := by
  induction n generalizing m with
  | zero => cases h : parseMap m <;> simp [deepNot, Nat.repeat, parseQuery, h, Except.map]
  | succ n ih =>
    have e : deepNot (n + 1) (.obj m) = deepNot n (.obj [("$not", .obj m)]) := (repeat_succ' _ n _).symm
    rw [e, ih, parseMap_not]
    cases parseMap m with
    | error e => rfl
    | ok q => exact congrArg Except.ok (repeat_succ' Query.not n q)

theorem toValue_repeat_not (n : Nat) (q : Query String) :
    toValue (Nat.repeat Query.not n q) = deepNot n (toValue q) := by
  induction n with
  | zero => rfl
  | succ n ih =>
    rw [deepNot_succ, ← ih]
    simp [Nat.repeat, toValue, toMap]

end Askar.Wql.Lemmas
