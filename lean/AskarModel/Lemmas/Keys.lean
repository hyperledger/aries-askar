/-
Lemmas for Model/Keys.lean (C08, model A): the key-reference text codec, what a successful
open means, re-wrapping, provisioning.  At the end the toy primitives `Crypto.toy` with `Crypto.toy_laws` and the random
choices `Crypto.toyRnd`, which the witnesses and examples of Props/C08.lean and Props/Ties.lean run on.
-/
import AskarModel.Model.Keys
import AskarModel.Lemmas.Uri

namespace Askar.Keys

open Askar.Uri (Str splitOnce splitOnce_append splitOnce_none)

/-! ### the key-reference text codec -/

theorem level_roundtrip (l : Level) : Level.fromStr l.asStr = some l := by cases l <;> decide

theorem asStr_no_qmark (l : Level) : (0x3F : UInt8) ∉ l.asStr := by cases l <;> decide

theorem split_kdfEncode (l : Level) (d : Str) :
    splitOnce 0x3A (kdfEncode l d) = (sKdf, some (sArgon2i ++ 0x3A :: (l.asStr ++ d))) := by
  simp only [kdfEncode, List.append_assoc, List.singleton_append]
  exact splitOnce_append _ (by decide)

theorem kdfDecode_encode (l : Level) (d : Str) (h : d = [] ∨ ∃ b r, d = 0x3F :: b :: r) :
    kdfDecode (kdfEncode l d) = .ok (l, d) := by
  have e2 : splitOnce 0x3A (sArgon2i ++ 0x3A :: (l.asStr ++ d)) = (sArgon2i, some (l.asStr ++ d)) :=
    splitOnce_append _ (by decide)
  unfold kdfDecode kdfLevelDetail
  simp only [split_kdfEncode, e2, if_true, Option.getD_some]
  rcases h with rfl | ⟨b, r, rfl⟩
  · simp only [List.append_nil, splitOnce_none (asStr_no_qmark l), level_roundtrip]
    simp
  · simp only [splitOnce_append _ (asStr_no_qmark l), level_roundtrip]
    simp

theorem keyref_roundtrip (r : KeyRef) (h : r.WF) : KeyRef.parse r.toUri = .ok r := by
  cases r with
  | raw => rfl
  | unprotected => rfl
  | kdf l d =>
    simp only [KeyRef.toUri, KeyRef.parse, split_kdfEncode, kdfDecode_encode l d h]
    rw [if_neg (by decide)]; simp [Except.map]

/-- `StoreKeyMethod::parse_uri` is `StoreKeyReference::parse_uri` with the detail dropped -/
theorem methodParse_eq (s : Str) : Method.parse s = (KeyRef.parse s).map KeyRef.method := by
  simp only [Method.parse, KeyRef.parse, apply_ite (Except.map KeyRef.method)]
  cases kdfDecode s <;> rfl

theorem method_of_toUri (r : KeyRef) (h : r.WF) : Method.parse r.toUri = .ok r.method := by
  rw [methodParse_eq, keyref_roundtrip r h]
  rfl

theorem kdfLevelDetail_wf {m rest : Str} {l : Level} {d : Str} (h : kdfLevelDetail m rest = .ok (l, d)) :
    d = [] ∨ ∃ b r, d = 0x3F :: b :: r := by
  simp only [kdfLevelDetail] at h
  by_cases h2 : m = sArgon2i
  · rw [if_pos h2] at h
    cases hl : Level.fromStr (splitOnce 0x3F rest).1 with
    | none => simp [hl] at h
    | some l' =>
      simp only [hl, Except.ok.injEq, Prod.mk.injEq] at h
      rcases hd : (splitOnce 0x3F rest).2.getD [] with _ | ⟨b, r⟩
      · simp [hd] at h; exact Or.inl h.2
      · simp [hd] at h; exact Or.inr ⟨b, r, h.2.symm⟩
  · rw [if_neg h2] at h; simp at h

theorem kdfDecode_wf {s : Str} {l : Level} {d : Str} (h : kdfDecode s = .ok (l, d)) :
    d = [] ∨ ∃ b r, d = 0x3F :: b :: r := by
  simp only [kdfDecode] at h
  by_cases h1 : (splitOnce 0x3A s).1 = sKdf
  · rw [if_pos h1] at h; exact kdfLevelDetail_wf h
  · rw [if_neg h1] at h; simp at h

theorem parse_wf {s : Str} {r : KeyRef} (h : KeyRef.parse s = .ok r) : r.WF := by
  simp only [KeyRef.parse] at h
  by_cases h1 : (splitOnce 0x3A s).1 = sRaw
  · rw [if_pos h1] at h; cases h; trivial
  · rw [if_neg h1] at h
    by_cases h2 : (splitOnce 0x3A s).1 = sKdf
    · rw [if_pos h2] at h
      rcases hk : kdfDecode s with e | ⟨l, d⟩
      · simp [hk, Except.map] at h
      · simp [hk, Except.map] at h; subst h; exact kdfDecode_wf hk
    · rw [if_neg h2] at h
      by_cases h3 : (splitOnce 0x3A s).1 = sNone
      · rw [if_pos h3] at h; cases h; trivial
      · rw [if_neg h3] at h; simp at h

theorem compareMethod_iff (r : KeyRef) (m : Method) : r.compareMethod m = true ↔ r.method = m := by
  cases r <;> cases m <;> simp [KeyRef.compareMethod, KeyRef.method]

section Salt
open Askar.Uri

/-! ### hex -/

theorem hexVal_hexLow : ∀ n, n < 16 → hexVal (hexLow n) = some n := by decide +kernel

theorem mem_hexEncode {b : Bytes} {x : UInt8} (h : x ∈ hexEncode b) : ∃ n, n < 16 ∧ x = hexLow n := by
  simp only [hexEncode, List.mem_flatMap] at h
  obtain ⟨y, _, hx⟩ := h
  simp at hx
  rcases hx with e | e
  · exact ⟨y.toNat / 16, by have := y.toNat_lt; omega, e⟩
  · exact ⟨y.toNat % 16, by omega, e⟩

theorem hexDecode_hexEncode (b : Bytes) : hexDecode (hexEncode b) = some b := by
  induction b with
  | nil => rfl
  | cons y r ih =>
    have h1 := hexVal_hexLow (y.toNat / 16) (by have := y.toNat_lt; omega)
    have h2 := hexVal_hexLow (y.toNat % 16) (by omega)
    have : hexEncode (y :: r) = hexLow (y.toNat / 16) :: hexLow (y.toNat % 16) :: hexEncode r := by
      simp [hexEncode]
    rw [this]
    simp only [hexDecode, h1, h2, ih]
    congr 2
    rw [Nat.div_add_mod']; simp

theorem hexDecode_length : ∀ (s : Str) (b : Bytes), hexDecode s = some b → s.length = 2 * b.length
  | [], b, h => by
    simp [hexDecode] at h; subst h; rfl
  | [_], b, h => by simp [hexDecode] at h
  | x :: y :: rest, b, h => by
    simp only [hexDecode] at h
    split at h
    · rename_i vx vy r hx hy hr
      cases h
      have := hexDecode_length rest r hr
      simp [this]; omega
    · cases h

theorem hexLow_plain : ∀ n, n < 16 → formUnchanged (hexLow n) = true ∧ hexLow n < 0x80 := by decide +kernel

theorem hexEncode_plain {b : Bytes} {x : UInt8} (h : x ∈ hexEncode b) : formUnchanged x = true ∧ x < 0x80 := by
  obtain ⟨n, hn, rfl⟩ := mem_hexEncode h
  exact hexLow_plain n hn

/-! ### the salt survives `format!("?salt={}", hex)` → `parse_salt` -/

theorem parseSalt_saltDetail (salt : Bytes) (hlen : salt.length = 16) : parseSalt (saltDetail salt) = .ok salt := by
  -- `?salt=<hex>` is what `into_uri` writes for the options with that one query pair
  let o : Options := { query := [(sSalt, hexEncode salt)] }
  have hw : o.WF = true := by
    simp [Options.WF, o, validUtf8_ascii _ fun x hx => (hexEncode_plain hx).2]
    decide
  have hu : saltDetail salt = intoUriSep [0x26] o.query o := by
    simp [intoUriSep, joinPairs, o, saltDetail, formSerialize_of_unchanged _ fun x hx => (hexEncode_plain hx).1,
      show formSerialize sSalt = sSalt by decide]
    rfl
  rw [parseSalt, hu, roundtrip_amp o hw _ (List.Perm.refl _)]
  simp [mapGet, o, hexDecode_hexEncode, hlen]

end Salt

variable {C : Crypto} {I : Type}

/-! ### `StoreKeyReference::resolve` -/

theorem resolve_raw_ok {pass : PassKey} {sk : Option C.Key} (h : KeyRef.raw.resolve C pass = .ok sk) :
    ∃ k, C.rawKey pass.str = some k ∧ sk = some k := by
  simp only [KeyRef.resolve] at h
  split at h
  · split at h
    · rename_i k hk; cases h; exact ⟨k, hk, rfl⟩
    · cases h
  · cases h

theorem resolve_kdf_ok {l : Level} {d : Str} {pass : PassKey} {sk : Option C.Key} (h : (KeyRef.kdf l d).resolve C pass = .ok sk) :
    ∃ salt, parseSalt d = .ok salt ∧ sk = some (C.kdf l pass.str salt) := by
  simp only [KeyRef.resolve] at h
  split at h
  · rcases hs : parseSalt d with e | salt
    · rw [hs] at h; cases h
    · rw [hs] at h; cases h; exact ⟨salt, rfl, rfl⟩
  · cases h

/-! ### `StoreKeyMethod::resolve` -/

/-- `StoreKeyMethod::resolve` refuses with `Input` only; what it hands out is a well-formed reference that names the method
    and — for the same pass key, the salt being kept in the reference — resolves to the same key, except for a blank raw
    pass key, where `resolve` invents a random key that no pass key denotes -/
theorem resolve_cases (m : Method) (pass : PassKey) (rnd : Rnd C) :
    m.resolve C pass rnd = .error .input ∨
    ∃ sk ref, m.resolve C pass rnd = .ok (sk, ref) ∧ ref.WF ∧ ref.method = m ∧
      ((m = .raw → pass.str ≠ []) → rnd.salt.length = 16 → ref.resolve C pass = .ok sk) := by
  cases m with
  | kdf l =>
    rw [Method.resolve]
    split
    · rename_i hp
      refine Or.inr ⟨_, _, rfl, Or.inr ⟨0x73, _, rfl⟩, rfl, fun _ hsalt => ?_⟩
      simp [KeyRef.resolve, hp, parseSalt_saltDetail _ hsalt, Except.map]
    · exact Or.inl rfl
  | raw =>
    rw [Method.resolve]
    split
    · rename_i hne
      split
      · rename_i k hk
        exact Or.inr ⟨_, _, rfl, trivial, rfl, fun _ _ => by simp [KeyRef.resolve, hne, hk]⟩
      · exact Or.inl rfl
    · rename_i hb
      exact Or.inr ⟨_, _, rfl, trivial, rfl, fun hraw _ => absurd (by simpa using hb) (hraw rfl)⟩
  | unprotected => exact Or.inr ⟨_, _, rfl, trivial, rfl, fun _ _ => rfl⟩

theorem resolve_ref (m : Method) (pass : PassKey) (rnd : Rnd C) (sk : Option C.Key) (ref : KeyRef)
    (h : m.resolve C pass rnd = .ok (sk, ref)) : ref.WF ∧ ref.method = m := by
  rcases resolve_cases m pass rnd with he | ⟨_, _, he, hwf, hm, _⟩
  · rw [he] at h; cases h
  · rw [he] at h; cases h; exact ⟨hwf, hm⟩

theorem resolve_consistent (m : Method) (pass : PassKey) (rnd : Rnd C) (sk : Option C.Key) (ref : KeyRef)
    (h : m.resolve C pass rnd = .ok (sk, ref)) (hraw : m = .raw → pass.str ≠ []) (hsalt : rnd.salt.length = 16) :
    ref.resolve C pass = .ok sk := by
  rcases resolve_cases m pass rnd with he | ⟨_, _, he, _, _, hr⟩
  · rw [he] at h; cases h
  · rw [he] at h; cases h; exact hr hraw hsalt

/-! ### open -/

theorem mem_of_lookup {β : Type} {name : Str} {ps : List (Str × β)} {v : β} (h : lookup name ps = some v) : (name, v) ∈ ps := by
  induction ps with
  | nil => cases h
  | cons e rest ih =>
    obtain ⟨k', v'⟩ := e
    simp only [lookup] at h
    split at h
    · rename_i hk; cases h; simp [hk]
    · exact List.mem_cons_of_mem _ (ih h)

theorem openDb_ok_iff (st : Store C I) (m : Option Method) (pass : PassKey) (p : Option Str) (h : Handle C) :
    openDb C st m pass p = .ok h ↔
      ∃ ref blob, KeyRef.parse st.keyRef = .ok ref ∧ (∀ m', m = some m' → ref.compareMethod m' = true) ∧
        ref.resolve C pass = .ok h.storeKey ∧ h.profile = p.getD st.defaultProfile ∧
        lookup h.profile st.profiles = some blob ∧ C.loadPk h.storeKey blob = .ok h.pk := by
  unfold openDb
  constructor
  · intro hh
    rcases hp : KeyRef.parse st.keyRef with e | ref
    · simp [hp] at hh
    · simp only [hp] at hh
      by_cases hm : methodMismatch ref m = true
      · simp [hm] at hh
      · rw [if_neg hm] at hh
        rcases hr : ref.resolve C pass with e | sk
        · simp [hr] at hh
        · simp only [hr] at hh
          rcases hl : lookup (p.getD st.defaultProfile) st.profiles with _ | blob
          · simp [hl] at hh
          · simp only [hl] at hh
            rcases hk : C.loadPk sk blob with e | pk
            · simp [hk] at hh
            · simp only [hk, Except.ok.injEq] at hh
              subst hh
              refine ⟨ref, blob, rfl, ?_, hr, rfl, hl, hk⟩
              intro m' hm'; subst hm'; simpa [methodMismatch] using hm
  · rintro ⟨ref, blob, hp, hm, hr, hpr, hl, hk⟩
    have hm' : methodMismatch ref m = false := by
      cases m with
      | none => rfl
      | some m' => simp [methodMismatch, hm m' rfl]
    rw [hpr] at hl
    simp only [hp, hm', hr, hl, hk]
    cases h; simp_all

theorem open_storeKey_eq (L : C.Laws) (st : Store C I) (sk0 : Option C.Key) (hs : SealedUnder C sk0 st)
    (m : Option Method) (pass : PassKey) (p : Option Str) (h : Handle C) (ho : openDb C st m pass p = .ok h) :
    h.storeKey = sk0 := by
  obtain ⟨ref, blob, _, _, _, _, hl, hk⟩ := (openDb_ok_iff st m pass p h).mp ho
  obtain ⟨n, pk, hb⟩ := hs _ (mem_of_lookup hl)
  simp only at hb
  rw [hb] at hk
  exact L.ideal _ _ _ _ _ hk

theorem open_iff_right_key (L : C.Laws) (st : Store C I) (sk0 : Option C.Key) (hs : SealedUnder C sk0 st)
    (ref : KeyRef) (hp : KeyRef.parse st.keyRef = .ok ref)
    (m : Option Method) (pass : PassKey) (p : Option Str)
    (hex : (lookup (p.getD st.defaultProfile) st.profiles).isSome) :
    (∃ h, openDb C st m pass p = .ok h) ↔
      (∀ m', m = some m' → ref.method = m') ∧ ref.resolve C pass = .ok sk0 := by
  constructor
  · rintro ⟨h, ho⟩
    have hk := open_storeKey_eq L st sk0 hs m pass p h ho
    obtain ⟨ref', blob, hp', hm, hr, _, _, _⟩ := (openDb_ok_iff st m pass p h).mp ho
    rw [hp] at hp'; cases hp'
    exact ⟨fun m' e => (compareMethod_iff ref m').mp (hm m' e), hk ▸ hr⟩
  · rintro ⟨hm, hr⟩
    obtain ⟨blob, hl⟩ := Option.isSome_iff_exists.mp hex
    obtain ⟨n, pk, hb⟩ := hs _ (mem_of_lookup hl)
    refine ⟨⟨sk0, p.getD st.defaultProfile, pk⟩, (openDb_ok_iff st m pass p _).mpr ⟨ref, blob, hp, ?_, hr, rfl, hl, ?_⟩⟩
    · intro m' e; exact (compareMethod_iff ref m').mpr (hm m' e)
    · rw [show blob = _ from hb]; exact L.load_wrap _ _ _

theorem open_default_profile (st : Store C I) (m : Option Method) (pass : PassKey) (h : Handle C)
    (ho : openDb C st m pass none = .ok h) : h.profile = st.defaultProfile := by
  obtain ⟨_, _, _, _, _, hp, _⟩ := (openDb_ok_iff st m pass none h).mp ho
  simpa using hp

/-! ### rekey -/

theorem rewrap_spec (L : C.Laws) (sk sk' : Option C.Key) (nonce : Nat → Bytes) (i : Nat)
    (ps ps' : List (Str × C.Blob)) (h : rewrap C sk sk' nonce i ps = .ok ps') :
    loadAll C sk' ps' = loadAll C sk ps ∧ ps'.map (·.1) = ps.map (·.1) ∧
    (∀ e ∈ ps', ∃ n pk, e.2 = C.wrapPk sk' n pk) ∧ (∃ r, loadAll C sk ps = .ok r) := by
  induction ps generalizing i ps' with
  | nil => simp [rewrap] at h; subst h; simp [loadAll]
  | cons e rest ih =>
    obtain ⟨name, blob⟩ := e
    simp only [rewrap] at h
    rcases hk : C.loadPk sk blob with e | pk
    · simp [hk] at h
    · simp only [hk] at h
      rcases hr : rewrap C sk sk' nonce (i + 1) rest with e | rest'
      · simp [hr] at h
      · simp only [hr, Except.ok.injEq] at h
        subst h
        obtain ⟨h1, h2, h3, r, h4⟩ := ih (i + 1) rest' hr
        refine ⟨?_, ?_, ?_, ?_⟩
        · simp [loadAll, L.load_wrap, hk, h1]
        · simp [h2]
        · intro e he
          simp only [List.mem_cons] at he
          rcases he with rfl | he
          · exact ⟨_, _, rfl⟩
          · exact h3 e he
        · exact ⟨(name, pk) :: r, by simp [loadAll, hk, h4]⟩

theorem rekeyG_cases (g : Bool) (st : Store C I) (h : Handle C) (m : Method) (pass : PassKey) (rnd : Rnd C) :
    (∃ e, rekeyG g C st h m pass rnd = (st, .error e)) ∨
    ∃ sk' ref ps', m.resolve C pass rnd = .ok (sk', ref) ∧ rewrap C h.storeKey sk' rnd.nonce 0 st.profiles = .ok ps' ∧
      rekeyG g C st h m pass rnd = ({ st with profiles := ps', keyRef := ref.toUri }, .ok { h with storeKey := sk' }) := by
  unfold rekeyG
  split
  · exact Or.inl ⟨_, rfl⟩
  · split
    · exact Or.inl ⟨_, rfl⟩
    · rename_i sk' ref hm
      split
      · exact Or.inl ⟨_, rfl⟩
      · rename_i ps' hw
        exact Or.inr ⟨sk', ref, ps', hm, hw, rfl⟩

theorem rekey_err_unchanged (g : Bool) (st : Store C I) (h : Handle C) (m : Method) (pass : PassKey) (rnd : Rnd C) (e : Err)
    (hr : (rekeyG g C st h m pass rnd).2 = .error e) : (rekeyG g C st h m pass rnd).1 = st := by
  rcases rekeyG_cases g st h m pass rnd with ⟨_, he⟩ | ⟨_, _, _, _, _, he⟩
  · rw [he]
  · rw [he] at hr; cases hr

theorem rekey_ok_ref (g : Bool) (st st' : Store C I) (h h' : Handle C) (m : Method) (pass : PassKey) (rnd : Rnd C)
    (hr : rekeyG g C st h m pass rnd = (st', .ok h')) :
    ∃ ref, m.resolve C pass rnd = .ok (h'.storeKey, ref) ∧ KeyRef.parse st'.keyRef = .ok ref ∧ ref.method = m := by
  rcases rekeyG_cases g st h m pass rnd with ⟨_, he⟩ | ⟨sk', ref, ps', hm, -, he⟩
  · rw [he] at hr; cases hr
  · rw [he] at hr; cases hr
    obtain ⟨hwf, hmeth⟩ := resolve_ref m pass rnd sk' ref hm
    exact ⟨ref, hm, keyref_roundtrip ref hwf, hmeth⟩

theorem rekey_ok_sealed (g : Bool) (L : C.Laws) (st st' : Store C I) (h h' : Handle C) (m : Method) (pass : PassKey) (rnd : Rnd C)
    (hr : rekeyG g C st h m pass rnd = (st', .ok h')) : SealedUnder C h'.storeKey st' := by
  rcases rekeyG_cases g st h m pass rnd with ⟨_, he⟩ | ⟨sk', ref, ps', -, hw, he⟩
  · rw [he] at hr; cases hr
  · rw [he] at hr; cases hr
    obtain ⟨-, -, hsealed, -⟩ := rewrap_spec L _ _ _ _ _ _ hw
    exact hsealed

theorem rekey_ok (g : Bool) (L : C.Laws) (st st' : Store C I) (h h' : Handle C) (m : Method) (pass : PassKey) (rnd : Rnd C)
    (hr : rekeyG g C st h m pass rnd = (st', .ok h')) :
    loadAll C h'.storeKey st'.profiles = loadAll C h.storeKey st.profiles ∧
    (∃ r, loadAll C h.storeKey st.profiles = .ok r) ∧
    st'.profiles.map (·.1) = st.profiles.map (·.1) ∧
    st'.items = st.items ∧ st'.defaultProfile = st.defaultProfile ∧
    SealedUnder C h'.storeKey st' ∧
    h'.profile = h.profile ∧ h'.pk = h.pk ∧
    (∃ ref, m.resolve C pass rnd = .ok (h'.storeKey, ref) ∧ KeyRef.parse st'.keyRef = .ok ref ∧ ref.method = m) := by
  have href := rekey_ok_ref g st st' h h' m pass rnd hr
  rcases rekeyG_cases g st h m pass rnd with ⟨_, he⟩ | ⟨sk', ref, ps', hm, hw, he⟩
  · rw [he] at hr; cases hr
  · rw [he] at hr; cases hr
    obtain ⟨h1, h2, h3, h4⟩ := rewrap_spec L _ _ _ _ _ _ hw
    exact ⟨h1, h4, h2, rfl, rfl, h3, rfl, rfl, href⟩

/-! ### provisioning, re-keying and re-opening -/

theorem initKeys_blank_raw (pass : PassKey) (rnd : Rnd C) (h : pass.str = []) :
    initKeys C .raw pass rnd = .error .input := by
  simp [initKeys, h]

theorem rekey_then_open_only_new (g : Bool) (L : C.Laws) (st st' : Store C I) (h h' : Handle C) (m : Method) (pass : PassKey)
    (rnd : Rnd C) (hr : rekeyG g C st h m pass rnd = (st', .ok h'))
    (m0 : Option Method) (pass0 : PassKey) (p : Option Str) (hh : Handle C)
    (ho : openDb C st' m0 pass0 p = .ok hh) :
    hh.storeKey = h'.storeKey ∧ ∀ m', m0 = some m' → m' = m := by
  have hs := rekey_ok_sealed g L st st' h h' m pass rnd hr
  obtain ⟨ref, -, hparse, hmeth⟩ := rekey_ok_ref g st st' h h' m pass rnd hr
  refine ⟨open_storeKey_eq L st' _ hs m0 pass0 p hh ho, ?_⟩
  obtain ⟨ref', _, hp', hm, _⟩ := (openDb_ok_iff st' m0 pass0 p hh).mp ho
  rw [hparse] at hp'; cases hp'
  intro m' e
  exact ((compareMethod_iff ref m').mp (hm m' e)).symm.trans hmeth

theorem rekey_other_method_refused (g : Bool) (st st' : Store C I) (h h' : Handle C) (m mOld : Method) (pass : PassKey)
    (rnd : Rnd C) (hr : rekeyG g C st h m pass rnd = (st', .ok h')) (hne : mOld ≠ m)
    (pass0 : PassKey) (p : Option Str) : openDb C st' (some mOld) pass0 p = .error .input := by
  obtain ⟨ref, -, hparse, hmeth⟩ := rekey_ok_ref g st st' h h' m pass rnd hr
  have : methodMismatch ref (some mOld) = true := by
    simp only [methodMismatch, Bool.not_eq_true']
    cases hc : ref.compareMethod mOld with
    | false => rfl
    | true => exact absurd (((compareMethod_iff ref mOld).mp hc).symm.trans hmeth) hne
  simp [openDb, hparse, this]

theorem rekey_then_open (g : Bool) (L : C.Laws) (st st' : Store C I) (h h' : Handle C) (m : Method) (pass : PassKey)
    (rnd : Rnd C) (hsalt : rnd.salt.length = 16) (hraw : m = .raw → pass.str ≠ [])
    (hr : rekeyG g C st h m pass rnd = (st', .ok h'))
    (p : Option Str) (hex : (lookup (p.getD st'.defaultProfile) st'.profiles).isSome) :
    ∃ hh, openDb C st' (some m) pass p = .ok hh ∧ hh.storeKey = h'.storeKey := by
  have hs := rekey_ok_sealed g L st st' h h' m pass rnd hr
  obtain ⟨ref, hres, hparse, hmeth⟩ := rekey_ok_ref g st st' h h' m pass rnd hr
  have := (open_iff_right_key L st' _ hs ref hparse (some m) pass p hex).mpr
    ⟨fun m' e => by cases e; exact hmeth, resolve_consistent m pass rnd _ ref hres hraw hsalt⟩
  obtain ⟨hh, ho⟩ := this
  exact ⟨hh, ho, open_storeKey_eq L st' _ hs _ _ _ hh ho⟩

theorem rekey_blank_raw_refused (st : Store C I) (h : Handle C) (pass : PassKey) (rnd : Rnd C) (hb : pass.str = []) :
    rekeyG true C st h .raw pass rnd = (st, .error .input) := by
  simp [rekeyG, hb]

/-! ### a toy instance of the primitives (non-vacuity of `Crypto.Laws`) -/

/-- keys are numbers, a blob remembers the key it was sealed under -/
abbrev Crypto.toy : Crypto where
  Key := Nat
  PK := Nat
  Blob := Option Nat × Nat
  kdf l p s := (match l with | .interactive => 1 | .moderate => 2) + 3 * (p.length + s.length)
  rawKey s := if s.length = 44 then some s.length else none
  wrapPk sk _ pk := (sk, pk)
  loadPk sk b := if sk = b.1 then .ok b.2 else .error .encryption

theorem Crypto.toy_laws : Crypto.toy.Laws where
  load_wrap := by intro sk n pk; show (if sk = sk then Except.ok pk else Except.error Err.encryption) = Except.ok pk; simp
  ideal := by
    intro sk sk' n pk pk' h
    have h' : (if sk' = sk then Except.ok pk else Except.error Err.encryption) = (Except.ok pk' : Except Err Nat) := h
    by_cases e : sk' = sk
    · exact e
    · rw [if_neg e] at h'; cases h'

def Crypto.toyRnd : Rnd Crypto.toy where
  salt := List.replicate 16 7
  key := (99 : Nat)
  pk := (5 : Nat)
  nonce := fun _ => []
  profileName := [0x75]

end Askar.Keys
