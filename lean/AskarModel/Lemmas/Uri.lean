/-
Lemmas for Model/Uri.lean (C08, model B): the codecs invert each other on the alphabet
`into_uri` writes, `from_utf8_lossy` is the identity on valid UTF-8, and the staged proof of the
round trip `parse_uri (into_uri o) = o`.
-/
import AskarModel.Model.Uri

namespace Askar.Uri

/-- A string literal unifies with `String.ofList _`, so rewriting with this turns `lit "…"` into a `map` over the characters
    without running `String.toList`, whose UTF-8 decoding of a literal takes the kernel time quadratic in the length. -/
theorem lit_ofList (cs : List Char) : lit (String.ofList cs) = cs.map fun c => UInt8.ofNat c.toNat := by
  rw [lit, String.toList_ofList]

/-! ### `splitn(2, c)` and `split(c)` -/

theorem splitOnce_prefix {c : UInt8} {a : Str} (t : Str) (h : c ∉ a) :
    splitOnce c (a ++ t) = (a ++ (splitOnce c t).1, (splitOnce c t).2) := by
  induction a with
  | nil => rfl
  | cons x xs ih =>
    simp only [List.mem_cons, not_or] at h
    simp [splitOnce, Ne.symm h.1, ih h.2]

theorem splitOnce_append {c : UInt8} {a : Str} (b : Str) (h : c ∉ a) :
    splitOnce c (a ++ c :: b) = (a, some b) := by
  simp [splitOnce_prefix _ h, splitOnce]

theorem splitOnce_none {c : UInt8} {a : Str} (h : c ∉ a) : splitOnce c a = (a, none) := by
  simpa [splitOnce] using splitOnce_prefix [] h

theorem splitAll_eq (c : UInt8) (s : Str) :
    splitAll c s = match splitOnce c s with
      | (p, none) => [p]
      | (p, some r) => p :: splitAll c r := by
  induction s with
  | nil => rfl
  | cons b bs ih =>
    rw [splitAll, splitOnce]
    split
    · rfl
    · rw [ih]; rcases splitOnce c bs with ⟨p, _ | r⟩ <;> rfl

theorem splitAll_none {c : UInt8} {a : Str} (h : c ∉ a) : splitAll c a = [a] := by
  rw [splitAll_eq, splitOnce_none h]

theorem splitAll_append {c : UInt8} {a : Str} (b : Str) (h : c ∉ a) : splitAll c (a ++ c :: b) = a :: splitAll c b := by
  rw [splitAll_eq, splitOnce_append b h]

/-! ### percent-encoding -/

theorem hexVal_hexUp : ∀ n, n < 16 → hexVal (hexUp n) = some n := by decide

theorem pctDecode_cons_ne {a : UInt8} (t : Str) (h : a ≠ 0x25) : pctDecode (a :: t) = a :: pctDecode t := by
  match t with
  | [] => simp [pctDecode]
  | [c] => simp [pctDecode]
  | c :: d :: r => simp [pctDecode, h]

theorem pctDecode_pctByte (b : UInt8) (t : Str) : pctDecode (pctByte b ++ t) = b :: pctDecode t := by
  have h1 := hexVal_hexUp (b.toNat / 16) (by have := b.toNat_lt; omega)
  have h2 := hexVal_hexUp (b.toNat % 16) (by omega)
  simp only [pctByte, List.cons_append, List.nil_append, pctDecode, h1, h2, if_true]
  congr 1
  rw [Nat.div_add_mod' ]
  simp

theorem isAlnum_ne {b c : UInt8} (hb : isAlnum b = true) (hc : isAlnum c = false := by decide) : b ≠ c :=
  fun e => by rw [e, hc] at hb; cases hb

theorem pctDecode_pctEncode_append (s t : Str) : pctDecode (pctEncode s ++ t) = s ++ pctDecode t := by
  induction s with
  | nil => simp [pctEncode]
  | cons b bs ih =>
    simp only [pctEncode, List.flatMap_cons] at ih ⊢
    by_cases hb : isAlnum b = true
    · simp only [hb, if_true, List.cons_append, List.nil_append]
      rw [pctDecode_cons_ne _ (isAlnum_ne hb), ih]
    · simp only [hb, List.append_assoc]
      rw [if_neg (by simp), pctDecode_pctByte, ih]; rfl

theorem pctDecode_pctEncode (s : Str) : pctDecode (pctEncode s) = s := by
  have := pctDecode_pctEncode_append s []
  simpa [pctDecode] using this

theorem hexUp_alnum : ∀ n, n < 16 → isAlnum (hexUp n) = true := by decide

theorem mem_pctByte {b x : UInt8} (h : x ∈ pctByte b) : x = 0x25 ∨ isAlnum x = true := by
  have h1 := hexUp_alnum (b.toNat / 16) (by have := b.toNat_lt; omega)
  have h2 := hexUp_alnum (b.toNat % 16) (by omega)
  simp only [pctByte, List.mem_cons, List.not_mem_nil, or_false] at h
  rcases h with e | e | e
  · exact Or.inl e
  · exact Or.inr (e ▸ h1)
  · exact Or.inr (e ▸ h2)

theorem mem_pctEncode {s : Str} {x : UInt8} (h : x ∈ pctEncode s) : x = 0x25 ∨ isAlnum x = true := by
  simp only [pctEncode, List.mem_flatMap] at h
  obtain ⟨b, _, hx⟩ := h
  split at hx
  · rename_i hb
    rw [List.mem_singleton.1 hx]
    exact Or.inr hb
  · exact mem_pctByte hx

theorem not_mem_pctEncode {s : Str} {c : UInt8} (h1 : c ≠ 0x25 := by decide) (h2 : isAlnum c = false := by decide) :
    c ∉ pctEncode s := by
  intro h
  rcases mem_pctEncode h with e | e
  · exact h1 e
  · simp [h2] at e

theorem pctEncode_ne_nil {s : Str} (h : s ≠ []) : pctEncode s ≠ [] := by
  match s, h with
  | b :: r, _ =>
    simp only [pctEncode, List.flatMap_cons]
    by_cases hb : isAlnum b = true <;> simp [hb, pctByte]

theorem pctDecode_of_noEscape (s : Str) (h : hasEscape s = false) : pctDecode s = s := by
  induction s with
  | nil => rfl
  | cons b t ih =>
    have ht : hasEscape t = false := by
      simp only [hasEscape, Bool.or_eq_false_iff] at h; exact h.2
    match t, h, ih ht with
    | [], _, _ => rfl
    | [c], _, _ => rfl
    | c :: d :: r, h, ih' =>
      simp only [hasEscape, Bool.or_eq_false_iff] at h
      have h1 := h.1
      by_cases hb : b = 0x25
      · subst hb
        simp only [decide_true, Bool.true_and, Bool.and_eq_false_iff] at h1
        rcases hc : hexVal c with _ | x
        · simp [pctDecode, hc, ih']
        · rcases hd : hexVal d with _ | y
          · simp [pctDecode, hc, hd, ih']
          · simp [hc, hd] at h1
      · simp [pctDecode, hb, ih']

/-! ### `from_utf8_lossy`, and `percent_decode` followed by it -/

/-- The cases are those of `validUtf8`: the empty text; an ASCII byte; a lead byte of a two-, three-, four-byte sequence
    with well-formed continuation (cases 3, 5, 7: `lossyStep` accepts the same bytes); the same lead bytes with too few
    bytes behind them (4, 6, 8) and a byte that is no lead byte (9), which `validUtf8` rejects. -/
theorem lossy_of_valid (s : Str) (h : validUtf8 s = true) : lossy s = s := by
  show lossyAux 0 s = s
  fun_induction validUtf8 s with
  | case1 => simp [lossyAux]
  | case2 b0 rest hb ih =>
    simp [lossyAux, lossyStep, hb, ih h]
  | case3 b0 hb hr b1 r ih =>
    simp only [Bool.and_eq_true] at h
    simp [lossyAux, lossyStep, hb, hr, h.1, ih h.2]
  | case4 b0 rest hb hr hne =>
    simp at h
  | case5 b0 hb h2 h3 b1 b2 r ih =>
    simp only [Bool.and_eq_true] at h
    simp [lossyAux, lossyStep, hb, h2, h3, h.1.1, h.1.2, ih h.2]
  | case6 => simp at h
  | case7 b0 hb h2 h3 h4 b1 b2 b3 r ih =>
    simp only [Bool.and_eq_true] at h
    simp [lossyAux, lossyStep, hb, h2, h3, h4, h.1.1.1, h.1.1.2, h.1.2, ih h.2]
  | case8 => simp at h
  | case9 => simp at h

theorem dec_nil : dec [] = [] := rfl

theorem dec_pctEncode (s : Str) (h : validUtf8 s = true) : dec (pctEncode s) = s := by
  rw [dec, pctDecode_pctEncode, lossy_of_valid s h]

theorem dec_verbatim (s : Str) (h : validUtf8 s = true) (he : hasEscape s = false) : dec s = s := by
  rw [dec, pctDecode_of_noEscape s he, lossy_of_valid s h]

theorem dec_slash (t : Str) : dec (0x2F :: t) = 0x2F :: lossy (pctDecode t) := by
  unfold dec
  rw [pctDecode_cons_ne t (by decide)]
  simp [lossy, lossyAux, lossyStep]

/-- what `parse_uri` takes for the path: nothing, or a text beginning with `/` -/
theorem dropWhile_slash (l : Str) :
    l.dropWhile (· ≠ 0x2F) = [] ∨ ∃ t, l.dropWhile (· ≠ 0x2F) = 0x2F :: t := by
  induction l with
  | nil => exact Or.inl rfl
  | cons a t ih =>
    by_cases h : a = 0x2F
    · subst h; exact Or.inr ⟨t, by simp [List.dropWhile]⟩
    · simpa [List.dropWhile, h] using ih

theorem lossyStep_cont (b0 : UInt8) (rest : Str) (h : isCont b0 = true) : (lossyStep b0 rest).2 = false := by
  have h' : 0x80 ≤ b0.toNat ∧ b0.toNat ≤ 0xBF := by simpa [isCont, UInt8.le_iff_toNat_le] using h
  unfold lossyStep
  simp only [UInt8.lt_iff_toNat_lt, UInt8.le_iff_toNat_le, UInt8.reduceToNat]
  -- 80..BF is above ASCII and below every range of lead bytes
  rw [if_neg (by omega), if_neg (by omega), if_neg (by omega), if_neg (by omega)]

/-! ### `form_urlencoded` -/

theorem formUnchanged_ne {b c : UInt8} (hb : formUnchanged b = true) (hc : formUnchanged c = false := by decide) : b ≠ c :=
  fun e => by rw [e, hc] at hb; cases hb

theorem replacePlus_append (a b : Str) : replacePlus (a ++ b) = replacePlus a ++ replacePlus b := by
  simp [replacePlus]

theorem replacePlus_pctByte (b : UInt8) : replacePlus (pctByte b) = pctByte b := by
  have h1 : hexUp (b.toNat / 16) ≠ 0x2B := isAlnum_ne (hexUp_alnum _ (by have := b.toNat_lt; omega))
  have h2 : hexUp (b.toNat % 16) ≠ 0x2B := isAlnum_ne (hexUp_alnum _ (by omega))
  simp [replacePlus, pctByte, h1, h2]

theorem formDecode_serialize_append (s t : Str) :
    pctDecode (replacePlus (formSerialize s ++ t)) = s ++ pctDecode (replacePlus t) := by
  induction s with
  | nil => simp [formSerialize]
  | cons b bs ih =>
    have hcons : formSerialize (b :: bs) = (if formUnchanged b then [b] else if b = 0x20 then [0x2B] else pctByte b) ++ formSerialize bs := by
      simp [formSerialize]
    rw [hcons, List.append_assoc, replacePlus_append]
    by_cases hb : formUnchanged b = true
    · simp only [hb, if_true]
      have e : replacePlus [b] = [b] := by simp [replacePlus, (formUnchanged_ne hb : b ≠ 0x2B)]
      rw [e, List.singleton_append, pctDecode_cons_ne _ (formUnchanged_ne hb), ih]; rfl
    · by_cases hs : b = 0x20
      · have e : replacePlus [0x2B] = [0x20] := by simp [replacePlus]
        rw [if_neg hb, if_pos hs, e, List.singleton_append, pctDecode_cons_ne _ (by decide), ih, hs]; rfl
      · simp only [hb, hs, if_false]
        rw [if_neg (by simp), replacePlus_pctByte, pctDecode_pctByte, ih]; rfl

theorem formDecode_serialize (s : Str) (h : validUtf8 s = true) : formDecode (formSerialize s) = s := by
  have := formDecode_serialize_append s []
  rw [List.append_nil, show pctDecode (replacePlus []) = [] from rfl, List.append_nil] at this
  rw [formDecode, this, lossy_of_valid s h]

theorem formSerialize_of_unchanged (s : Str) (h : ∀ x ∈ s, formUnchanged x = true) : formSerialize s = s := by
  induction s with
  | nil => rfl
  | cons b r ih =>
    have := ih fun x hx => h x (by simp [hx])
    simp only [formSerialize, List.flatMap_cons] at this ⊢
    rw [this, if_pos (h b (by simp))]; rfl

theorem mem_formSerialize {s : Str} {x : UInt8} (h : x ∈ formSerialize s) :
    x = 0x25 ∨ x = 0x2B ∨ formUnchanged x = true := by
  simp only [formSerialize, List.mem_flatMap] at h
  obtain ⟨b, _, hx⟩ := h
  split at hx
  · rename_i hb
    rw [List.mem_singleton.1 hx]
    exact Or.inr (Or.inr hb)
  · split at hx
    · exact Or.inr (Or.inl (List.mem_singleton.1 hx))
    · rcases mem_pctByte hx with e | e
      · exact Or.inl e
      · exact Or.inr (Or.inr (by simp [formUnchanged, e]))

theorem not_mem_formSerialize {s : Str} {c : UInt8} (h1 : c ≠ 0x25 := by decide) (h2 : c ≠ 0x2B := by decide)
    (h3 : formUnchanged c = false := by decide) : c ∉ formSerialize s := by
  intro h
  rcases mem_formSerialize h with e | e | e
  · exact h1 e
  · exact h2 e
  · simp [h3] at e

/-! ### one `key=value` pair and the joined query -/

def pairStr (kv : Str × Str) : Str := formSerialize kv.1 ++ 0x3D :: formSerialize kv.2

theorem amp_not_mem_pairStr (kv : Str × Str) : (0x26 : UInt8) ∉ pairStr kv := by
  simp only [pairStr, List.mem_append, List.mem_cons, not_or]
  exact ⟨not_mem_formSerialize, by decide, not_mem_formSerialize⟩

theorem pairStr_ne_nil (kv : Str × Str) : pairStr kv ≠ [] := by simp [pairStr]

theorem parsePiece_pairStr (kv : Str × Str) (h1 : validUtf8 kv.1 = true) (h2 : validUtf8 kv.2 = true) :
    (formDecode (splitOnce 0x3D (pairStr kv)).1, formDecode ((splitOnce 0x3D (pairStr kv)).2.getD [])) = kv := by
  have : splitOnce 0x3D (pairStr kv) = (formSerialize kv.1, some (formSerialize kv.2)) :=
    splitOnce_append _ not_mem_formSerialize
  rw [this]
  simp [formDecode_serialize, h1, h2]

theorem formParse_single (kv : Str × Str) (h1 : validUtf8 kv.1 = true) (h2 : validUtf8 kv.2 = true) :
    formParse (pairStr kv) = [kv] := by
  simp only [formParse, splitAll_none (amp_not_mem_pairStr kv)]
  have hne := List.isEmpty_eq_false_iff.mpr (pairStr_ne_nil kv)
  simp only [List.filter_cons, hne, Bool.not_false, if_true, List.filter_nil, List.map_cons, List.map_nil]
  rw [parsePiece_pairStr kv h1 h2]

theorem formParse_cons (kv : Str × Str) (q : Str) (h1 : validUtf8 kv.1 = true) (h2 : validUtf8 kv.2 = true) :
    formParse (pairStr kv ++ 0x26 :: q) = kv :: formParse q := by
  simp only [formParse, splitAll_append _ (amp_not_mem_pairStr kv)]
  have hne := List.isEmpty_eq_false_iff.mpr (pairStr_ne_nil kv)
  simp only [List.filter_cons, hne, Bool.not_false, if_true, List.map_cons]
  rw [parsePiece_pairStr kv h1 h2]

theorem joinPairs_single (sep : Str) (kv : Str × Str) : joinPairs sep [kv] = pairStr kv := by
  simp [joinPairs, pairStr]

theorem joinPairs_cons2 (sep : Str) (kv kv' : Str × Str) (rest : List (Str × Str)) :
    joinPairs sep (kv :: kv' :: rest) = pairStr kv ++ sep ++ joinPairs sep (kv' :: rest) := by
  simp [joinPairs, pairStr]

theorem formParse_joinPairs_amp (qs : List (Str × Str))
    (hv : ∀ kv ∈ qs, validUtf8 kv.1 = true ∧ validUtf8 kv.2 = true) :
    formParse (joinPairs [0x26] qs) = qs := by
  induction qs with
  | nil => simp [joinPairs, formParse, splitAll]
  | cons kv rest ih =>
    have hkv := hv kv (by simp)
    match rest, ih with
    | [], _ => rw [joinPairs_single]; exact formParse_single kv hkv.1 hkv.2
    | kv' :: rest', ih =>
      rw [joinPairs_cons2, List.append_assoc, List.singleton_append, formParse_cons kv _ hkv.1 hkv.2,
        ih (fun x hx => hv x (by simp [hx]))]

theorem mem_joinPairs_amp {qs : List (Str × Str)} {x : UInt8} (h : x ∈ joinPairs [0x26] qs) :
    x = 0x26 ∨ x = 0x3D ∨ x = 0x25 ∨ x = 0x2B ∨ formUnchanged x = true := by
  induction qs with
  | nil => simp [joinPairs] at h
  | cons kv rest ih =>
    have hp : ∀ y ∈ pairStr kv, y = 0x3D ∨ y = 0x25 ∨ y = 0x2B ∨ formUnchanged y = true := by
      intro y hy
      simp only [pairStr, List.mem_append, List.mem_cons] at hy
      rcases hy with hy | hy | hy
      · exact Or.inr (mem_formSerialize hy)
      · exact Or.inl hy
      · exact Or.inr (mem_formSerialize hy)
    match rest, ih with
    | [], _ => rw [joinPairs_single] at h; exact Or.inr (hp x h)
    | kv' :: rest', ih =>
      rw [joinPairs_cons2] at h
      simp only [List.mem_append, List.mem_singleton] at h
      rcases h with (h | h) | h
      · exact Or.inr (hp x h)
      · exact Or.inl h
      · exact ih h

/-! ### the query map -/

theorem mapGet_filter_key (m : QueryMap) (q : Str → Bool) (k : Str) :
    mapGet (m.filter fun e => q e.1) k = if q k then mapGet m k else none := by
  unfold mapGet
  rw [List.find?_filter]
  by_cases hq : q k = true
  · rw [if_pos hq]
    congr 2
    funext a
    by_cases ha : a.1 = k
    · simp [ha, hq]
    · simp [ha]
  · rw [if_neg hq, List.find?_eq_none.2 (fun a _ => by by_cases ha : a.1 = k <;> simp [ha, hq]), Option.map_none]

theorem mapGet_filter_notin (m : QueryMap) (ks : List Str) (k : Str) (h : k ∉ ks := by decide) :
    mapGet (m.filter fun e => !ks.contains e.1) k = mapGet m k :=
  (mapGet_filter_key m (fun x => !ks.contains x) k).trans (if_pos (by simpa using h))

theorem mapGet_filter_mem (m : QueryMap) (ks : List Str) (k : Str) (h : k ∈ ks) :
    mapGet (m.filter fun e => !ks.contains e.1) k = none :=
  (mapGet_filter_key m (fun x => !ks.contains x) k).trans (if_neg (by simpa using h))

theorem mapGet_some_mem {m : QueryMap} {k v : Str} (h : mapGet m k = some v) : ∃ kv ∈ m, kv.1 = k ∧ kv.2 = v := by
  unfold mapGet at h
  cases hf : m.find? (fun e => e.1 = k) with
  | none => simp [hf] at h
  | some kv =>
    simp only [hf, Option.map_some, Option.some.injEq] at h
    exact ⟨kv, List.mem_of_find?_eq_some hf, by simpa using List.find?_some hf, h⟩

theorem Options.Equiv.scheme_eq {a b : Options} (h : a.Equiv b) : a.scheme = b.scheme := h.1

theorem Options.Equiv.query_perm {a b : Options} (h : a.Equiv b) : a.query.Perm b.query := h.2.2.2.2.2.2

/-! ### the staged round-trip proof

What `into_uri` writes is cut into the parts that `parse_uri` takes off one after the other. -/

def schemePart (o : Options) : Str := if o.scheme.isEmpty then [] else pctEncode o.scheme ++ [0x3A, 0x2F, 0x2F]
def userPart (o : Options) : Str :=
  if o.user.isEmpty && o.password.isEmpty then [] else pctEncode o.user ++ [0x3A] ++ pctEncode o.password ++ [0x40]
def queryPart (sep : Str) (qs : List (Str × Str)) : Str := if qs.isEmpty then [] else 0x3F :: joinPairs sep qs
def fragPart (o : Options) : Str := if o.fragment.isEmpty then [] else 0x23 :: pctEncode o.fragment
def authPart (o : Options) : Str := userPart o ++ (o.host ++ o.path)

theorem intoUriSep_eq (sep : Str) (qs : List (Str × Str)) (o : Options) :
    intoUriSep sep qs o = (schemePart o ++ (authPart o ++ queryPart sep qs)) ++ fragPart o := by
  simp only [intoUriSep, schemePart, userPart, queryPart, fragPart, authPart, List.append_assoc]

theorem schemePart_nil {o : Options} (h : o.scheme = []) : schemePart o = [] := by simp [schemePart, h]

theorem schemePart_ne {o : Options} (h : o.scheme ≠ []) : schemePart o = pctEncode o.scheme ++ [0x3A, 0x2F, 0x2F] := by
  simp [schemePart, h]

theorem userPart_none {o : Options} (h : noUserInfo o = true) : userPart o = [] := by
  have h' : (o.user.isEmpty && o.password.isEmpty) = true := h
  simp [userPart, h']

theorem userPart_some {o : Options} (h : noUserInfo o = false) :
    userPart o = pctEncode o.user ++ 0x3A :: (pctEncode o.password ++ [0x40]) := by
  have h' : (o.user.isEmpty && o.password.isEmpty) = false := h
  simp [userPart, h']

theorem queryPart_nil (sep : Str) : queryPart sep [] = [] := rfl

theorem queryPart_ne {sep : Str} {qs : List (Str × Str)} (h : qs ≠ []) : queryPart sep qs = 0x3F :: joinPairs sep qs := by
  simp [queryPart, h]

theorem fragPart_nil {o : Options} (h : o.fragment = []) : fragPart o = [] := by simp [fragPart, h]

theorem fragPart_ne {o : Options} (h : o.fragment ≠ []) : fragPart o = 0x23 :: pctEncode o.fragment := by
  simp [fragPart, h]

/-- the clauses of `Options.WF` as propositions -/
structure WFp (o : Options) : Prop where
  vs : validUtf8 o.scheme = true
  vu : validUtf8 o.user = true
  vp : validUtf8 o.password = true
  vh : validUtf8 o.host = true
  vpa : validUtf8 o.path = true
  vf : validUtf8 o.fragment = true
  vq : ∀ kv ∈ o.query, validUtf8 kv.1 = true ∧ validUtf8 kv.2 = true
  nd : (o.query.map (·.1)).Nodup
  h1 : (0x2F : UInt8) ∉ o.host
  h2 : (0x3F : UInt8) ∉ o.host
  h3 : (0x23 : UInt8) ∉ o.host
  h4 : hasEscape o.host = false
  p0 : o.path = [] ∨ o.path.head? = some 0x2F
  p2 : (0x3F : UInt8) ∉ o.path
  p3 : (0x23 : UInt8) ∉ o.path
  p4 : hasEscape o.path = false
  hat : noUserInfo o = true → (0x40 : UInt8) ∉ o.host ++ o.path
  sc : o.scheme = [] →
    (noUserInfo o = true → ((0x3A : UInt8) ∉ o.host ++ o.path ∨ o.host.head? = some 0x3A)) ∧
    (noUserInfo o = false → o.user = [])
  sl : o.scheme ≠ [] → noUserInfo o = true → o.host = [] → startsWith2Slash o.path = false

theorem wf_iff {o : Options} : o.WF = true ↔ WFp o := by
  simp only [Options.WF, Bool.and_eq_true, Bool.or_eq_true, Bool.not_eq_true', decide_eq_true_eq,
    List.all_eq_true, List.contains_eq_mem, decide_eq_false_iff_not, List.isEmpty_iff]
  constructor
  · intro ⟨⟨⟨⟨⟨⟨⟨⟨⟨⟨⟨⟨⟨⟨⟨⟨⟨⟨vs, vu⟩, vp⟩, vh⟩, vpa⟩, vf⟩, vq⟩, nd⟩, h1⟩, h2⟩, h3⟩, h4⟩, p0⟩, p2⟩, p3⟩, p4⟩, hat⟩, sc⟩, sl⟩
    refine ⟨vs, vu, vp, vh, vpa, vf, vq, nd, h1, h2, h3, h4, p0, p2, p3, p4, ?_, ?_, ?_⟩
    · intro hn; rcases hat with h | h
      · simp [hn] at h
      · exact h
    · intro hs
      rcases sc with h | h
      · simp [hs] at h
      · constructor
        · intro hn; simpa [hn] using h
        · intro hn; simpa [hn, List.isEmpty_iff] using h
    · intro hs hn hh
      rcases sl with ((h | h) | h) | h
      · exact absurd h hs
      · simp [hn] at h
      · simp [hh] at h
      · exact h
  · intro w
    refine ⟨⟨⟨⟨⟨⟨⟨⟨⟨⟨⟨⟨⟨⟨⟨⟨⟨⟨w.vs, w.vu⟩, w.vp⟩, w.vh⟩, w.vpa⟩, w.vf⟩, w.vq⟩, w.nd⟩, w.h1⟩, w.h2⟩, w.h3⟩, w.h4⟩, w.p0⟩, w.p2⟩,
      w.p3⟩, w.p4⟩, ?_⟩, ?_⟩, ?_⟩
    · cases h : noUserInfo o with
      | false => exact Or.inl rfl
      | true => exact Or.inr (w.hat h)
    · by_cases hs : o.scheme = []
      · right
        cases h : noUserInfo o with
        | true => rcases (w.sc hs).1 h with h' | h' <;> simp [h']
        | false => simp [(w.sc hs).2 h]
      · left; simpa [List.isEmpty_iff] using hs
    · by_cases hs : o.scheme = []
      · exact Or.inl (Or.inl (Or.inl hs))
      · cases h : noUserInfo o with
        | false => exact Or.inl (Or.inl (Or.inr rfl))
        | true =>
          by_cases hh : o.host = []
          · exact Or.inr (w.sl hs h hh)
          · exact Or.inl (Or.inr (by simpa [List.isEmpty_iff] using hh))

/-! #### which bytes the written parts can contain -/

theorem not_mem_queryPart {qs : List (Str × Str)} {c : UInt8} (h0 : c ≠ 0x3F := by decide) (h1 : c ≠ 0x26 := by decide)
    (h2 : c ≠ 0x3D := by decide) (h3 : c ≠ 0x25 := by decide) (h4 : c ≠ 0x2B := by decide)
    (h5 : formUnchanged c = false := by decide) : c ∉ queryPart [0x26] qs := by
  by_cases hq : qs = []
  · simp [hq, queryPart_nil]
  · rw [queryPart_ne hq]
    intro h
    rcases List.mem_cons.1 h with h | h
    · exact h0 h
    · rcases mem_joinPairs_amp h with e | e | e | e | e
      · exact h1 e
      · exact h2 e
      · exact h3 e
      · exact h4 e
      · simp [h5] at e

theorem not_mem_userPart {o : Options} {c : UInt8} (h1 : c ≠ 0x25 := by decide) (h2 : isAlnum c = false := by decide)
    (h3 : c ≠ 0x3A := by decide) (h4 : c ≠ 0x40 := by decide) : c ∉ userPart o := by
  cases hn : noUserInfo o with
  | true => simp [userPart_none hn]
  | false =>
    simp only [userPart_some hn, List.mem_append, List.mem_cons, List.not_mem_nil, or_false, not_or]
    exact ⟨not_mem_pctEncode h1 h2, h3, not_mem_pctEncode h1 h2, h4⟩

theorem not_mem_schemePart {o : Options} {c : UInt8} (h1 : c ≠ 0x25 := by decide) (h2 : isAlnum c = false := by decide)
    (h3 : c ≠ 0x3A := by decide) (h4 : c ≠ 0x2F := by decide) : c ∉ schemePart o := by
  by_cases hs : o.scheme = []
  · simp [schemePart_nil hs]
  · simp only [schemePart_ne hs, List.mem_append, List.mem_cons, List.not_mem_nil, or_false, not_or]
    exact ⟨not_mem_pctEncode h1 h2, h3, h4, h4⟩

/-! #### stage 1: the fragment -/

theorem stage_fragment (o : Options) (w : WFp o) (qs : List (Str × Str)) :
    let body := schemePart o ++ (authPart o ++ queryPart [0x26] qs)
    (splitOnce 0x23 (body ++ fragPart o)).1 = body ∧
    dec ((splitOnce 0x23 (body ++ fragPart o)).2.getD []) = o.fragment := by
  intro body
  have hb : (0x23 : UInt8) ∉ body := by
    simp only [body, authPart, List.mem_append, not_or]
    exact ⟨not_mem_schemePart, ⟨not_mem_userPart, w.h3, w.p3⟩, not_mem_queryPart⟩
  by_cases hf : o.fragment = []
  · rw [fragPart_nil hf, List.append_nil, splitOnce_none hb, hf]
    exact ⟨rfl, dec_nil⟩
  · rw [fragPart_ne hf, splitOnce_append _ hb]
    exact ⟨rfl, dec_pctEncode _ w.vf⟩

/-! #### stage 2: the scheme -/

theorem trimSlashes_of_not {s : Str} (h : startsWith2Slash s = false) : trimSlashes s = s := by
  match s with
  | [] => rfl
  | [x] => simp [trimSlashes]
  | x :: y :: r =>
    by_cases hx : x = 0x2F
    · by_cases hy : y = 0x2F
      · subst hx; subst hy; simp [startsWith2Slash] at h
      · subst hx; rw [trimSlashes]; intro rest e; simp at e; exact hy e.1
    · rw [trimSlashes]; intro rest e; simp at e; exact hx e.1

theorem startsWith2Slash_cons_ne {x : UInt8} (t : Str) (h : x ≠ 0x2F) : startsWith2Slash (x :: t) = false := by
  unfold startsWith2Slash
  split
  · rename_i heq; exact absurd (List.cons.inj heq).1 h
  · rfl

theorem startsWith2Slash_pctEncode_colon (s t : Str) : startsWith2Slash (pctEncode s ++ 0x3A :: t) = false := by
  match s with
  | [] => exact startsWith2Slash_cons_ne _ (by decide)
  | b :: r =>
    simp only [pctEncode, List.flatMap_cons]
    by_cases hb : isAlnum b = true
    · simp only [hb, if_true, List.cons_append, List.nil_append]
      exact startsWith2Slash_cons_ne _ (isAlnum_ne hb)
    · simp only [hb, pctByte]
      exact startsWith2Slash_cons_ne _ (by decide)

theorem startsWith2Slash_append {p t : Str} (hp : startsWith2Slash p = false) (ht : t.head? ≠ some 0x2F) :
    startsWith2Slash (p ++ t) = false := by
  match p, t with
  | [], [] => rfl
  | [], a :: r => exact startsWith2Slash_cons_ne _ fun e => ht (by simp [e])
  | [x], [] => rw [List.append_nil]; exact hp
  | [x], a :: r =>
    unfold startsWith2Slash
    split
    · rename_i heq; simp at heq; exact absurd (by simp [heq.2.1]) ht
    · rfl
  | x :: y :: r, t =>
    unfold startsWith2Slash at hp ⊢
    split
    · rename_i heq; simp at heq; simp [heq.1, heq.2.1] at hp
    · rfl

theorem queryPart_head_ne_slash (sep : Str) (qs : List (Str × Str)) : (queryPart sep qs).head? ≠ some 0x2F := by
  by_cases hq : qs = []
  · simp [hq, queryPart_nil]
  · simp [queryPart_ne hq]

theorem no2slash_rest (o : Options) (w : WFp o) (hs : o.scheme ≠ []) (qs : List (Str × Str)) :
    startsWith2Slash (authPart o ++ queryPart [0x26] qs) = false := by
  unfold authPart
  cases hn : noUserInfo o with
  | true =>
    rw [userPart_none hn, List.nil_append]
    match hh : o.host with
    | x :: r => exact startsWith2Slash_cons_ne _ fun e => w.h1 (by rw [hh, e]; simp)
    | [] =>
      -- the path does not begin with `//`, and what follows it is nothing or begins with `?`
      rw [List.nil_append]
      exact startsWith2Slash_append (w.sl hs hn hh) (queryPart_head_ne_slash _ _)
  | false =>
    simp only [userPart_some hn, List.append_assoc, List.cons_append]
    exact startsWith2Slash_pctEncode_colon _ _

theorem stage_scheme (o : Options) (w : WFp o) (qs : List (Str × Str)) :
    let rest := authPart o ++ queryPart [0x26] qs
    splitScheme (schemePart o ++ rest) = (if o.scheme = [] then [] else pctEncode o.scheme, rest) := by
  intro rest
  by_cases hs : o.scheme = []
  · -- Nothing is written for the scheme, and the text is read back whole for one of three reasons: these are the
    -- clauses of `WFp.sc`.
    rw [schemePart_nil hs, List.nil_append, if_pos hs]
    have hsc := w.sc hs
    unfold splitScheme
    cases hn : noUserInfo o with
    | true =>
      have hrest : rest = (o.host ++ o.path) ++ queryPart [0x26] qs := by
        simp only [rest, authPart, userPart_none hn, List.nil_append]
      rcases hsc.1 hn with hc | hc
      · -- (1) no `:` anywhere: there is no scheme piece
        have : (0x3A : UInt8) ∉ rest := by
          rw [hrest, List.mem_append, not_or]
          exact ⟨hc, not_mem_queryPart⟩
        rw [splitOnce_none this]
      · -- (2) the host begins with `:`: the scheme piece is empty, and then the whole text is kept
        match hh : o.host, hc with
        | x :: r, hc =>
          simp at hc; subst hc
          have : rest = 0x3A :: (r ++ o.path ++ queryPart [0x26] qs) := by rw [hrest, hh]; simp
          rw [this]; simp [splitOnce]
    | false =>
      -- (3) the user-info has an empty user, so the text begins with the `:` in front of the password
      have hu := hsc.2 hn
      have : rest = 0x3A :: (pctEncode o.password ++ [0x40] ++ (o.host ++ o.path) ++ queryPart [0x26] qs) := by
        simp [rest, authPart, userPart_some hn, hu, pctEncode]
      rw [this]; simp [splitOnce]
  · -- `scheme://` is cut at its `:`, and `trim_start_matches("//")` stops after one `//` (`no2slash_rest`)
    rw [schemePart_ne hs, if_neg hs]
    unfold splitScheme
    have hc : (0x3A : UInt8) ∉ pctEncode o.scheme := not_mem_pctEncode
    have : pctEncode o.scheme ++ [0x3A, 0x2F, 0x2F] ++ rest = pctEncode o.scheme ++ 0x3A :: (0x2F :: 0x2F :: rest) := by simp
    rw [this, splitOnce_append _ hc]
    simp only [List.isEmpty_eq_false_iff.mpr (pctEncode_ne_nil hs)]
    rw [if_neg (by simp), trimSlashes, trimSlashes_of_not (no2slash_rest o w hs qs)]

/-! #### stage 3: the query is cut off at the first `?` -/

theorem stage_query_split (o : Options) (w : WFp o) (qs : List (Str × Str)) :
    splitOnce 0x3F (authPart o ++ queryPart [0x26] qs)
      = (authPart o, if qs = [] then none else some (joinPairs [0x26] qs)) := by
  have ha : (0x3F : UInt8) ∉ authPart o := by
    simp only [authPart, List.mem_append, not_or]
    exact ⟨not_mem_userPart, w.h2, w.p2⟩
  by_cases hq : qs = []
  · rw [hq, queryPart_nil, List.append_nil, splitOnce_none ha, if_pos rfl]
  · rw [queryPart_ne hq, splitOnce_append _ ha, if_neg hq]

/-! #### stage 4: user, password, host, path -/

theorem takeWhile_host_path {host path : Str} (hh : (0x2F : UInt8) ∉ host) (hp : path = [] ∨ path.head? = some 0x2F) :
    (host ++ path).takeWhile (· ≠ 0x2F) = host ∧ (host ++ path).dropWhile (· ≠ 0x2F) = path := by
  induction host with
  | nil =>
    rcases hp with rfl | hp
    · simp
    · match path, hp with
      | x :: r, hp => simp at hp; subst hp; simp
  | cons x xs ih =>
    have hx : x ≠ 0x2F := fun e => hh (by simp [e])
    have hxs : (0x2F : UInt8) ∉ xs := fun e => hh (by simp [e])
    have := ih hxs
    simp only [List.cons_append, List.takeWhile_cons, List.dropWhile_cons, hx, ne_eq, not_false_eq_true, decide_true, if_true, this.1, this.2]
    simp

theorem stage_authority (o : Options) (w : WFp o) :
    parseAuthority (authPart o) = (o.user, o.password, o.host, o.path) := by
  have htd := takeWhile_host_path w.h1 w.p0
  have hdh : dec o.host = o.host := dec_verbatim _ w.vh w.h4
  have hdp : dec o.path = o.path := dec_verbatim _ w.vpa w.p4
  unfold parseAuthority authPart
  cases hn : noUserInfo o with
  | true =>
    have hu : o.user = [] := by simp [noUserInfo] at hn; exact hn.1
    have hp : o.password = [] := by simp [noUserInfo] at hn; exact hn.2
    rw [userPart_none hn, List.nil_append]
    simp only [splitOnce_none (w.hat hn), htd.1, htd.2, hdh, hdp]
    rw [hu, hp]
  | false =>
    have hat : (0x40 : UInt8) ∉ pctEncode o.user ++ 0x3A :: pctEncode o.password := by
      simp only [List.mem_append, List.mem_cons, not_or]
      exact ⟨not_mem_pctEncode, by decide, not_mem_pctEncode⟩
    have hup : userPart o ++ (o.host ++ o.path) = (pctEncode o.user ++ 0x3A :: pctEncode o.password) ++ 0x40 :: (o.host ++ o.path) := by
      simp [userPart_some hn]
    rw [hup, splitOnce_append _ hat]
    have hc : (0x3A : UInt8) ∉ pctEncode o.user := not_mem_pctEncode
    simp only [splitOnce_append _ hc, Option.getD_some, dec_pctEncode _ w.vu, dec_pctEncode _ w.vp,
      htd.1, htd.2, hdh, hdp]

/-! #### stage 5: the query map -/

theorem foldl_mapInsert (qs acc : QueryMap) (h : ((acc.reverse ++ qs).map (·.1)).Nodup) :
    qs.foldl mapInsert acc = qs.reverse ++ acc := by
  induction qs generalizing acc with
  | nil => simp
  | cons kv rest ih =>
    simp only [List.foldl_cons]
    have hf : acc.filter (fun e => e.1 ≠ kv.1) = acc := by
      rw [List.filter_eq_self]
      intro e he
      simp only [List.map_append, List.map_reverse, List.map_cons, List.nodup_append] at h
      have := h.2.2 e.1 (by simp; exact ⟨e.2, he⟩) kv.1 (by simp)
      simpa using this
    have : mapInsert acc kv = kv :: acc := by simp only [mapInsert, hf]
    rw [this, ih]
    · simp
    · simpa using h

theorem stage_query_parse (qs : List (Str × Str))
    (hv : ∀ kv ∈ qs, validUtf8 kv.1 = true ∧ validUtf8 kv.2 = true) (hnd : (qs.map (·.1)).Nodup) :
    parseQuery (if qs = [] then none else some (joinPairs [0x26] qs)) = qs.reverse := by
  by_cases hq : qs = []
  · simp [hq, parseQuery]
  · simp only [hq, if_false, parseQuery, formParse_joinPairs_amp qs hv]
    rw [foldl_mapInsert qs [] (by simpa using hnd)]; simp

theorem roundtrip_amp (o : Options) (hwf : o.WF = true) (qs : List (Str × Str)) (hp : qs.Perm o.query) :
    parseUri (intoUriSep [0x26] qs o) = { o with query := qs.reverse } := by
  have w := wf_iff.1 hwf
  have hv : ∀ kv ∈ qs, validUtf8 kv.1 = true ∧ validUtf8 kv.2 = true := fun kv h => w.vq kv (hp.mem_iff.mp h)
  have hnd : (qs.map (·.1)).Nodup := (hp.map (·.1)).nodup_iff.mpr w.nd
  have s1 := stage_fragment o w qs
  have s2 := stage_scheme o w qs
  have s3 := stage_query_split o w qs
  have s4 := stage_authority o w
  have s5 := stage_query_parse qs hv hnd
  simp only at s1 s2
  rw [intoUriSep_eq]
  unfold parseUri
  simp only [s1.1, s1.2, s2, s3, s4, s5]
  by_cases hs : o.scheme = []
  · simp [hs, dec_nil]
  · simp [hs, dec_pctEncode _ w.vs]

theorem joinPairs_short (sep : Str) (qs : List (Str × Str)) (h : qs.length ≤ 1) :
    joinPairs sep qs = joinPairs [0x26] qs := by
  match qs, h with
  | [], _ => rfl
  | [kv], _ => simp [joinPairs]

theorem roundtrip_equiv_amp (o : Options) (hwf : o.WF = true) (qs : List (Str × Str)) (hp : qs.Perm o.query) :
    (parseUri (intoUriSep [0x26] qs o)).Equiv o := by
  rw [roundtrip_amp o hwf qs hp]
  exact ⟨rfl, rfl, rfl, rfl, rfl, rfl, (List.reverse_perm qs).trans hp⟩

theorem roundtrip_equiv_short (sep : Str) (o : Options) (hwf : o.WF = true) (qs : List (Str × Str))
    (hp : qs.Perm o.query) (hlen : qs.length ≤ 1) : (parseUri (intoUriSep sep qs o)).Equiv o := by
  -- with at most one pair no separator is written
  rw [intoUriSep, joinPairs_short sep qs hlen]
  exact roundtrip_equiv_amp o hwf qs hp

/-- `into_uri` of the current tree writes what the flag read from the source says -/
theorem intoUriWith_eq (qs : List (Str × Str)) (o : Options) :
    intoUriWith qs o = intoUriSep (if Askar.Generated.Flags.uriQueryAmpersand then [0x26] else []) qs o := rfl

theorem roundtrip_current (hf : Askar.Generated.Flags.uriQueryAmpersand = true) (o : Options) (hwf : o.WF = true)
    (qs : List (Str × Str)) (hp : qs.Perm o.query) : (parseUri (intoUriWith qs o)).Equiv o := by
  rw [intoUriWith_eq, hf]
  exact roundtrip_equiv_amp o hwf qs hp

/-- D1 witness: host `h`, query {a ↦ 1, b ↦ 2} -/
def d1Witness : Options := { host := [0x68], query := [([0x61], [0x31]), ([0x62], [0x32])] }

theorem d1Witness_wf : d1Witness.WF = true := by decide

/-- with no separator the two pairs are written `a=1b=2` and read back as the single pair a ↦ `1b=2` -/
theorem d1Witness_parse :
    parseUri (intoUriSep [] d1Witness.query d1Witness) = { d1Witness with query := [([0x61], [0x31, 0x62, 0x3D, 0x32])] } := by
  decide

theorem d1Witness_not_equiv : ¬ (parseUri (intoUriSep [] d1Witness.query d1Witness)).Equiv d1Witness := by
  rw [d1Witness_parse]
  intro h
  have := h.query_perm.length_eq
  simp [d1Witness] at this

/-! ### every string of Unicode scalar values encodes to valid UTF-8 -/

theorem char_range (c : Char) : c.toNat < 0xD800 ∨ (0xDFFF < c.toNat ∧ c.toNat < 0x110000) := by
  have := c.valid
  simp only [UInt32.isValidChar, Nat.isValidChar] at this
  exact this

theorem validUtf8_cons1 (b0 : UInt8) (rest : Str) (h0 : b0.toNat < 128) : validUtf8 (b0 :: rest) = validUtf8 rest := by
  conv => lhs; unfold validUtf8
  have : b0 < 128 := by simp [UInt8.lt_iff_toNat_lt]; omega
  simp [this]

theorem validUtf8_cons2 (b0 b1 : UInt8) (rest : Str) (h0 : 194 ≤ b0.toNat ∧ b0.toNat ≤ 223) (h1 : 128 ≤ b1.toNat ∧ b1.toNat ≤ 191) :
    validUtf8 (b0 :: b1 :: rest) = validUtf8 rest := by
  conv => lhs; unfold validUtf8
  have a1 : ¬ (b0 < 128) := by simp [UInt8.lt_iff_toNat_lt]; omega
  have a2 : (194 : UInt8) ≤ b0 ∧ b0 ≤ 223 := by simp [UInt8.le_iff_toNat_le]; omega
  have a3 : isCont b1 = true := by simp [isCont, UInt8.le_iff_toNat_le]; omega
  simp [a1, a2, a3]

theorem validUtf8_cons3 (b0 b1 b2 : UInt8) (rest : Str) (h0 : 224 ≤ b0.toNat ∧ b0.toNat ≤ 239)
    (h1 : 128 ≤ b1.toNat ∧ b1.toNat ≤ 191) (h1a : b0.toNat = 224 → 160 ≤ b1.toNat) (h1b : b0.toNat = 237 → b1.toNat ≤ 159)
    (h2 : 128 ≤ b2.toNat ∧ b2.toNat ≤ 191) :
    validUtf8 (b0 :: b1 :: b2 :: rest) = validUtf8 rest := by
  conv => lhs; unfold validUtf8
  have a1 : ¬ (b0 < 128) := by simp [UInt8.lt_iff_toNat_lt]; omega
  have a2 : ¬ ((194 : UInt8) ≤ b0 ∧ b0 ≤ 223) := by simp [UInt8.le_iff_toNat_le]; omega
  have a3 : (224 : UInt8) ≤ b0 ∧ b0 ≤ 239 := by simp [UInt8.le_iff_toNat_le]; omega
  have a4 : isCont b2 = true := by simp [isCont, UInt8.le_iff_toNat_le]; omega
  have a5 : second3 b0 b1 = true := by
    unfold second3
    by_cases e1 : b0 = 0xE0
    · have := h1a (by rw [e1]; rfl)
      simp [e1, UInt8.le_iff_toNat_le]; omega
    · by_cases e2 : b0 = 0xED
      · have := h1b (by rw [e2]; rfl)
        simp [e2, UInt8.le_iff_toNat_le]; omega
      · simp [e1, e2, UInt8.le_iff_toNat_le]; omega
  simp [a1, a2, a3, a4, a5]

theorem validUtf8_cons4 (b0 b1 b2 b3 : UInt8) (rest : Str) (h0 : 240 ≤ b0.toNat ∧ b0.toNat ≤ 244)
    (h1 : 128 ≤ b1.toNat ∧ b1.toNat ≤ 191) (h1a : b0.toNat = 240 → 144 ≤ b1.toNat) (h1b : b0.toNat = 244 → b1.toNat ≤ 143)
    (h2 : 128 ≤ b2.toNat ∧ b2.toNat ≤ 191) (h3 : 128 ≤ b3.toNat ∧ b3.toNat ≤ 191) :
    validUtf8 (b0 :: b1 :: b2 :: b3 :: rest) = validUtf8 rest := by
  conv => lhs; unfold validUtf8
  have a1 : ¬ (b0 < 128) := by simp [UInt8.lt_iff_toNat_lt]; omega
  have a2 : ¬ ((194 : UInt8) ≤ b0 ∧ b0 ≤ 223) := by simp [UInt8.le_iff_toNat_le]; omega
  have a2' : ¬ ((224 : UInt8) ≤ b0 ∧ b0 ≤ 239) := by simp [UInt8.le_iff_toNat_le]; omega
  have a3 : (240 : UInt8) ≤ b0 ∧ b0 ≤ 244 := by simp [UInt8.le_iff_toNat_le]; omega
  have a4 : isCont b2 = true := by simp [isCont, UInt8.le_iff_toNat_le]; omega
  have a4' : isCont b3 = true := by simp [isCont, UInt8.le_iff_toNat_le]; omega
  have a5 : second4 b0 b1 = true := by
    unfold second4
    by_cases e1 : b0 = 0xF0
    · have := h1a (by rw [e1]; rfl)
      simp [e1, UInt8.le_iff_toNat_le]; omega
    · by_cases e2 : b0 = 0xF4
      · have := h1b (by rw [e2]; rfl)
        simp [e2, UInt8.le_iff_toNat_le]; omega
      · simp [e1, e2, UInt8.le_iff_toNat_le]; omega
  simp [a1, a2, a2', a3, a4, a4', a5]

theorem validUtf8_ascii (s : Str) (h : ∀ x ∈ s, x < 0x80) : validUtf8 s = true := by
  induction s with
  | nil => rfl
  | cons b r ih =>
    rw [validUtf8_cons1 b r (UInt8.lt_iff_toNat_lt.1 (h b (by simp)))]
    exact ih fun x hx => h x (by simp [hx])

theorem toNat_cont (n : Nat) : (UInt8.ofNat (0x80 + n % 64)).toNat = 0x80 + n % 64 :=
  UInt8.toNat_ofNat_of_lt' (by show _ < 256; omega)

theorem cont_byte (n : Nat) :
    128 ≤ (UInt8.ofNat (0x80 + n % 64)).toNat ∧ (UInt8.ofNat (0x80 + n % 64)).toNat ≤ 191 := by
  rw [toNat_cont]; omega

theorem validUtf8_encChar (c : Char) (rest : Str) : validUtf8 (encChar c ++ rest) = validUtf8 rest := by
  have hr := char_range c
  unfold encChar
  simp only
  by_cases h1 : c.toNat < 0x80
  · simp only [h1, if_true, List.singleton_append]
    exact validUtf8_cons1 _ _ (by rw [UInt8.toNat_ofNat']; omega)
  · by_cases h2 : c.toNat < 0x800
    · simp only [h1, h2, if_true, if_false, List.cons_append, List.nil_append]
      exact validUtf8_cons2 _ _ _ (by rw [UInt8.toNat_ofNat']; omega) (cont_byte _)
    · by_cases h3 : c.toNat < 0x10000
      -- what is left to show: the range of the lead byte and the two restrictions it puts on the second byte,
      -- both bytes read as numbers first (`e0`, `toNat_cont`) so that the arithmetic is free of `% 256`
      · simp only [h1, h2, h3, if_true, if_false, List.cons_append, List.nil_append]
        have e0 : (UInt8.ofNat (0xE0 + c.toNat / 4096)).toNat = 0xE0 + c.toNat / 4096 :=
          UInt8.toNat_ofNat_of_lt' (by show _ < 256; omega)
        refine validUtf8_cons3 _ _ _ _ ?_ (cont_byte _) ?_ ?_ (cont_byte _)
        all_goals rw [e0]
        · omega
        · rw [toNat_cont]; omega
        · rw [toNat_cont]; omega
      · simp only [h1, h2, h3, if_false, List.cons_append, List.nil_append]
        have e0 : (UInt8.ofNat (0xF0 + c.toNat / 262144)).toNat = 0xF0 + c.toNat / 262144 :=
          UInt8.toNat_ofNat_of_lt' (by show _ < 256; omega)
        refine validUtf8_cons4 _ _ _ _ _ ?_ (cont_byte _) ?_ ?_ (cont_byte _) (cont_byte _)
        all_goals rw [e0]
        · omega
        · rw [toNat_cont]; omega
        · rw [toNat_cont]; omega

theorem validUtf8_utf8 (cs : List Char) : validUtf8 (utf8 cs) = true := by
  induction cs with
  | nil => rfl
  | cons c r ih => simp only [utf8, List.flatMap_cons] at ih ⊢; rw [validUtf8_encChar, ih]

end Askar.Uri
