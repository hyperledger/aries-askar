/-
Lemmas about Crypto/Cbor.lean: decoding inverts encoding for every map whose lengths fit the 8-byte argument, and the
decoder hands back a remainder strictly shorter than its input.
-/
import AskarModel.Crypto.Cbor

namespace Askar.Crypto.Cbor
open Askar

/-! ### decoding inverts encoding -/

theorem length_beBytes (k n : Nat) : (beBytes k n).length = k := by
  induction k with
  | zero => rfl
  | succ k ih => simp [beBytes, ih]

theorem beNat_beBytes (k n : Nat) : beNat (beBytes k n) = n % 256 ^ k := by
  induction k with
  | zero => simp [beBytes, beNat, Nat.mod_one]
  | succ k ih =>
    have hb : (UInt8.ofNat (n / 256 ^ k % 256)).toNat = n / 256 ^ k % 256 := by
      rw [UInt8.toNat_ofNat']; exact Nat.mod_eq_of_lt (by omega)
    simp only [beBytes, beNat, length_beBytes, ih, hb]
    rw [Nat.mod_pow_succ (x := n) (b := 256) (k := k), Nat.mul_comm]
    omega

theorem beNat_beBytes_lt {k n : Nat} (h : n < 256 ^ k) : beNat (beBytes k n) = n := by
  rw [beNat_beBytes, Nat.mod_eq_of_lt h]

theorem initByte {major c : Nat} (hm : major < 8) (hc : c < 32) :
    (UInt8.ofNat (major * 32 + c)).toNat = major * 32 + c := by
  rw [UInt8.toNat_ofNat']; exact Nat.mod_eq_of_lt (by omega)

/-- major type and additional information are read back from the initial byte -/
theorem initByte_split (major : Nat) {c : Nat} (hc : c < 32) :
    (major * 32 + c) % 32 = c ∧ (major * 32 + c) / 32 = major := by
  constructor
  · rw [Nat.mul_add_mod_self_right, Nat.mod_eq_of_lt hc]
  · rw [Nat.add_comm, Nat.add_mul_div_right _ _ (by decide), Nat.div_eq_of_lt hc, Nat.zero_add]

theorem decHead_wide {major ai k n : Nat} (rest : Bytes) (hm : major < 8) (hlo : 24 ≤ ai) (hhi : ai < 32)
    (hk : argLen ai = some k) (hn : n < 256 ^ k) :
    decHead (UInt8.ofNat (major * 32 + ai) :: (beBytes k n ++ rest)) = some (major, n, rest) := by
  have hl : ¬ (beBytes k n ++ rest).length < k := by
    rw [List.length_append, length_beBytes]; exact Nat.not_lt.2 (Nat.le_add_right _ _)
  simp only [decHead, initByte hm hhi, initByte_split major hhi, Nat.not_lt.2 hlo, if_false, hk, hl,
    List.take_left' (length_beBytes k n), List.drop_left' (length_beBytes k n), beNat_beBytes_lt hn]

theorem decHead_head {major n : Nat} (rest : Bytes) (hm : major < 8) (hn : n < 2 ^ 64) :
    decHead (head major n ++ rest) = some (major, n, rest) := by
  unfold head
  -- the argument sits in the initial byte …
  by_cases h0 : n < 24
  · have h32 : n < 32 := Nat.lt_trans h0 (by decide)
    simp only [if_pos h0, List.cons_append, List.nil_append, decHead, initByte hm h32, initByte_split major h32]
  -- … or follows it in 1, 2, 4 or 8 bytes
  rw [if_neg h0]
  by_cases h1 : n < 256
  · rw [if_pos h1]; exact decHead_wide rest hm (by decide) (by decide) rfl h1
  rw [if_neg h1]
  by_cases h2 : n < 65536
  · rw [if_pos h2]; exact decHead_wide rest hm (by decide) (by decide) rfl h2
  rw [if_neg h2]
  by_cases h4 : n < 4294967296
  · rw [if_pos h4]; exact decHead_wide rest hm (by decide) (by decide) rfl h4
  rw [if_neg h4]
  exact decHead_wide rest hm (by decide) (by decide) rfl hn

theorem decPayload_append (b rest : Bytes) : decPayload b.length (b ++ rest) = some (b, rest) := by
  simp [decPayload]

theorem decKey_enc (k rest : Bytes) (hk : k.length < 2 ^ 64) :
    decKey (head 3 k.length ++ k ++ rest) = some (k, rest) := by
  simp only [decKey, List.append_assoc, decHead_head _ (by omega : 3 < 8) hk, decPayload_append, if_true]

theorem decVal_enc (v : Val) (rest : Bytes) (hv : v.Fits) : decVal (encodeVal v ++ rest) = some (v, rest) := by
  cases v with
  | bytes b =>
    simp only [Val.Fits] at hv
    simp [decVal, encodeVal, List.append_assoc, decHead_head _ (by omega : 2 < 8) hv, decPayload_append]
  | text t =>
    simp only [Val.Fits] at hv
    simp [decVal, encodeVal, List.append_assoc, decHead_head _ (by omega : 3 < 8) hv, decPayload_append]

theorem decPairs_encodePairs (m : Map) (rest : Bytes) (h : ∀ e ∈ m, e.1.length < 2 ^ 64 ∧ e.2.Fits) :
    decPairs m.length (encodePairs m ++ rest) = some (m, rest) := by
  induction m with
  | nil => simp [decPairs, encodePairs]
  | cons e m ih =>
    obtain ⟨k, v⟩ := e
    have he := h (k, v) (by simp)
    have ih' := ih (fun e he => h e (by simp [he]))
    simp only [encodePairs, List.length_cons, decPairs, List.append_assoc]
    rw [← List.append_assoc (head 3 k.length) k, decKey_enc k _ he.1]
    simp only [decVal_enc v _ he.2, ih']

theorem decodeMap_encodeMap (m : Map) (rest : Bytes) (h : Fits m) :
    decodeMap (encodeMap m ++ rest) = some (m, rest) := by
  simp only [decodeMap, encodeMap, List.append_assoc, decHead_head _ (by omega : 5 < 8) h.1, if_true,
    decPairs_encodePairs m rest h.2]

theorem decode_encodeMap (m : Map) (h : Fits m) : decode (encodeMap m) = some m := by
  have := decodeMap_encodeMap m [] h
  simp only [List.append_nil] at this
  simp [decode, this]

/-! ### the decoder never reads past the end: what it returns as the rest is strictly shorter than the input -/

theorem decHead_lt {b : Bytes} {major n : Nat} {rest : Bytes} (h : decHead b = some (major, n, rest)) :
    rest.length < b.length := by
  cases b with
  | nil => simp [decHead] at h
  | cons x xs =>
    simp only [decHead] at h
    split at h
    · cases h; simp
    · split at h
      · cases h
      · split at h
        · cases h
        · cases h; simp [List.length_drop]; omega

theorem decPayload_le {n : Nat} {b p rest : Bytes} (h : decPayload n b = some (p, rest)) : rest.length ≤ b.length := by
  simp only [decPayload] at h
  split at h
  · cases h
  · cases h; simp [List.length_drop]

theorem decKey_lt {b k rest : Bytes} (h : decKey b = some (k, rest)) : rest.length < b.length := by
  simp only [decKey] at h
  split at h
  · next major n r hh =>
    split at h
    · have := decHead_lt hh; have := decPayload_le h; omega
    · cases h
  · cases h

theorem decVal_lt {b : Bytes} {v : Val} {rest : Bytes} (h : decVal b = some (v, rest)) : rest.length < b.length := by
  simp only [decVal] at h
  split at h
  · next major n r hh =>
    have hl := decHead_lt hh
    split at h
    · cases hp : decPayload n r with
      | none => simp [hp] at h
      | some p => simp [hp] at h; have := decPayload_le hp; obtain ⟨_, rfl⟩ := h; omega
    · split at h
      · cases hp : decPayload n r with
        | none => simp [hp] at h
        | some p => simp [hp] at h; have := decPayload_le hp; obtain ⟨_, rfl⟩ := h; omega
      · cases h
  · cases h

theorem decPairs_le {n : Nat} {b : Bytes} {m : Map} {rest : Bytes} (h : decPairs n b = some (m, rest)) :
    rest.length ≤ b.length := by
  induction n generalizing b m with
  | zero => simp [decPairs] at h; obtain ⟨_, rfl⟩ := h; exact Nat.le_refl _
  | succ n ih =>
    simp only [decPairs] at h
    split at h
    · cases h
    · next k r1 hk =>
      split at h
      · cases h
      · next v r2 hv =>
        split at h
        · cases h
        · next m' r3 hm =>
          cases h
          have := decKey_lt hk; have := decVal_lt hv; have := ih hm; omega

theorem decodeMap_lt {b : Bytes} {m : Map} {rest : Bytes} (h : decodeMap b = some (m, rest)) :
    rest.length < b.length := by
  simp only [decodeMap] at h
  split at h
  · next major n r hh =>
    split at h
    · have := decHead_lt hh; have := decPairs_le h; omega
    · cases h
  · cases h

end Askar.Crypto.Cbor
