/-
Lemmas for Model/SqliteOpts.lean (C08, model B′): `SqliteStoreOptions::new` is total, fails with `Input` only,
ignores every parameter it does not know, and gives the default option set when none of the seven names is present;
Rust's unsigned `FromStr`.  Core Lean only.
-/
import AskarModel.Model.SqliteOpts

namespace Askar.Uri
open Askar.Keys (Err)

-- so that the outcome of an options constructor on a concrete input can be compared by evaluation
deriving instance DecidableEq for Except

theorem Except.bind_eq_error {ε α β : Type} {x : Except ε α} {f : α → Except ε β} {e : ε} (h : Except.bind x f = .error e) :
    x = .error e ∨ ∃ a, x = .ok a ∧ f a = .error e := by
  cases x with
  | error e' => left; simpa [Except.bind] using h
  | ok a => right; exact ⟨a, rfl, by simpa [Except.bind] using h⟩

/-! ### one optional parameter -/

theorem param_err {α : Type} {q : QueryMap} {k : Str} {d : α} {parse : Str → Option α} {e : Err}
    (h : param q k d parse = .error e) : e = .input := by
  unfold param at h
  split at h
  · cases h
  · split at h
    · cases h
    · cases h; rfl

theorem param_absent {α : Type} {q : QueryMap} {k : Str} (d : α) (parse : Str → Option α) (h : mapGet q k = none) :
    param q k d parse = .ok d := by
  simp [param, h]

theorem param_garbage {α : Type} {q : QueryMap} {k v : Str} (d : α) (parse : Str → Option α) (h : mapGet q k = some v)
    (hp : parse v = none) : param q k d parse = .error .input := by
  simp [param, h, hp]

/-! ### `SqliteStoreOptions::new` -/

theorem sqliteOptions_err {dmax : Nat} {o : Options} {e : Err} (h : sqliteOptions dmax o = .error e) : e = .input := by
  unfold sqliteOptions at h
  simp only [bind, pure, Except.pure] at h
  rcases Except.bind_eq_error h with h1 | ⟨_, _, h⟩
  · exact param_err h1
  rcases Except.bind_eq_error h with h1 | ⟨_, _, h⟩
  · exact param_err h1
  rcases Except.bind_eq_error h with h1 | ⟨_, _, h⟩
  · exact param_err h1
  rcases Except.bind_eq_error h with h1 | ⟨_, _, h⟩
  · exact param_err h1
  rcases Except.bind_eq_error h with h1 | ⟨_, _, h⟩
  · exact param_err h1
  rcases Except.bind_eq_error h with h1 | ⟨_, _, h⟩
  · exact param_err h1
  cases h

theorem sqliteOptions_default (dmax : Nat) (o : Options) (h : ∀ k ∈ recognised, mapGet o.query k = none) :
    sqliteOptions dmax o = .ok (defaultOpts dmax (o.host ++ o.path)) := by
  simp only [recognised, List.forall_mem_cons] at h
  obtain ⟨h1, h2, h3, h4, h5, h6, h7, -⟩ := h
  simp [sqliteOptions, param_absent _ _ h1, param_absent _ _ h2, param_absent _ _ h3, param_absent _ _ h4,
    param_absent _ _ h5, h6, param_absent _ _ h7, defaultOpts, bind, Except.bind, pure, Except.pure]

theorem sqliteOptions_congr (dmax : Nat) (o : Options) (q' : QueryMap) (h : ∀ k ∈ recognised, mapGet o.query k = mapGet q' k) :
    sqliteOptions dmax { o with query := q' } = sqliteOptions dmax o := by
  simp only [recognised, List.forall_mem_cons] at h
  obtain ⟨h1, h2, h3, h4, h5, h6, h7, -⟩ := h
  simp [sqliteOptions, param, h1, h2, h3, h4, h5, h6, h7]

theorem fromPath_eq (dmax : Nat) (p : Str) : fromPath dmax p = .ok (defaultOpts dmax p) := by
  have := sqliteOptions_default dmax { host := p } (by intro k _; rfl)
  simpa [fromPath] using this

theorem sqliteOptions_bad_busy (dmax : Nat) (o : Options) (v : Str) (h : mapGet o.query kBusy = some v)
    (hp : parseUnsigned 64 v = none) : sqliteOptions dmax o = .error .input := by
  simp [sqliteOptions, param_garbage _ _ h hp, bind, Except.bind]

/-! ### Rust's `u64::from_str` / `u32::from_str` -/

theorem digitsVal_nondigit : ∀ (s : Str) (acc : Nat) (c : UInt8), c ∈ s → isDigit c = false → digitsVal acc s = none
  | [], _, _, h, _ => by cases h
  | x :: rest, acc, c, h, hc => by
    simp only [digitsVal]
    rcases List.mem_cons.1 h with h1 | h1
    · subst h1; simp [hc]
    · split
      · exact digitsVal_nondigit rest _ c h1 hc
      · rfl

theorem bind_lt {bits : Nat} {x : Option Nat} {n : Nat}
    (h : (x.bind fun v => if v < 2 ^ bits then some v else none) = some n) : n < 2 ^ bits := by
  cases x with
  | none => simp at h
  | some v =>
    simp only [Option.bind_some] at h
    split at h
    · cases h; assumption
    · cases h

theorem parseUnsigned_lt {bits : Nat} {s : Str} {n : Nat} (h : parseUnsigned bits s = some n) : n < 2 ^ bits := by
  unfold parseUnsigned at h
  split at h
  · cases h
  · split at h
    · cases h
    · exact bind_lt h
  · exact bind_lt h

theorem parseUnsigned_empty (bits : Nat) : parseUnsigned bits [] = none := rfl

theorem parseUnsigned_minus (bits : Nat) (rest : Str) : parseUnsigned bits (0x2D :: rest) = none := by
  cases rest with
  | nil => simp [parseUnsigned]
  | cons y ys =>
    have : digitsVal 0 (0x2D :: y :: ys) = none := digitsVal_nondigit _ 0 0x2D (by simp) (by decide)
    simp [parseUnsigned, this]

/-- any byte that is not an ASCII digit, anywhere but a single leading `+`, makes the text invalid -/
theorem parseUnsigned_nondigit (bits : Nat) (c0 : UInt8) (rest : Str) (c : UInt8) (hc : c ∈ rest) (hd : isDigit c = false) :
    parseUnsigned bits (c0 :: rest) = none := by
  cases rest with
  | nil => cases hc
  | cons y ys =>
    have h1 : digitsVal 0 (y :: ys) = none := digitsVal_nondigit _ 0 c hc hd
    have h2 : digitsVal 0 (c0 :: y :: ys) = none := digitsVal_nondigit _ 0 c (List.mem_cons_of_mem _ hc) hd
    simp only [parseUnsigned]
    split <;> simp [h1, h2]

end Askar.Uri
