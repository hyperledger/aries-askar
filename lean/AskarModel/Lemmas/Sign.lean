/-
C13 — helper lemmas about `Model/Sign.lean`: the normaliser against its specification, the type-string parser, the dispatch table,
totality.  The specification vocabulary that `Props/C13.lean` states its theorems in is defined here: `normSpec`, `utf8Len` (what
`normalize_alg` computes), `missingSecretKind`, `typeOk`, `Schemes.Std`, `acceptAllSchemes`.  The lemmas about the executable
specifications of the external schemes are in `Lemmas/Ed25519Spec.lean` and `Lemmas/EcdsaSpec.lean`.
Core Lean only.
-/
import AskarModel.Model.Sign
import AskarModel.Lemmas.SignRes

namespace Askar.Sign

/-- `Char.toLower` tests bounds on the `UInt32` code; the proofs below work with `Nat` -/
theorem upper_iff (c : Char) : (c.val ≥ 'A'.val ∧ c.val ≤ 'Z'.val) ↔ (65 ≤ c.toNat ∧ c.toNat ≤ 90) := by
  simp only [ge_iff_le, UInt32.le_iff_toNat_le]
  rfl

theorem toLower_of_not_upper {c : Char} (h : ¬ (65 ≤ c.toNat ∧ c.toNat ≤ 90)) : c.toLower = c :=
  dif_neg (mt (upper_iff c).mp h)

theorem toLower_of_upper {c : Char} (h : 65 ≤ c.toNat ∧ c.toNat ≤ 90) : c.toLower.toNat = c.toNat + 32 := by
  unfold Char.toLower
  rw [dif_pos ((upper_iff c).mpr h)]
  show (c.val + ('a'.val - 'A'.val)).toNat = c.val.toNat + 32
  have h32 : ('a'.val - 'A'.val).toNat = 32 := by decide
  have : c.val.toNat ≤ 90 := h.2
  rw [UInt32.toNat_add, h32]
  omega

theorem toLower_idem (c : Char) : c.toLower.toLower = c.toLower := by
  by_cases h : 65 ≤ c.toNat ∧ c.toNat ≤ 90
  · exact toLower_of_not_upper (by rw [toLower_of_upper h]; omega)
  · exact congrArg Char.toLower (toLower_of_not_upper h)

/-- the three separators lie below `A`, except `_` -/
theorem isSep_of_letter {c : Char} (h : 65 ≤ c.toNat) (h' : c.toNat ≠ 95) : isSep c = false := by
  simp only [isSep, Bool.or_eq_false_iff, beq_eq_false_iff_ne]
  refine ⟨⟨?_, ?_⟩, ?_⟩ <;> rintro rfl
  · exact absurd h (by decide)
  · exact h' rfl
  · exact absurd h (by decide)

theorem isSep_toLower (c : Char) : isSep c.toLower = isSep c := by
  by_cases h : 65 ≤ c.toNat ∧ c.toNat ≤ 90
  · have hl := toLower_of_upper h
    rw [isSep_of_letter (c := c) h.1 (by omega), isSep_of_letter (by omega) (by omega)]
  · rw [toLower_of_not_upper h]

/-! ## the specification of the normaliser -/

/-- what `normalize_alg` is meant to compute: drop `-`, `_`, space; ASCII lower-case -/
def normSpec (s : List Char) : List Char := (s.filter fun c => !isSep c).map Char.toLower

def utf8Len (cs : List Char) : Nat := (cs.map Char.utf8Size).sum

theorem utf8Len_cons (c : Char) (cs : List Char) : utf8Len (c :: cs) = c.utf8Size + utf8Len cs := rfl

@[simp] theorem normSpec_nil : normSpec [] = [] := rfl

theorem normSpec_cons_sep {c : Char} {s : List Char} (h : isSep c = true) : normSpec (c :: s) = normSpec s := by
  simp [normSpec, h]

theorem normSpec_cons_keep {c : Char} {s : List Char} (h : isSep c = false) : normSpec (c :: s) = c.toLower :: normSpec s := by
  simp [normSpec, h]

theorem normSpec_append (s t : List Char) : normSpec (s ++ t) = normSpec s ++ normSpec t := by
  simp [normSpec]

theorem normSpec_idem (s : List Char) : normSpec (normSpec s) = normSpec s := by
  induction s with
  | nil => rfl
  | cons c s ih =>
    cases h : isSep c
    · rw [normSpec_cons_keep h, normSpec_cons_keep (by rw [isSep_toLower]; exact h), toLower_idem, ih]
    · rw [normSpec_cons_sep h, ih]

@[simp] theorem encode_nil : encode [] = [] := rfl
theorem encode_cons (c : Char) (cs : List Char) : encode (c :: cs) = String.utf8EncodeChar c ++ encode cs := by
  simp [encode]

theorem encode_length (cs : List Char) : (encode cs).length = utf8Len cs := by
  induction cs with
  | nil => rfl
  | cons c cs ih => rw [encode_cons, List.length_append, String.length_utf8EncodeChar, ih, utf8Len_cons]

/-- UTF-8 is injective (from core Lean's `String` theory) -/
theorem encode_inj {l l' : List Char} : encode l = encode l' ↔ l = l' := by
  refine ⟨fun h => ?_, fun h => h ▸ rfl⟩
  apply String.ofList_injective
  apply String.toByteArray_inj.mp
  rw [String.toByteArray_ofList, String.toByteArray_ofList]
  show (encode l).toByteArray = (encode l').toByteArray
  rw [h]

/-! ## the writer and the loop -/

/-- the slice bounds check behind the length check never fires -/
theorem write_eq (w : Writer) (data : Bytes) :
    w.write data = if w.pos + data.length ≤ w.total then .ok { w with written := w.written ++ data } else .err .exceededBuffer := by
  unfold Writer.write
  by_cases h : w.pos + data.length ≤ w.total
  · rw [if_pos h, if_neg (Nat.not_lt_of_le h), if_pos ⟨Nat.le_add_right _ _, h⟩]
  · rw [if_neg h, if_pos (Nat.lt_of_not_le h)]

theorem fill_cons_sep (w : Writer) {c : Char} (rest : List Char) (h : isSep c = true) : fill w (c :: rest) = fill w rest := by
  rw [fill, if_pos h]

theorem fill_cons_keep (w : Writer) {c : Char} (rest : List Char) (h : isSep c = false) :
    fill w (c :: rest) = (w.write (String.utf8EncodeChar c.toLower)).bind fun w' => fill w' rest := by
  rw [fill, if_neg (by rw [h]; nofun)]

theorem fill_eq (s : List Char) : ∀ w : Writer, w.pos ≤ w.total →
    fill w s = if w.pos + utf8Len (normSpec s) ≤ w.total then .ok { w with written := w.written ++ encode (normSpec s) }
               else .err .exceededBuffer := by
  induction s with
  | nil =>
    intro w h
    rw [fill, normSpec_nil, if_pos (show w.pos + utf8Len [] ≤ w.total from h), encode_nil, List.append_nil]
  | cons c s ih =>
    intro w hw
    cases hc : isSep c
    · have hl : (String.utf8EncodeChar c.toLower).length = c.toLower.utf8Size := String.length_utf8EncodeChar _
      rw [normSpec_cons_keep hc, fill_cons_keep w s hc, write_eq, hl, utf8Len_cons, encode_cons, ← Nat.add_assoc]
      by_cases h1 : w.pos + c.toLower.utf8Size ≤ w.total
      · rw [if_pos h1]
        show fill _ s = _
        rw [ih _ (by rw [Writer.pos, List.length_append, hl]; exact h1), Writer.pos, List.length_append, hl, List.append_assoc]
        rfl
      · rw [if_neg h1, if_neg (fun h => h1 (Nat.le_trans (Nat.le_add_right _ _) h))]
        rfl
    · rw [normSpec_cons_sep hc, fill_cons_sep w s hc]
      exact ih w hw

/-- `normalize_alg` against its specification: the normalised text if it fits in 64 bytes of UTF-8, else `ExceededBuffer` -/
theorem normalizeAlg_eq (s : List Char) :
    normalizeAlg s =
      if utf8Len (normSpec s) ≤ normCap then
        .ok { len := utf8Len (normSpec s), buf := encode (normSpec s) ++ List.replicate (normCap - utf8Len (normSpec s)) 0 }
      else .err .exceededBuffer := by
  unfold normalizeAlg
  rw [fill_eq s _ (Nat.zero_le _)]
  simp only [Writer.pos, List.length_nil, Nat.zero_add, List.nil_append]
  split
  · simp only [Res.bind, encode_length]
  · rfl

theorem normalize_no_panic (s : List Char) : (normalizeAlg s).isPanic = false := by
  rw [normalizeAlg_eq]; split <;> rfl

theorem asRef_padded (b : Bytes) (n : Nat) : NormalizedAlg.asRef { len := b.length, buf := b ++ List.replicate n 0 } = .ok b := by
  simp [NormalizedAlg.asRef]

theorem normalize_asRef {s : List Char} {n : NormalizedAlg} (h : normalizeAlg s = .ok n) : n.asRef = .ok (encode (normSpec s)) := by
  rw [normalizeAlg_eq] at h
  split at h
  · cases h
    rw [← encode_length]
    exact asRef_padded _ _
  · cases h

/-! ## the parser: exact acceptance table -/

/-- the comparisons `from_str` performs, on the normalised text -/
def classify (cs : List Char) : Res CErr SignatureType :=
  if cs = "eddsa".toList then .ok .eddsa
  else if cs = "es256".toList then .ok .es256
  else if cs = "es256k".toList then .ok .es256k
  else if cs = "es384".toList then .ok .es384
  else .err .unsupported

/-- closed form of `from_str`: the 64-byte test on the NORMAL FORM, then the four comparisons on characters — the bytewise
    comparisons of the source are character comparisons because UTF-8 is injective (`encode_inj`) -/
theorem fromStr_eq (s : List Char) :
    SignatureType.fromStr s = if utf8Len (normSpec s) ≤ normCap then classify (normSpec s) else .err .exceededBuffer := by
  unfold SignatureType.fromStr
  rw [normalizeAlg_eq]
  by_cases h : utf8Len (normSpec s) ≤ normCap
  · rw [if_pos h, if_pos h, ← encode_length]
    simp only [Res.bind, asRef_padded, encode_inj, classify]
  · rw [if_neg h, if_neg h]
    rfl

/-- the chain of comparisons, analysed once -/
theorem classify_spec (cs : List Char) :
    (∃ t : SignatureType, cs = t.canonical ∧ classify cs = .ok t) ∨ classify cs = .err .unsupported := by
  unfold classify
  by_cases h1 : cs = "eddsa".toList
  · exact .inl ⟨.eddsa, h1, if_pos h1⟩
  · rw [if_neg h1]
    by_cases h2 : cs = "es256".toList
    · exact .inl ⟨.es256, h2, if_pos h2⟩
    · rw [if_neg h2]
      by_cases h3 : cs = "es256k".toList
      · exact .inl ⟨.es256k, h3, if_pos h3⟩
      · rw [if_neg h3]
        by_cases h4 : cs = "es384".toList
        · exact .inl ⟨.es384, h4, if_pos h4⟩
        · exact .inr (if_neg h4)

theorem classify_canonical (t : SignatureType) : classify t.canonical = .ok t := by
  cases t <;> decide +kernel

theorem classify_ok_iff {cs : List Char} {t : SignatureType} : classify cs = .ok t ↔ cs = t.canonical := by
  refine ⟨fun h => ?_, fun h => h ▸ classify_canonical t⟩
  rcases classify_spec cs with ⟨t', ht', h'⟩ | h' <;> rw [h'] at h <;> cases h
  exact ht'

theorem canonical_fits (t : SignatureType) : utf8Len t.canonical ≤ normCap := by
  cases t <;> decide +kernel

theorem fromStr_ok_iff (s : List Char) (t : SignatureType) :
    SignatureType.fromStr s = .ok t ↔ normSpec s = t.canonical := by
  rw [fromStr_eq]
  constructor
  · intro h
    split at h
    · exact classify_ok_iff.mp h
    · cases h
  · intro h
    rw [if_pos (h ▸ canonical_fits t), h, classify_canonical]

theorem classify_ne_exceeded (cs : List Char) : classify cs ≠ .err .exceededBuffer := by
  rcases classify_spec cs with ⟨t, _, h⟩ | h <;> rw [h] <;> nofun

theorem classify_unsupported_iff {cs : List Char} : classify cs = .err .unsupported ↔ ∀ t : SignatureType, cs ≠ t.canonical := by
  constructor
  · intro e t ht
    rw [classify_ok_iff.mpr ht] at e
    cases e
  · intro hn
    rcases classify_spec cs with ⟨t, ht, _⟩ | h
    · exact absurd ht (hn t)
    · exact h

theorem fromStr_exceeded_iff (s : List Char) :
    SignatureType.fromStr s = .err .exceededBuffer ↔ normCap < utf8Len (normSpec s) := by
  rw [fromStr_eq]
  by_cases h : utf8Len (normSpec s) ≤ normCap
  · rw [if_pos h]
    exact ⟨fun e => absurd e (classify_ne_exceeded _), fun h' => absurd h (Nat.not_le_of_lt h')⟩
  · rw [if_neg h]
    exact ⟨fun _ => Nat.lt_of_not_le h, fun _ => rfl⟩

theorem fromStr_unsupported_iff (s : List Char) :
    SignatureType.fromStr s = .err .unsupported ↔
      utf8Len (normSpec s) ≤ normCap ∧ ∀ t : SignatureType, normSpec s ≠ t.canonical := by
  rw [fromStr_eq]
  by_cases h : utf8Len (normSpec s) ≤ normCap
  · rw [if_pos h]
    exact ⟨fun e => ⟨h, classify_unsupported_iff.mp e⟩, fun h' => classify_unsupported_iff.mpr h'.2⟩
  · rw [if_neg h]
    exact ⟨nofun, fun h' => absurd h'.1 h⟩

theorem fromStr_cases (s : List Char) :
    (∃ t, SignatureType.fromStr s = .ok t) ∨ SignatureType.fromStr s = .err .exceededBuffer ∨ SignatureType.fromStr s = .err .unsupported := by
  rw [fromStr_eq]
  split
  · exact (classify_spec _).imp (fun ⟨t, _, h⟩ => ⟨t, h⟩) .inr
  · exact .inr (.inl rfl)

theorem parseSigType_some (s : List Char) :
    parseSigType (some s) = (SignatureType.fromStr s).bind fun t => .ok (some t) := rfl

theorem parseSigType_cases (t : Option (List Char)) :
    (∃ st, parseSigType t = .ok st) ∨ parseSigType t = .err .exceededBuffer ∨ parseSigType t = .err .unsupported := by
  cases t with
  | none => exact .inl ⟨none, rfl⟩
  | some s =>
    rw [parseSigType_some]
    rcases fromStr_cases s with ⟨t, h⟩ | h | h <;> rw [h]
    · exact .inl ⟨some t, rfl⟩
    · exact .inr (.inl rfl)
    · exact .inr (.inr rfl)

theorem parseSigType_some_ok_iff (s : List Char) (st : Option SignatureType) :
    parseSigType (some s) = .ok st ↔ ∃ t, st = some t ∧ normSpec s = t.canonical := by
  simp only [parseSigType_some, Res.bind_ok_eq_ok, fromStr_ok_iff]
  exact ⟨fun ⟨t, h, e⟩ => ⟨t, e, h⟩, fun ⟨t, e, h⟩ => ⟨t, h, e⟩⟩

theorem parseSigType_congr {s s' : List Char} (h : normSpec s = normSpec s') : parseSigType (some s) = parseSigType (some s') := by
  rw [parseSigType_some, parseSigType_some, fromStr_eq, fromStr_eq, h]

/-! ## the loop as written (iterator + `for`) is the fused loop -/

theorem fillIter_none {w : Writer} {cs : List Char} (h : NormalizedIter.next cs = none) : fillIter w cs = .ok w := by
  rw [fillIter]
  split
  · rfl
  · rename_i h'; rw [h] at h'; cases h'

theorem fillIter_some {w : Writer} {cs : List Char} {c : Char} {rest : List Char} (h : NormalizedIter.next cs = some (c, rest)) :
    fillIter w cs = (w.write (String.utf8EncodeChar c)).bind fun w' => fillIter w' rest := by
  rw [fillIter]
  split
  · rename_i h'; rw [h] at h'; cases h'
  · rename_i h'; rw [h] at h'; cases h'; rfl

theorem isSep_iff (c : Char) : isSep c = false ↔ (c ≠ '-' ∧ c ≠ '_' ∧ c ≠ ' ') := by
  simp [isSep, and_assoc]

theorem next_cons_keep {c : Char} (rest : List Char) (h : isSep c = false) :
    NormalizedIter.next (c :: rest) = some (c.toLower, rest) := by
  rw [NormalizedIter.next, if_pos ((isSep_iff c).mp h)]

theorem next_cons_sep {c : Char} (rest : List Char) (h : isSep c = true) :
    NormalizedIter.next (c :: rest) = NormalizedIter.next rest := by
  rw [NormalizedIter.next, if_neg (fun h' => by rw [(isSep_iff c).mpr h'] at h; cases h)]

theorem fillIter_eq_fill : ∀ (cs : List Char) (w : Writer), fillIter w cs = fill w cs
  | [], w => by rw [fillIter_none rfl]; rfl
  | c :: rest, w => by
    cases hc : isSep c
    · rw [fillIter_some (next_cons_keep rest hc), fill_cons_keep w rest hc]
      congr 1
      funext w'
      exact fillIter_eq_fill rest w'
    · rw [fill_cons_sep w rest hc, ← fillIter_eq_fill rest w]
      -- a separator is skipped inside `next`: both sides take the same step from `rest`
      cases hr : NormalizedIter.next rest with
      | none => rw [fillIter_none ((next_cons_sep rest hc).trans hr), fillIter_none hr]
      | some p => rw [fillIter_some ((next_cons_sep rest hc).trans hr), fillIter_some hr]

theorem normalizeAlgIter_eq (s : List Char) : normalizeAlgIter s = normalizeAlg s := by
  unfold normalizeAlgIter normalizeAlg
  rw [fillIter_eq_fill]

/-! ## closed forms of the two entry points -/

/-- the error a key without secret reports: `MissingSecretKey` ↦ Input for Ed25519, `Unsupported` for the ECDSA curves -/
def missingSecretKind : SigAlg → ErrKind
  | .ed25519 => .input
  | _ => .unsupported

-- `None | Some(<own type>)`: the type arguments that `write_signature` / `verify_signature` of an algorithm accept
def typeOk (a : SigAlg) (st : Option SignatureType) : Prop := st = none ∨ st = some a.native

instance (a : SigAlg) (st : Option SignatureType) : Decidable (typeOk a st) := by unfold typeOk; infer_instance

theorem typeOk_none (a : SigAlg) : typeOk a none := .inl rfl

theorem typeOk_native (a : SigAlg) : typeOk a (some a.native) := .inr rfl

theorem typeOk_some_iff {a : SigAlg} {st : SignatureType} : typeOk a (some st) ↔ st = a.native :=
  ⟨fun h => h.elim nofun fun e => Option.some.inj e, fun e => .inr (congrArg some e)⟩

theorem ed25519WriteSignature_eq (S : SigScheme) (k : Key) (m : Bytes) (t : Option SignatureType) :
    ed25519WriteSignature S k m t =
      if t = none ∨ t = some .eddsa then
        match k.secret with
        | some sk => .ok (S.sign sk m)
        | none => .err .missingSecretKey
      else .err .unsupported := by
  cases t with
  | none => rfl
  | some t => cases t <;> rfl

/-- the width check of `ecSign` never fires: the scheme's signatures have the scheme's width -/
theorem ecWriteSignature_eq (S : SigScheme) (native : SignatureType) (k : Key) (m : Bytes) (t : Option SignatureType) :
    ecWriteSignature S native k m t =
      if t = none ∨ t = some native then
        match k.secret with
        | some sk => .ok (S.sign sk m)
        | none => .err .unsupported
      else .err .unsupported := by
  unfold ecWriteSignature ecSign
  cases k.secret with
  | none => rfl
  | some sk => simp only [S.sign_len, if_true]; rfl

theorem ed25519VerifySignature_eq (S : SigScheme) (k : Key) (m sig : Bytes) (t : Option SignatureType) :
    ed25519VerifySignature S k m sig t = if t = none ∨ t = some .eddsa then ed25519Verify S k m sig else .err .unsupported := by
  cases t with
  | none => rfl
  | some t => cases t <;> rfl

theorem anyWrite_of {Sch : Schemes} {k : Key} {a : SigAlg} (ha : k.alg.sigAlg? = some a) (m : Bytes) (st : Option SignatureType) :
    anyWriteSignature Sch k m st =
      if typeOk a st then
        match k.secret with
        | some sk => .ok ((Sch.scheme a).sign sk m)
        | none => .err (if a = .ed25519 then .missingSecretKey else .unsupported)
      else .err .unsupported := by
  unfold anyWriteSignature
  rw [ha]
  cases a <;> simp only [ed25519WriteSignature_eq, ecWriteSignature_eq] <;> rfl

theorem anyWrite_of_nonsigning {Sch : Schemes} {k : Key} (ha : k.alg.sigAlg? = none) (m : Bytes) (st : Option SignatureType) :
    anyWriteSignature Sch k m st = .err .unsupported := by
  unfold anyWriteSignature
  rw [ha]

/-- the dispatch of `AnyKey::verify_signature`, uniformly in the algorithm; only Ed25519 decodes the stored public bytes again -/
theorem anyVerify_of {Sch : Schemes} {k : Key} {a : SigAlg} (ha : k.alg.sigAlg? = some a) (m sig : Bytes) (st : Option SignatureType) :
    anyVerifySignature Sch k m sig st =
      if typeOk a st then
        if sig.length = (Sch.scheme a).sigLen then
          if a = .ed25519 ∧ (Sch.scheme a).validPub k.pub = false then
            .panic "ed25519.rs: VerifyingKey::from_bytes(&self.public).unwrap()"
          else .ok ((Sch.scheme a).verify k.pub m sig)
        else .ok false
      else .err .unsupported := by
  unfold anyVerifySignature
  rw [ha]
  cases a
  · simp only [ed25519VerifySignature_eq, ed25519Verify, true_and, ← Bool.not_eq_true, ite_not]
    rfl
  all_goals
    simp only [reduceCtorEq, false_and, if_false]
    rfl

theorem anyVerify_of_nonsigning {Sch : Schemes} {k : Key} (ha : k.alg.sigAlg? = none) (m sig : Bytes) (st : Option SignatureType) :
    anyVerifySignature Sch k m sig st = .err .unsupported := by
  unfold anyVerifySignature
  rw [ha]

theorem signMessage_eq (Sch : Schemes) (k : Key) (m : Bytes) (t : Option (List Char)) :
    signMessage Sch k m t =
      match parseSigType t with
      | .ok st => (anyWriteSignature Sch k m st).mapErr CErr.toKind
      | .err e => .err e.toKind
      | .panic s => .panic s := by
  unfold signMessage
  cases parseSigType t <;> rfl

theorem verifySignature_eq (Sch : Schemes) (k : Key) (m sig : Bytes) (t : Option (List Char)) :
    verifySignature Sch k m sig t =
      match parseSigType t with
      | .ok st => (anyVerifySignature Sch k m sig st).mapErr CErr.toKind
      | .err e => .err e.toKind
      | .panic s => .panic s := by
  unfold verifySignature
  cases parseSigType t <;> rfl

theorem signMessage_of_parse {Sch : Schemes} (k : Key) (m : Bytes) {t : Option (List Char)} {st : Option SignatureType}
    (hp : parseSigType t = .ok st) : signMessage Sch k m t = (anyWriteSignature Sch k m st).mapErr CErr.toKind := by
  rw [signMessage_eq, hp]

theorem verifySignature_of_parse {Sch : Schemes} (k : Key) (m sig : Bytes) {t : Option (List Char)} {st : Option SignatureType}
    (hp : parseSigType t = .ok st) : verifySignature Sch k m sig t = (anyVerifySignature Sch k m sig st).mapErr CErr.toKind := by
  rw [verifySignature_eq, hp]

theorem entry_points_of_parse_err {Sch : Schemes} (k : Key) (m sig : Bytes) {t : Option (List Char)} {e : CErr} (hp : parseSigType t = .err e) :
    signMessage Sch k m t = .err e.toKind ∧ verifySignature Sch k m sig t = .err e.toKind := by
  rw [signMessage_eq, verifySignature_eq, hp]
  exact ⟨rfl, rfl⟩

theorem entry_points_of_nonsigning {Sch : Schemes} {k : Key} (m sig : Bytes) {t : Option (List Char)} {st : Option SignatureType}
    (ha : k.alg.sigAlg? = none) (hp : parseSigType t = .ok st) :
    signMessage Sch k m t = .err .unsupported ∧ verifySignature Sch k m sig t = .err .unsupported := by
  rw [signMessage_of_parse k m hp, verifySignature_of_parse k m sig hp, anyWrite_of_nonsigning ha, anyVerify_of_nonsigning ha]
  exact ⟨rfl, rfl⟩

theorem anyWrite_ok_elim {Sch : Schemes} {k : Key} {m s : Bytes} {st : Option SignatureType}
    (h : anyWriteSignature Sch k m st = .ok s) :
    ∃ a sk, k.alg.sigAlg? = some a ∧ k.secret = some sk ∧ typeOk a st ∧ s = (Sch.scheme a).sign sk m := by
  cases ha : k.alg.sigAlg? with
  | none => rw [anyWrite_of_nonsigning ha] at h; cases h
  | some a =>
    rw [anyWrite_of ha] at h
    by_cases hty : typeOk a st
    · rw [if_pos hty] at h
      cases hs : k.secret with
      | none => rw [hs] at h; cases h
      | some sk => rw [hs] at h; cases h; exact ⟨a, sk, rfl, rfl, hty, rfl⟩
    · rw [if_neg hty] at h; cases h

theorem sign_ok_elim {Sch : Schemes} {k : Key} {m : Bytes} {t : Option (List Char)} {s : Bytes}
    (h : signMessage Sch k m t = .ok s) :
    ∃ a sk st, k.alg.sigAlg? = some a ∧ k.secret = some sk ∧ parseSigType t = .ok st ∧ typeOk a st ∧
      s = (Sch.scheme a).sign sk m := by
  rw [signMessage_eq] at h
  cases hp : parseSigType t with
  | err e => rw [hp] at h; cases h
  | panic x => rw [hp] at h; cases h
  | ok st =>
    rw [hp] at h
    obtain ⟨a, sk, ha, hs, hty, hv⟩ := anyWrite_ok_elim ((Res.mapErr_eq_ok _ _ _).mp h)
    exact ⟨a, sk, st, ha, hs, rfl, hty, hv⟩

theorem sign_ok_intro {Sch : Schemes} {k : Key} {m : Bytes} {t : Option (List Char)} {a : SigAlg} {sk : Bytes}
    {st : Option SignatureType} (ha : k.alg.sigAlg? = some a) (hs : k.secret = some sk) (hp : parseSigType t = .ok st)
    (hty : typeOk a st) : signMessage Sch k m t = .ok ((Sch.scheme a).sign sk m) := by
  rw [signMessage_of_parse k m hp, anyWrite_of ha, if_pos hty, hs]
  rfl

theorem anyWrite_no_panic (Sch : Schemes) (k : Key) (m : Bytes) (st : Option SignatureType) :
    (anyWriteSignature Sch k m st).isPanic = false := by
  cases ha : k.alg.sigAlg? with
  | none => rw [anyWrite_of_nonsigning ha]; rfl
  | some a =>
    rw [anyWrite_of ha]
    by_cases hty : typeOk a st
    · rw [if_pos hty]; cases k.secret <;> rfl
    · rw [if_neg hty]; rfl

theorem sign_no_panic (Sch : Schemes) (k : Key) (m : Bytes) (t : Option (List Char)) : (signMessage Sch k m t).isPanic = false := by
  rw [signMessage_eq]
  rcases parseSigType_cases t with ⟨st, hp⟩ | hp | hp <;> rw [hp]
  · show ((anyWriteSignature Sch k m st).mapErr _).isPanic = false
    rw [Res.isPanic_mapErr, anyWrite_no_panic]
  · rfl
  · rfl

theorem mismatched_type_errors {Sch : Schemes} {k : Key} {a : SigAlg} {t : Option (List Char)} {st : SignatureType} (m sig : Bytes)
    (ha : k.alg.sigAlg? = some a) (hp : parseSigType t = .ok (some st)) (hne : st ≠ a.native) :
    signMessage Sch k m t = .err .unsupported ∧ verifySignature Sch k m sig t = .err .unsupported := by
  have hty : ¬ typeOk a (some st) := fun h => hne (typeOk_some_iff.mp h)
  rw [signMessage_of_parse k m hp, verifySignature_of_parse k m sig hp, anyWrite_of ha, anyVerify_of ha, if_neg hty, if_neg hty]
  exact ⟨rfl, rfl⟩

theorem public_only_sign_errors {Sch : Schemes} {k : Key} (m : Bytes) (t : Option (List Char)) (hs : k.secret = none) :
    (signMessage Sch k m t).isErr = true := by
  cases hr : signMessage Sch k m t with
  | err e => rfl
  | ok s =>
    obtain ⟨_, _, _, _, h, _⟩ := sign_ok_elim hr
    rw [hs] at h; cases h
  | panic x =>
    have h := sign_no_panic Sch k m t
    rw [hr] at h; cases h

theorem wf_iff {Sch : Schemes} {k : Key} {a : SigAlg} (ha : k.alg.sigAlg? = some a) :
    k.WF Sch ↔ (Sch.scheme a).validPub k.pub = true ∧ ∀ sk, k.secret = some sk → k.pub = (Sch.scheme a).pubOf sk := by
  unfold Key.WF
  rw [ha]

theorem wf_ofSecret (Sch : Schemes) (a : SigAlg) (alg : KeyAlg) (sk : Bytes) (h : alg.sigAlg? = some a) :
    (Key.ofSecret Sch a alg sk).WF Sch :=
  (wf_iff (k := Key.ofSecret Sch a alg sk) h).mpr ⟨(Sch.scheme a).pub_valid sk, fun sk' e => by cases e; rfl⟩

theorem wf_ofPublic {Sch : Schemes} {a : SigAlg} {alg : KeyAlg} {pk : Bytes} {k : Key} (h : alg.sigAlg? = some a)
    (hk : Key.ofPublic Sch a alg pk = some k) : k.WF Sch := by
  unfold Key.ofPublic at hk
  by_cases hv : (Sch.scheme a).validPub pk = true
  · rw [if_pos hv] at hk
    cases hk
    exact (wf_iff h).mpr ⟨hv, fun sk e => by cases e⟩
  · rw [if_neg hv] at hk; cases hk

theorem wf_toPublic {Sch : Schemes} {k : Key} (h : k.WF Sch) : k.toPublic.WF Sch := by
  cases ha : k.alg.sigAlg? with
  | none => unfold Key.WF; rw [show k.toPublic.alg = k.alg from rfl, ha]; trivial
  | some a => exact (wf_iff (k := k.toPublic) ha).mpr ⟨((wf_iff ha).mp h).1, fun sk e => by cases e⟩

theorem verify_eq_of_ok {Sch : Schemes} {k : Key} {a : SigAlg} {t : Option (List Char)} {st : Option SignatureType} (m sig : Bytes)
    (ha : k.alg.sigAlg? = some a) (hp : parseSigType t = .ok st) (hty : typeOk a st)
    (hv : (Sch.scheme a).validPub k.pub = true) :
    verifySignature Sch k m sig t = .ok (if sig.length = (Sch.scheme a).sigLen then (Sch.scheme a).verify k.pub m sig else false) := by
  rw [verifySignature_of_parse k m sig hp, anyVerify_of ha, if_pos hty, hv]
  by_cases hl : sig.length = (Sch.scheme a).sigLen
  · rw [if_pos hl, if_pos hl, if_neg (by simp)]; rfl
  · rw [if_neg hl, if_neg hl]; rfl

theorem wrong_length_false {Sch : Schemes} {k : Key} {a : SigAlg} {t : Option (List Char)} {st : Option SignatureType} (m sig : Bytes)
    (ha : k.alg.sigAlg? = some a) (hp : parseSigType t = .ok st) (hty : typeOk a st)
    (hl : sig.length ≠ (Sch.scheme a).sigLen) : verifySignature Sch k m sig t = .ok false := by
  rw [verifySignature_of_parse k m sig hp, anyVerify_of ha, if_pos hty, if_neg hl]
  rfl

theorem verify_own_signature {Sch : Schemes} {k k' : Key} {a : SigAlg} {m s : Bytes} {t t' : Option (List Char)}
    {st' : Option SignatureType}
    (hwf : k.WF Sch) (ha : k.alg.sigAlg? = some a) (halg : k'.alg = k.alg) (hpub : k'.pub = k.pub)
    (hp' : parseSigType t' = .ok st') (hty' : typeOk a st')
    (hs : signMessage Sch k m t = .ok s) : verifySignature Sch k' m s t' = .ok true := by
  obtain ⟨a', sk, st, h1, h2, _, _, rfl⟩ := sign_ok_elim hs
  rw [ha] at h1; cases h1
  obtain ⟨hv, hpk⟩ := (wf_iff ha).mp hwf
  rw [verify_eq_of_ok m _ (halg ▸ ha) hp' hty' (hpub ▸ hv), hpub, hpk sk h2, if_pos ((Sch.scheme a).sign_len sk m),
    (Sch.scheme a).verify_sign]

theorem verify_no_panic {Sch : Schemes} {k : Key} (hwf : k.WF Sch) (m sig : Bytes) (t : Option (List Char)) :
    (verifySignature Sch k m sig t).isPanic = false := by
  rcases parseSigType_cases t with ⟨st, hp⟩ | hp | hp
  · cases ha : k.alg.sigAlg? with
    | none => rw [(entry_points_of_nonsigning m sig ha hp).2]; rfl
    | some a =>
      by_cases hty : typeOk a st
      · rw [verify_eq_of_ok m sig ha hp hty ((wf_iff ha).mp hwf).1]; rfl
      · rw [verifySignature_of_parse k m sig hp, anyVerify_of ha, if_neg hty]; rfl
  · rw [(entry_points_of_parse_err k m sig hp).2]; rfl
  · rw [(entry_points_of_parse_err k m sig hp).2]; rfl

theorem verify_total {Sch : Schemes} {k : Key} (hwf : k.WF Sch) (m sig : Bytes) (t : Option (List Char)) :
    verifySignature Sch k m sig t = .ok true ∨ verifySignature Sch k m sig t = .ok false ∨
      ∃ e, verifySignature Sch k m sig t = .err e := by
  have h := verify_no_panic hwf m sig t
  cases hr : verifySignature Sch k m sig t with
  | ok b => cases b <;> simp
  | err e => exact .inr (.inr ⟨e, rfl⟩)
  | panic x => rw [hr] at h; cases h

/-- the widths `SignatureType::signature_length` announces are the widths the schemes produce -/
def Schemes.Std (Sch : Schemes) : Prop := ∀ a : SigAlg, (Sch.scheme a).sigLen = a.native.signatureLength

theorem toy_std : Toy.schemes.Std := by intro a; cases a <;> rfl

/-! ## what the laws of a `SigScheme` do not give -/

/-- a scheme that satisfies every law of `SigScheme` and accepts every one-byte signature: correctness of a scheme says nothing
    about rejection (that is unforgeability, a computational property of the real curves) -/
def acceptAll : SigScheme where
  sigLen := 1
  pubOf := fun sk => sk
  validPub := fun _ => true
  sign := fun _ _ => [0]
  verify := fun _ _ _ => true
  sign_len := by intros; rfl
  pub_valid := by intros; rfl
  verify_sign := by intros; rfl

def acceptAllSchemes : Schemes := { ed25519 := acceptAll, k256 := acceptAll, p256 := acceptAll, p384 := acceptAll }

end Askar.Sign
