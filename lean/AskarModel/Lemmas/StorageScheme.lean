/-
Lemmas for C09 (`Props/C09.lean`) about the storage scheme of `Model/StorageScheme.lean`: the two encryption forms,
the profile-key record, records with their tags, the value-key input, the key reference.  The codecs underneath have
their own files, Lemmas/Cbor.lean and Lemmas/Base58.lean.  `KeyRefWF` is the hypothesis of `C09.keyref_uri_roundtrip`.
-/
import AskarModel.Model.StorageScheme
import AskarModel.Lemmas.Bytes
import AskarModel.Lemmas.Cbor
import AskarModel.Lemmas.Base58

namespace Askar.Lemmas.StorageScheme
open Askar Askar.Crypto Askar.StorageScheme

/-! ### the two encryption forms -/

section Scheme
variable {P : Prims}

theorem searchableNonce_length (hP : P.Lawful) (hk m : Bytes) : (searchableNonce P hk m).length = nonceLen := by
  simp [searchableNonce, hP.hmac_len, nonceLen]

theorem decryptField_nonce_enc (hP : P.Lawful) (ek n m : Bytes) (hn : n.length = nonceLen) :
    decryptField P ek (n ++ P.enc ek n m) = some m := by
  unfold decryptField
  have hl : ¬ (n ++ P.enc ek n m).length < nonceLen + tagLen := by
    simp only [List.length_append, hP.enc_len, hn]; omega
  simp only [hl, if_false]
  rw [List.take_left' hn, List.drop_left' hn, hP.dec_enc]

theorem searchable_roundtrip (hP : P.Lawful) (ek hk m : Bytes) :
    decryptField P ek (encryptSearchable P ek hk m) = some m :=
  decryptField_nonce_enc hP ek _ m (searchableNonce_length hP hk m)

/-- both encryption forms are `nonce ‖ enc`: the stored bytes start with the nonce and are 28 bytes longer than the plaintext -/
theorem nonce_enc_layout (hP : P.Lawful) (ek n m : Bytes) (hn : n.length = nonceLen) :
    (n ++ P.enc ek n m).take nonceLen = n ∧ (n ++ P.enc ek n m).length = nonceLen + m.length + tagLen := by
  refine ⟨List.take_left' hn, ?_⟩
  rw [List.length_append, hn, hP.enc_len, Nat.add_assoc]

theorem value_roundtrip (hP : P.Lawful) (ihk c n nonce v : Bytes) (hn : nonce.length = nonceLen) :
    decryptValue P ihk c n (encryptValue P ihk c n nonce v) = some v :=
  decryptField_nonce_enc hP _ nonce v hn

/-! ### profile key -/

theorem toMap_fits (k : ProfileKey) (h : k.WF) : Cbor.Fits k.toMap := by
  obtain ⟨h1, h2, h3, h4, h5, h6⟩ := h
  refine ⟨by simp [ProfileKey.toMap], ?_⟩
  intro e he
  simp only [ProfileKey.toMap, List.mem_cons, List.mem_nil_iff, or_false] at he
  rcases he with rfl | rfl | rfl | rfl | rfl | rfl | rfl <;>
    simp [Cbor.Val.Fits, ascii, keyLen, *] <;> omega

theorem ofMap_toMap (k : ProfileKey) (h : k.WF) : ProfileKey.ofMap k.toMap = some k := by
  obtain ⟨h1, h2, h3, h4, h5, h6⟩ := h
  simp [ProfileKey.ofMap, ProfileKey.toMap, keyField, Cbor.lookup, ascii, h1, h2, h3, h4, h5, h6]

theorem profileKey_cbor_roundtrip (k : ProfileKey) (h : k.WF) : ProfileKey.ofCbor k.toCbor = some k := by
  simp only [ProfileKey.ofCbor, ProfileKey.toCbor, Cbor.decode_encodeMap _ (toMap_fits k h), ofMap_toMap k h]

/-! ### records -/

theorem tag_roundtrip (hP : P.Lawful) (k : ProfileKey) (id : Int) (t : Tag) :
    decryptTag P k (encryptTag P k id t) = some t := by
  obtain ⟨plain, name, value⟩ := t
  cases plain <;> simp [decryptTag, encryptTag, searchable_roundtrip hP]

theorem tags_roundtrip (hP : P.Lawful) (k : ProfileKey) (id : Int) (ts : List Tag) :
    (ts.map (encryptTag P k id)).mapM (decryptTag P k) = some ts := by
  induction ts with
  | nil => rfl
  | cons t ts ih => simp [List.mapM_cons, tag_roundtrip hP, ih]

end Scheme

theorem length_be32 (n : Nat) : (Bytes.be32 n).length = 4 := Bytes.be32_length n

theorem valueKeyInput_injective {c₁ n₁ c₂ n₂ : Bytes} (h1 : c₁.length < 2 ^ 32) (h2 : c₂.length < 2 ^ 32)
    (h : valueKeyInput c₁ n₁ = valueKeyInput c₂ n₂) : c₁ = c₂ ∧ n₁ = n₂ := by
  simp only [valueKeyInput, List.append_assoc] at h
  obtain ⟨hc, hr⟩ := Bytes.be32_append_inj h1 h2 h
  obtain ⟨hcc, hr2⟩ := List.append_inj hr hc
  exact ⟨hcc, (List.append_inj hr2 rfl).2⟩

/-! ### key reference -/

theorem hexVal_hexDigit : ∀ n : Fin 16, Bytes.hexVal (Bytes.hexDigit n.val) = some n.val := by decide

theorem ofHexChars_hexChars (b : Bytes) : Bytes.ofHexChars (hexChars b) = some b := by
  induction b with
  | nil => rfl
  | cons x xs ih =>
    have h1 := hexVal_hexDigit ⟨x.toNat / 16, by have := x.toNat_lt; omega⟩
    have h2 := hexVal_hexDigit ⟨x.toNat % 16, by omega⟩
    simp only [] at h1 h2
    have hx : UInt8.ofNat (x.toNat / 16 * 16 + x.toNat % 16) = x := by
      have : x.toNat / 16 * 16 + x.toNat % 16 = x.toNat := by omega
      rw [this, UInt8.ofNat_toNat]
    simp only [hexChars, List.flatMap_cons, List.cons_append, List.nil_append] at ih ⊢
    simp only [Bytes.ofHexChars, h1, h2, ih, hx]

theorem length_hexChars (b : Bytes) : (hexChars b).length = 2 * b.length := by
  induction b with
  | nil => rfl
  | cons x xs ih => simp only [hexChars, List.flatMap_cons, List.length_append, List.length_cons, List.length_nil] at ih ⊢; omega

theorem stripPrefix_append (p s : List Char) : stripPrefix p (p ++ s) = some s := by
  simp [stripPrefix]

theorem parseLevel_str (l : Level) (rest : List Char) : parseLevel (l.str ++ rest) = some (l, rest) := by
  cases l
  · simp [parseLevel, stripPrefix_append]
  · have : stripPrefix Level.interactive.str (Level.moderate.str ++ rest) = none := by
      simp [stripPrefix, Level.str, List.isPrefixOf]
    simp [parseLevel, this, stripPrefix_append]

def KeyRefWF : KeyRef → Prop
  | .argon2i _ salt => salt.length = saltLen
  | _ => True

theorem keyref_chars_roundtrip (r : KeyRef) (h : KeyRefWF r) : KeyRef.parseChars r.toChars = some r := by
  cases r with
  | raw => simp [KeyRef.parseChars, KeyRef.toChars]
  | unprotected => simp [KeyRef.parseChars, KeyRef.toChars, rawChars, noneChars]
  | argon2i l salt =>
    have hr : ¬ (kdfPrefix ++ (l.str ++ (saltPrefix ++ hexChars salt)) = rawChars) := by simp [kdfPrefix, rawChars]
    have hn : ¬ (kdfPrefix ++ (l.str ++ (saltPrefix ++ hexChars salt)) = noneChars) := by simp [kdfPrefix, noneChars]
    simp only [KeyRefWF] at h
    simp only [KeyRef.parseChars, KeyRef.toChars, hr, hn, if_false, stripPrefix_append, parseLevel_str,
      ofHexChars_hexChars, h, if_true]

theorem keyref_uri_roundtrip (r : KeyRef) (h : KeyRefWF r) : KeyRef.parse r.toUri = some r := by
  simp only [KeyRef.parse, KeyRef.toUri, String.toList_ofList, keyref_chars_roundtrip r h]

namespace Base58
open Askar.Crypto.Base58

theorem digitChar_ne_one : ∀ d : Fin 58, d.val ≠ 0 → digitChar d.val ≠ '1' := by
  intro d hd h
  have h1 : charVal (digitChar 0) = some 0 := charVal_digitChar ⟨0, by omega⟩
  rw [digitChar_zero, ← h, charVal_digitChar d] at h1
  exact hd (Option.some.inj h1)

end Base58

end Askar.Lemmas.StorageScheme
