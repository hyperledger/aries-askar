/- The character-level `replace_arg_placeholders` against the token-level account, for any dialect (the scanner is one
   generic function; only the spelling of the emitted placeholder differs).  The SQLite statements of Props/C04S.lean
   are the `.sqlite` instance, tied to `Model/WqlText.lean` by `replaceGoD_sqlite`. -/
import AskarModel.Model.WqlTextPg
import AskarModel.Lemmas.Wql

namespace Askar.Wql.Lemmas

theorem toString_toList_nat (n : Nat) : (toString n).toList = Nat.toDigits 10 n := by
  simp

theorem tokStr_toList (t : Tok) : t.str.toList = t.chars := by
  cases t with
  | text s => rfl
  | ph p => cases p <;> simp [Tok.str, Tok.chars, String.toList_append]

theorem toksString_toList (ts : List Tok) : (toksString ts).toList = toksChars ts := by
  simp only [toksString, String.toList_join, toksChars, List.flatMap_map]
  congr 1
  funext t
  exact tokStr_toList t

theorem finalString_toList (xs : List (String ⊕ Nat)) : (finalString xs).toList = finalChars xs := by
  simp only [finalString, String.toList_join, finalChars, List.flatMap_map]
  congr 1
  funext x
  cases x <;> simp [finalPiece, String.toList_append]

theorem toksChars_cons (t : Tok) (ts : List Tok) : toksChars (t :: ts) = t.chars ++ toksChars ts := by
  simp [toksChars]

theorem placeholder_sqlite (i : Int) : Dialect.placeholder .sqlite i = placeholderChars i := rfl

theorem replaceGoD_sqlite (start : Int) (s : List Char) :
    ∀ (index : Int) (st : Scan), replaceGoD .sqlite start index st s = replaceGo start index st s := by
  induction s with
  | nil => intro index st; cases st <;> simp only [replaceGoD, replaceGo, placeholder_sqlite]
  | cons c cs ih => intro index st; cases st <;> simp only [replaceGoD, replaceGo, ih, placeholder_sqlite]

theorem replaceArgsD_sqlite (s : List Char) (start : Int) : replaceArgsD .sqlite s start = replaceArgs s start :=
  replaceGoD_sqlite start s start .text

theorem replaceArgsStrD_sqlite (s : String) (start : Int) : replaceArgsStrD .sqlite s start = replaceArgsStr s start := by
  rw [replaceArgsStrD, replaceArgsD_sqlite, replaceArgsStr]

theorem finalCharsD_sqlite (xs : List (String ⊕ Nat)) : finalCharsD .sqlite xs = finalChars xs := by
  simp only [finalCharsD, finalChars]
  congr 1

theorem finalStringD_sqlite (xs : List (String ⊕ Nat)) : finalStringD .sqlite xs = finalString xs := by
  rw [finalStringD, finalCharsD_sqlite, ← finalString_toList, String.ofList_toList]

theorem isDigit_ne {c d : Char} (h : c.isDigit = true) (hd : d.isDigit = false) : c ≠ d := by
  intro hc
  subst hc
  exact absurd h (by simp [hd])

theorem toDigits_all_digit (n : Nat) : ∀ c ∈ Nat.toDigits 10 n, c.isDigit = true :=
  fun _ hc => Nat.isDigit_of_mem_toDigits (by decide) (by decide) hc

theorem toDigits_cons (n : Nat) : ∃ d ds, Nat.toDigits 10 n = d :: ds := by
  cases h : Nat.toDigits 10 n with
  | nil => exact absurd h Nat.toDigits_ne_nil
  | cons d ds => exact ⟨d, ds, rfl⟩

/-! ### the automaton on the three kinds of token -/

section Go
variable (d : Dialect) (start : Int)

theorem goD_text (index : Int) (s rest : List Char) (h : s.contains '$' = false) :
    replaceGoD d start index .text (s ++ rest) = (replaceGoD d start index .text rest).map (s ++ ·) := by
  induction s with
  | nil => simp
  | cons c s ih =>
    have hc : c ≠ '$' := by
      intro hc; subst hc; simp at h
    have hs : s.contains '$' = false := by
      simp only [List.contains_cons, Bool.or_eq_false_iff] at h
      exact h.2
    simp only [List.cons_append, replaceGoD, hc, if_false, ih hs, Option.map_map]
    rfl

theorem goD_dd (index : Int) (rest : List Char) :
    replaceGoD d start index .text ('$' :: '$' :: rest)
      = (chk (index + 1)).bind fun i' => (replaceGoD d start i' .text rest).map (d.placeholder index ++ ·) := by
  simp [replaceGoD]

theorem goD_digits (index : Int) (ds more rest : List Char) (hmore : ∀ c ∈ more, c.isDigit = true) :
    replaceGoD d start index (.digits ds) (more ++ rest) = replaceGoD d start index (.digits (ds ++ more)) rest := by
  induction more generalizing ds with
  | nil => simp
  | cons c more ih =>
    have hc : c.isDigit = true := hmore c (by simp)
    simp only [List.cons_append, replaceGoD, hc, if_true]
    rw [ih (ds ++ [c]) (fun c' hc' => hmore c' (by simp [hc']))]
    simp

theorem goD_digits_end (index : Int) (ds rest : List Char) (hrest : startsDigit rest = false) :
    replaceGoD d start index (.digits ds) rest
      = (subIndex start ds).bind fun k => (chk (index + 1)).bind fun i' =>
          (replaceGoD d start i' .text rest).map (d.placeholder k ++ ·) := by
  cases rest with
  | nil =>
    simp only [replaceGoD]
    cases subIndex start ds <;> cases chk (index + 1) <;> simp
  | cons c cs =>
    have hc : c.isDigit = false := by simpa [startsDigit] using hrest
    simp only [replaceGoD, hc]
    by_cases h : c = '$'
    · subst h
      simp
    · simp [h]

theorem goD_num (index : Int) (n : Nat) (rest : List Char) (hrest : startsDigit rest = false) :
    replaceGoD d start index .text ('$' :: Nat.toDigits 10 n ++ rest)
      = (subIndex start (Nat.toDigits 10 n)).bind fun k => (chk (index + 1)).bind fun i' =>
          (replaceGoD d start i' .text rest).map (d.placeholder k ++ ·) := by
  obtain ⟨c, ds, hd⟩ := toDigits_cons n
  have hall := toDigits_all_digit n
  rw [hd] at hall ⊢
  have hdd : c.isDigit = true := hall c (by simp)
  have hne : c ≠ '$' := isDigit_ne hdd (by decide)
  simp only [List.cons_append, replaceGoD, if_true, hne, if_false, hdd]
  rw [goD_digits d start index [c] ds rest (fun c' hc' => hall c' (by simp [hc'])),
    goD_digits_end d start index _ rest hrest]
  rfl

end Go

theorem chk_of_range {x : Int} (h1 : 0 ≤ x) (h2 : x ≤ i64Max) : chk x = some x := by
  have : i64Min ≤ x := by unfold i64Min; omega
  simp [chk, this, h2]

/-- `$N` is replaced by `N + start − 1`.  This is where `1 ≤ start` is needed: the token level (`replaceToks`) writes the
    number as a natural subtraction, which agrees with the code's `i64` arithmetic only then. -/
theorem subIndex_toDigits (start n : Nat) (hs : 1 ≤ start) (h : (n : Int) + start ≤ i64Max) :
    subIndex start (Nat.toDigits 10 n) = some ((n + start - 1 : Nat) : Int) := by
  unfold i64Max at h
  simp only [subIndex, Nat.ofDigitChars_ten_toDigits, Int.ofNat_eq_natCast]
  rw [chk_of_range (by omega) (by unfold i64Max; omega)]
  simp only [Option.bind_some]
  rw [chk_of_range (by omega) (by unfold i64Max; omega)]
  simp only [Option.bind_some]
  rw [chk_of_range (by omega) (by unfold i64Max; omega)]
  congr 1
  omega

theorem replaceGoD_tokens (d : Dialect) (start : Nat) (hs : 1 ≤ start) (ts : List Tok) :
    ∀ k : Nat, wfToks ts = true →
      (∀ n, Tok.ph (.num n) ∈ ts → (n : Int) + start ≤ i64Max) →
      (start : Int) + k + phCount ts ≤ i64Max →
      replaceGoD d start ((start : Int) + k) .text (toksChars ts) = some (finalCharsD d (replaceToks start k ts)) := by
  induction ts with
  | nil => intro k _ _ _; simp [toksChars, finalCharsD, replaceToks, replaceGoD]
  | cons t ts ih =>
    intro k hwf hnum hidx
    have hnum' : ∀ n, Tok.ph (.num n) ∈ ts → (n : Int) + start ≤ i64Max :=
      fun n hn => hnum n (by simp [hn])
    cases t with
    | text s =>
      simp only [wfToks, Bool.and_eq_true, Bool.not_eq_true'] at hwf
      simp only [phCount] at hidx
      have := ih k hwf.2 hnum' hidx
      simp only [toksChars_cons, Tok.chars]
      rw [goD_text _ _ _ _ _ hwf.1, this]
      simp [replaceToks, finalCharsD, finalPieceD]
    | ph p =>
      simp only [phCount] at hidx
      have hidx' : (start : Int) + (k + 1 : Nat) + phCount ts ≤ i64Max := by
        simp only [Int.natCast_add] at hidx ⊢; omega
      have hchk : chk ((start : Int) + k + 1) = some ((start : Int) + (k + 1 : Nat)) := by
        have e : (start : Int) + k + 1 = (start : Int) + (k + 1 : Nat) := by
          simp only [Int.natCast_add]; omega
        rw [e]
        exact chk_of_range (by omega) (by unfold i64Max at hidx' ⊢; omega)
      cases p with
      | dd =>
        simp only [wfToks] at hwf
        have := ih (k + 1) hwf hnum' hidx'
        simp only [toksChars_cons, Tok.chars, List.cons_append, List.nil_append]
        rw [goD_dd, hchk]
        simp only [Option.bind_some, this, Option.map_some]
        simp only [replaceToks, finalCharsD, List.flatMap_cons, finalPieceD, Dialect.placeholder]
        have : (start : Int) + k = ((start + k : Nat) : Int) := by simp
        rw [this]
        rfl
      | num n =>
        simp only [wfToks, Bool.and_eq_true, Bool.not_eq_true'] at hwf
        have := ih (k + 1) hwf.2 hnum' hidx'
        simp only [toksChars_cons, Tok.chars]
        rw [goD_num _ _ _ _ _ hwf.1, subIndex_toDigits start n hs (hnum n (by simp)), hchk]
        simp only [Option.bind_some, this, Option.map_some]
        simp only [replaceToks, finalCharsD, List.flatMap_cons, finalPieceD, Dialect.placeholder]
        rfl

theorem replaceArgsD_tokens_chars (d : Dialect) (ts : List Tok) (start : Nat) (hs : 1 ≤ start)
    (hwf : wfToks ts = true) (hno : NoOverflow start ts) :
    replaceArgsD d (toksChars ts) start = some (finalCharsD d (replaceToks start 0 ts)) := by
  have h := replaceGoD_tokens d start hs ts 0 hwf hno.1 (by simpa using hno.2)
  simpa only [replaceArgsD, Int.natCast_zero, Int.add_zero] using h

theorem replaceArgsD_tokens (d : Dialect) (ts : List Tok) (start : Nat) (hs : 1 ≤ start) (hwf : wfToks ts = true)
    (hno : NoOverflow start ts) :
    replaceArgsStrD d (toksString ts) start = some (finalStringD d (replaceToks start 0 ts)) := by
  simp only [replaceArgsStrD, toksString_toList, replaceArgsD_tokens_chars d ts start hs hwf hno, Option.map_some,
    finalStringD]

theorem replaceArgs_tokens (ts : List Tok) (start : Nat) (hs : 1 ≤ start) (hwf : wfToks ts = true)
    (hno : NoOverflow start ts) :
    replaceArgsStr (toksString ts) start = some (finalString (replaceToks start 0 ts)) := by
  rw [← replaceArgsStrD_sqlite, ← finalStringD_sqlite]
  exact replaceArgsD_tokens .sqlite ts start hs hwf hno

/-! ### the texts `render` writes -/

def cleanText (l : List Char) : Bool := !l.contains '$' && !l.contains '?'

/-- Text that may stand right after a `$N` placeholder: clean, and it does not go on with a digit. -/
def tameText (l : List Char) : Bool := cleanText l && !l.isEmpty && !startsDigit l

theorem cleanText_append {a b : List Char} (ha : cleanText a = true) (hb : cleanText b = true) :
    cleanText (a ++ b) = true := by
  simp_all [cleanText]

theorem tameText_append {a b : List Char} (ha : tameText a = true) (hb : cleanText b = true) :
    tameText (a ++ b) = true := by
  cases a with
  | nil => simp [tameText] at ha
  | cons c a =>
    simp only [tameText, Bool.and_eq_true] at ha ⊢
    exact ⟨⟨cleanText_append ha.1.1 hb, rfl⟩, ha.2⟩

theorem tameText_clean {l : List Char} (h : tameText l = true) : cleanText l = true := by
  simp only [tameText, Bool.and_eq_true] at h
  exact h.1.1

theorem startsDigit_tame_append {l : List Char} (h : tameText l = true) (rest : List Char) :
    startsDigit (l ++ rest) = false := by
  cases l with
  | nil => simp [tameText] at h
  | cons c l =>
    simp only [tameText, startsDigit, Bool.and_eq_true, Bool.not_eq_true'] at h
    exact h.2

/-- every text token of `render` has the shape fixed prefix ++ variable part ++ fixed suffix -/
theorem tame_template (pre mid post : String) (hpre : tameText pre.toList = true)
    (hmid : cleanText mid.toList = true) (hpost : cleanText post.toList = true) :
    tameText (pre ++ mid ++ post).toList = true := by
  rw [String.toList_append, String.toList_append]
  exact tameText_append (tameText_append hpre hmid) hpost

theorem CmpOp.sql_clean (o : CmpOp) : cleanText o.sql.toList = true := by
  cases o <;> decide +kernel

/- In the four lemmas below the fixed texts are literals: a literal unifies with `String.ofList _`, so rewriting with
   `String.toList_ofList` hands the kernel the characters and spares it `String.toList` on the literal (UTF-8 decoding,
   quadratic in its length). -/

theorem valueOp_tame (o : CmpOp) : tameText (" AND value " ++ o.sql ++ " ").toList = true :=
  tame_template _ _ _ (by rw [String.toList_ofList]; decide +kernel) (CmpOp.sql_clean o) (by decide +kernel)

theorem prefixOp_tame (o : CmpOp) : tameText (" AND SUBSTR(value, 1, 12) " ++ o.sql ++ " ").toList = true :=
  tame_template _ _ _ (by rw [String.toList_ofList]; decide +kernel) (CmpOp.sql_clean o) (by decide +kernel)

theorem plaintext_tame (p : Bool) : tameText (" AND plaintext = " ++ (if p then "1" else "0") ++ ")").toList = true :=
  tame_template _ _ _ (by rw [String.toList_ofList]; decide +kernel) (by cases p <;> decide +kernel) (by decide +kernel)

theorem select_clean (neg : Bool) :
    cleanText ("i.id " ++ (if neg then "NOT IN" else "IN")
      ++ " (SELECT item_id FROM items_tags WHERE name = ").toList = true :=
  tameText_clean (tame_template _ _ _ (by decide +kernel) (by cases neg <;> decide +kernel)
    (by rw [String.toList_ofList]; decide +kernel))

/-! ### `render` produces well-formed token text, and never writes a `?` -/

def tokNoQ : Tok → Bool
  | .text s => !s.toList.contains '?'
  | .ph _ => true

def NoQ (ts : List Tok) : Prop := ∀ t ∈ ts, tokNoQ t = true

/-- fit for the scanner in either dialect -/
def Safe (ts : List Tok) : Prop := wfToks ts = true ∧ NoQ ts

def SafeR (ts : List Tok) : Prop := ∀ rest, Safe rest → Safe (ts ++ rest)

theorem safeR_nil : SafeR [] := fun _ h => h

theorem safeR_append {a b : List Tok} (ha : SafeR a) (hb : SafeR b) : SafeR (a ++ b) := by
  intro rest h
  rw [List.append_assoc]
  exact ha _ (hb _ h)

theorem safe_text_cons {s : String} {ts : List Tok} (h : cleanText s.toList = true) (hs : Safe ts) :
    Safe (.text s :: ts) := by
  simp only [cleanText, Bool.and_eq_true, Bool.not_eq_true'] at h
  refine ⟨by simp only [wfToks, h.1, hs.1]; rfl, fun t ht => ?_⟩
  rcases List.mem_cons.mp ht with rfl | ht
  · simp only [tokNoQ, h.2]; rfl
  · exact hs.2 t ht

theorem safeR_text_cons (s : String) (ts : List Tok) (h : cleanText s.toList = true) (hw : SafeR ts) :
    SafeR (.text s :: ts) :=
  fun rest hr => safe_text_cons h (hw rest hr)

theorem safeR_text (s : String) (h : cleanText s.toList = true) : SafeR [.text s] :=
  safeR_text_cons s [] h safeR_nil

/-- a placeholder followed by tame text: the `$N` ends where the text begins -/
theorem safeR_ph_text (numbered : Bool) (i : Nat) (s : String) (ts : List Tok) (h : tameText s.toList = true)
    (hw : SafeR ts) : SafeR (phOf numbered i :: .text s :: ts) := by
  intro rest hr
  have ht := safe_text_cons (tameText_clean h) (hw rest hr)
  refine ⟨?_, fun t ht' => ?_⟩
  · cases numbered
    · exact ht.1
    · simp only [phOf, List.cons_append, wfToks, if_true, toksChars_cons, Tok.chars,
        startsDigit_tame_append h, Bool.not_false, Bool.true_and]
      exact ht.1
  · rcases List.mem_cons.mp ht' with rfl | ht'
    · cases numbered <;> rfl
    · exact ht.2 t ht'

theorem safeR_inl (numbered : Bool) (vs : List Nat) (tail : List Tok) (hw : SafeR tail) :
    SafeR (((vs.map fun i => [phOf numbered i]).intersperse [.text ", "]).flatten ++ .text ")" :: tail) := by
  induction vs with
  | nil => simpa using safeR_text_cons ")" tail (by decide) hw
  | cons a vs ih =>
    cases vs with
    | nil =>
      simp only [List.map_cons, List.map_nil, List.intersperse_singleton, List.flatten_cons, List.flatten_nil,
        List.append_nil, List.cons_append, List.nil_append]
      exact safeR_ph_text numbered a ")" tail (by decide) hw
    | cons b vs =>
      simp only [List.map_cons, List.intersperse_cons_cons, List.flatten_cons, List.cons_append,
        List.nil_append] at ih ⊢
      exact safeR_ph_text numbered a ", " _ (by decide) ih

theorem safeR_cond (numbered : Bool) (a : Nat) (c : Cond) (s : String) (tail : List Tok)
    (hs : tameText s.toList = true) (hw : SafeR tail) :
    SafeR (phOf numbered a :: (renderCond numbered c ++ .text s :: tail)) := by
  have hlast (v : Nat) := safeR_ph_text numbered v s tail hs hw
  cases c with
  | none => exact hlast a
  | op o v pfx =>
    cases pfx with
    | none => exact safeR_ph_text numbered a _ _ (valueOp_tame o) (hlast v)
    | some pk =>
      exact safeR_ph_text numbered a _ _ (valueOp_tame o)
        (safeR_ph_text numbered v _ _ (prefixOp_tame pk.1) (hlast pk.2))
  | inl vs =>
    simp only [renderCond, List.cons_append, List.nil_append, List.append_assoc]
    exact safeR_ph_text numbered a _ _ (by decide +kernel)
      (safeR_inl numbered vs _ (safeR_text_cons s tail (tameText_clean hs) hw))

theorem safeR_renderList (op : ConjOp) (cs : List Clause) (ih : ∀ c ∈ cs, SafeR (render c)) :
    SafeR (renderList op cs) := by
  induction cs with
  | nil => exact safeR_nil
  | cons c cs ihcs =>
    simp only [renderList]
    refine safeR_append (safeR_append (ih c (by simp)) ?_) (ihcs fun c' hc' => ih c' (by simp [hc']))
    split
    · exact safeR_nil
    · exact safeR_text _ (by cases op <;> decide +kernel)

theorem render_safeR (c : Clause) : SafeR (render c) := by
  induction c using Clause.induct' with
  | sub neg a cnd p numbered =>
    simp only [render, List.cons_append, List.nil_append]
    exact safeR_text_cons _ _ (select_clean neg) (safeR_cond numbered a cnd _ [] (plaintext_tame p) safeR_nil)
  | conj op cs ih =>
    simp only [render]
    refine safeR_append (safeR_append ?_ (safeR_renderList op cs ih)) ?_
    · split
      · exact safeR_text _ (by decide)
      · exact safeR_nil
    · split
      · exact safeR_text _ (by decide)
      · exact safeR_nil
  | zero => exact safeR_text _ (by decide)

theorem render_safe (c : Clause) : Safe (render c) := by
  simpa using render_safeR c [] ⟨rfl, fun _ h => nomatch h⟩

theorem render_wellformed (c : Clause) : wfToks (render c) = true :=
  (render_safe c).1

theorem render_noQ (c : Clause) : NoQ (render c) :=
  (render_safe c).2

/-! ### end to end: the text the real code sends to the database for an encoded filter -/

theorem phs_length (start k : Nat) (ts : List Tok) : (phs (replaceToks start k ts)).length = phCount ts := by
  fun_induction replaceToks start k ts with
  | case1 => rfl
  | case2 k s ts ih => simpa [phs, phCount] using ih
  | case3 k ts ih => simpa [phs, phCount] using ih
  | case4 k n ts ih => simpa [phs, phCount] using ih

theorem mem_num_phs (start k : Nat) (ts : List Tok) (n : Nat) (h : Tok.ph (.num n) ∈ ts) :
    (n + start - 1) ∈ phs (replaceToks start k ts) := by
  fun_induction replaceToks start k ts with
  | case1 => cases h
  | case2 k s ts ih => simpa [phs] using ih (by simpa using h)
  | case3 k ts ih => exact List.mem_cons_of_mem _ (ih (by simpa using h))
  | case4 k m ts ih =>
    rcases List.mem_cons.mp h with e | h
    · cases e; exact List.mem_cons_self
    · exact List.mem_cons_of_mem _ (ih h)

theorem render_noOverflow (E : TagCrypto) (q : Query TagName) (c : Clause) (start : Nat)
    (h : (encodeQuery E q).1 = some c)
    (hlen : (start : Int) + (encodeQuery E q).2.length ≤ i64Max) : NoOverflow start (render c) := by
  have hp := phs_render E q c start h
  constructor
  · intro n hn
    have hm := mem_num_phs start 0 (render c) n hn
    rw [hp] at hm
    simp only [List.mem_map, List.mem_range] at hm
    obtain ⟨i, hi, he⟩ := hm
    unfold i64Max at hlen ⊢
    omega
  · have hl := phs_length start 0 (render c)
    rw [hp, List.length_map, List.length_range] at hl
    rw [← hl]
    exact hlen

theorem encode_text_exactD (d : Dialect) (E : TagCrypto) (q : Query TagName) (c : Clause) (start : Nat)
    (hs : 1 ≤ start) (h : (encodeQuery E q).1 = some c)
    (hlen : (start : Int) + (encodeQuery E q).2.length ≤ i64Max) :
    replaceArgsStrD d (toksString (render c)) start = some (finalStringD d (replaceToks start 0 (render c))) :=
  replaceArgsD_tokens d (render c) start hs (render_wellformed c) (render_noOverflow E q c start h hlen)

theorem encode_text_exact (E : TagCrypto) (q : Query TagName) (c : Clause) (start : Nat) (hs : 1 ≤ start)
    (h : (encodeQuery E q).1 = some c)
    (hlen : (start : Int) + (encodeQuery E q).2.length ≤ i64Max) :
    replaceArgsStr (toksString (render c)) start = some (finalString (replaceToks start 0 (render c))) :=
  replaceArgs_tokens (render c) start hs (render_wellformed c) (render_noOverflow E q c start h hlen)

/-! ### the LIMIT suffix: a constant text with two `$$` -/

/-- what stands between the two placeholders of `Dialect.limitText` -/
def limitSep : Dialect → String
  | .sqlite => ", "
  | .postgres => " OFFSET "

theorem limitText_toks (d : Dialect) :
    d.limitText = toksChars [.text " LIMIT ", .ph .dd, .text (limitSep d), .ph .dd] := by
  cases d <;> decide +kernel

/-- Where the `3` comes from: the scan starts at index `nargs + 1`, there are two placeholders, and the scanner
    advances its running index (a checked `+ 1`) after the second one too: the largest number formed is `nargs + 3`. -/
theorem limitText_replaced (d : Dialect) (nargs : Nat) (hn : (nargs : Int) + 3 ≤ i64Max) :
    replaceArgsD d d.limitText ((nargs : Int) + 1)
      = some (finalCharsD d [.inl " LIMIT ", .inr (nargs + 1), .inl (limitSep d), .inr (nargs + 2)]) := by
  have hno : NoOverflow (nargs + 1) [.text " LIMIT ", .ph .dd, .text (limitSep d), .ph .dd] := by
    constructor
    · intro n hn; simp at hn
    · simp only [phCount]; unfold i64Max at hn ⊢; omega
  have hg := replaceArgsD_tokens_chars d _ (nargs + 1) (by omega) (by cases d <;> decide +kernel) hno
  rw [← limitText_toks, Int.natCast_add, Int.natCast_one] at hg
  exact hg

theorem limitQueryD_sqlite (q : List Char) (nargs : Nat) (offset limit : Option Int) :
    (limitQueryD .sqlite q nargs offset limit).map (fun r => (r.1, r.2.1)) = limitQuery q nargs offset limit := by
  unfold limitQueryD limitQuery
  have e : Dialect.limitText .sqlite = " LIMIT $$, $$".toList := rfl
  by_cases h : (offset.isSome || limit.isSome) = true
  · rw [if_pos h, if_pos h, replaceArgsD_sqlite, Option.map_map, e]
    rfl
  · rw [if_neg h, if_neg h]
    rfl

theorem limitQueryD_shape (d : Dialect) (q : List Char) (nargs : Nat) (offset limit : Option Int)
    (h : (offset.isSome || limit.isSome) = true) (hn : (nargs : Int) + 3 ≤ i64Max) :
    limitQueryD d q nargs offset limit
      = some (q ++ finalCharsD d [.inl " LIMIT ", .inr (nargs + 1), .inl (limitSep d), .inr (nargs + 2)], nargs + 2,
          d.limitBinds offset limit) := by
  rw [limitQueryD, if_pos h, limitText_replaced d nargs hn, Option.map_some]

theorem limitQueryD_count (d : Dialect) (q : List Char) (nargs : Nat) (offset limit : Option Int)
    (q' : List Char) (n : Nat) (bs : List Bind) (h : limitQueryD d q nargs offset limit = some (q', n, bs)) :
    n = nargs + (if offset.isSome || limit.isSome then 2 else 0)
      ∧ bs.length = (if offset.isSome || limit.isSome then 2 else 0) := by
  unfold limitQueryD at h
  by_cases hw : (offset.isSome || limit.isSome) = true
  · rw [if_pos hw] at h
    rw [if_pos hw]
    cases hr : replaceArgsD d d.limitText ((nargs : Int) + 1) with
    | none => rw [hr] at h; cases h
    | some l =>
      rw [hr] at h
      simp only [Option.map_some, Option.some.injEq, Prod.mk.injEq] at h
      obtain ⟨_, rfl, rfl⟩ := h
      cases d <;> simp [Dialect.limitBinds]
  · rw [if_neg hw] at h
    rw [if_neg hw]
    simp only [Option.some.injEq, Prod.mk.injEq] at h
    obtain ⟨_, rfl, rfl⟩ := h
    simp

theorem limitQueryD_sqlite_shape (q : List Char) (nargs : Nat) (offset limit : Option Int)
    (h : (offset.isSome || limit.isSome) = true) (hn : (nargs : Int) + 3 ≤ i64Max) :
    limitQueryD .sqlite q nargs offset limit
      = some (q ++ (" LIMIT ?" ++ toString (nargs + 1) ++ ", ?" ++ toString (nargs + 2)).toList, nargs + 2,
          [.int (offset.getD 0), .int (limit.getD (-1))]) := by
  rw [limitQueryD_shape _ _ _ _ _ h hn]
  simp only [String.toList_append, toString_toList_nat, finalCharsD, finalPieceD, List.flatMap_cons, List.flatMap_nil,
    Dialect.sigil, limitSep, Dialect.limitBinds]
  -- the four literals as character lists, then only `++` is left to reassociate
  rw [String.toList_ofList, String.toList_ofList, String.toList_ofList, String.toList_ofList]
  simp only [List.append_assoc, List.cons_append, List.nil_append, List.append_nil]

end Askar.Wql.Lemmas
