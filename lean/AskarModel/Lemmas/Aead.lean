/-
Lemmas for C12 about `Model/Aead.lean` (the operations as functions on byte lists) and `Crypto/Cbc.lean`.  That the
key-wrap loops compute RFC 3394 is `Lemmas/KeyWrapRefine.lean`; the property theorems are in `Props/C12.lean`.
-/
import AskarModel.Model.Aead
import AskarModel.Lemmas.Bytes
namespace Askar.Aead.Lemmas
open Askar Askar.Aead Askar.Crypto

/-! ### xor, chunks -/

theorem xor_length (a b : Bytes) : (Cbc.xor a b).length = min a.length b.length := by
  simp [Cbc.xor]

theorem xor_xor_cancel : ∀ (a b : Bytes), a.length ≤ b.length → Cbc.xor (Cbc.xor a b) b = a
  | [], _, _ => by simp [Cbc.xor]
  | _ :: _, [], h => by simp at h
  | x :: a, y :: b, h => by
    have ih := xor_xor_cancel a b (by simpa using h)
    simp only [Cbc.xor] at ih ⊢
    simp only [List.zipWith_cons_cons, List.cons.injEq]
    exact ⟨by rw [UInt8.xor_assoc, UInt8.xor_self, UInt8.xor_zero], ih⟩

theorem chunksN_flatten (n : Nat) : ∀ (bs : List Bytes) (rest : Bytes), (∀ b ∈ bs, b.length = n) →
    Cbc.chunksN n bs.length (bs.flatten ++ rest) = bs
  | [], _, _ => by simp [Cbc.chunksN]
  | b :: bs, rest, h => by
    have hb : b.length = n := h b (by simp)
    have ih := chunksN_flatten n bs rest (fun c hc => h c (by simp [hc]))
    simp only [List.length_cons, Cbc.chunksN, List.flatten_cons, List.append_assoc]
    rw [List.take_left' hb, List.drop_left' hb, ih]

theorem flatten_length_of_all (n : Nat) : ∀ (bs : List Bytes), (∀ b ∈ bs, b.length = n) → bs.flatten.length = n * bs.length
  | [], _ => by simp
  | b :: bs, h => by
    have hb : b.length = n := h b (by simp)
    have ih := flatten_length_of_all n bs (fun c hc => h c (by simp [hc]))
    simp only [List.flatten_cons, List.length_append, List.length_cons, hb, ih]
    rw [Nat.mul_add, Nat.mul_one, Nat.add_comm]

theorem chunks_flatten (n : Nat) (hn : 0 < n) (bs : List Bytes) (h : ∀ b ∈ bs, b.length = n) :
    Cbc.chunks n bs.flatten = bs := by
  have := chunksN_flatten n bs [] h
  simp only [List.append_nil] at this
  unfold Cbc.chunks
  rw [flatten_length_of_all n bs h, Nat.mul_div_cancel_left _ hn, this]

theorem chunksN_all_length (n : Nat) : ∀ (k : Nat) (b : Bytes), n * k ≤ b.length → ∀ c ∈ Cbc.chunksN n k b, c.length = n
  | 0, _, _ => by simp [Cbc.chunksN]
  | k + 1, b, h => by
    intro c hc
    simp only [Cbc.chunksN, List.mem_cons] at hc
    have hnb : n ≤ b.length := by
      have : n * (k + 1) = n * k + n := by rw [Nat.mul_add, Nat.mul_one]
      omega
    cases hc with
    | inl h1 => subst h1; simp [List.length_take]; omega
    | inr h1 =>
      refine chunksN_all_length n k (b.drop n) ?_ c h1
      have : n * (k + 1) = n * k + n := by rw [Nat.mul_add, Nat.mul_one]
      simp only [List.length_drop]; omega

theorem chunksN_length (n : Nat) : ∀ (k : Nat) (b : Bytes), (Cbc.chunksN n k b).length = k
  | 0, _ => by simp [Cbc.chunksN]
  | k + 1, b => by simp [Cbc.chunksN, chunksN_length n k]

theorem chunks_all_length (n : Nat) (b : Bytes) : ∀ c ∈ Cbc.chunks n b, c.length = n :=
  chunksN_all_length n (b.length / n) b (Nat.mul_div_le _ _)

theorem chunks_length (n : Nat) (b : Bytes) : (Cbc.chunks n b).length = b.length / n := chunksN_length n _ b

theorem flatten_chunksN (n : Nat) : ∀ (k : Nat) (b : Bytes), n * k ≤ b.length →
    (Cbc.chunksN n k b).flatten = b.take (n * k)
  | 0, b, _ => by simp [Cbc.chunksN]
  | k + 1, b, h => by
    have e : n * (k + 1) = n + n * k := by rw [Nat.mul_add, Nat.mul_one, Nat.add_comm]
    have ih := flatten_chunksN n k (b.drop n) (by simp only [List.length_drop]; omega)
    simp only [Cbc.chunksN, List.flatten_cons, ih, e]
    rw [List.take_add]

theorem flatten_chunks_append (n : Nat) (b : Bytes) :
    (Cbc.chunks n b).flatten ++ b.drop (n * (b.length / n)) = b := by
  unfold Cbc.chunks
  rw [flatten_chunksN n _ b (Nat.mul_div_le _ _), List.take_append_drop]

theorem flatten_chunks (n : Nat) (b : Bytes) (h : b.length % n = 0) : (Cbc.chunks n b).flatten = b := by
  have := flatten_chunks_append n b
  have e : n * (b.length / n) = b.length := by
    have := Nat.div_add_mod b.length n
    omega
  rw [e, List.drop_length, List.append_nil] at this
  exact this

theorem chunks_writeback_length (n : Nat) (body : Bytes) (cs : List Bytes) (hall : ∀ c ∈ cs, c.length = n)
    (hlen : cs.length = body.length / n) : (cs.flatten ++ body.drop (n * (body.length / n))).length = body.length := by
  rw [List.length_append, flatten_length_of_all n cs hall, hlen, List.length_drop]
  exact Nat.add_sub_cancel' (Nat.mul_div_le _ _)

theorem drop_blocks (n : Nat) (l : Bytes) : (l.drop n).length / n = l.length / n - 1 := by
  have h := Nat.sub_mul_div l.length n 1
  rwa [Nat.mul_one, ← List.length_drop] at h

/-! ### PKCS#7 and CBC -/

theorem pkcs7Pad_length (k : Nat) (hk : 0 < k) (m : Bytes) : (Cbc.pkcs7Pad k m).length = (m.length / k + 1) * k := by
  have h1 : m.length % k < k := Nat.mod_lt _ hk
  have h2 := Nat.div_add_mod m.length k
  simp only [Cbc.pkcs7Pad, List.length_append, List.length_replicate]
  rw [Nat.add_mul, Nat.one_mul, Nat.mul_comm]
  omega

theorem pkcs7_unpad_pad (k : Nat) (hk : 0 < k) (hk2 : k < 256) (m : Bytes) :
    Cbc.pkcs7Unpad k (Cbc.pkcs7Pad k m) = some m := by
  have h1 : m.length % k < k := Nat.mod_lt _ hk
  generalize hn : k - m.length % k = n
  have hn1 : 0 < n := by omega
  have hn2 : n ≤ k := by omega
  have hne : n ≠ 0 := by omega
  have hto : (UInt8.ofNat n).toNat = n := by
    simp only [UInt8.toNat_ofNat']; omega
  unfold Cbc.pkcs7Unpad Cbc.pkcs7Pad
  simp only [hn, List.getLast?_append, List.getLast?_replicate, hne, if_false, Option.some_or, hto,
    List.length_append, List.length_replicate]
  have c1 : (n == 0) = false := by simp [hne]
  have c2 : decide (n > k) = false := by simp; omega
  have c3 : decide (n > m.length + n) = false := by simp
  simp only [c1, c2, c3, Bool.or_false, Bool.false_eq_true, if_false, Nat.add_sub_cancel]
  rw [List.drop_left' rfl, List.take_left' rfl]
  simp [List.all_replicate]

theorem pkcs7Unpad_take (k : Nat) (b pt : Bytes) (h : Cbc.pkcs7Unpad k b = some pt) :
    pt = b.take pt.length ∧ pt.length ≤ b.length := by
  unfold Cbc.pkcs7Unpad at h
  split at h
  · cases h
  · rename_i last _
    simp only at h
    split at h
    · cases h
    · split at h
      · cases h
        simp [List.length_take]
      · cases h

theorem cbc_dec_enc_blocks (enc dec : Bytes → Bytes)
    (hlen : ∀ b, b.length = 16 → (enc b).length = 16) (hde : ∀ b, b.length = 16 → dec (enc b) = b) :
    ∀ (ps : List Bytes) (prev : Bytes), prev.length = 16 → (∀ p ∈ ps, p.length = 16) →
      Cbc.decBlocks dec prev (Cbc.encBlocks enc prev ps) = ps
  | [], _, _, _ => by simp [Cbc.encBlocks, Cbc.decBlocks]
  | p :: ps, prev, hprev, h => by
    have hp : p.length = 16 := h p (by simp)
    have hx : (Cbc.xor p prev).length = 16 := by rw [xor_length]; omega
    have ih := cbc_dec_enc_blocks enc dec hlen hde ps (enc (Cbc.xor p prev)) (hlen _ hx) (fun q hq => h q (by simp [hq]))
    simp only [Cbc.encBlocks, Cbc.decBlocks, hde _ hx, ih]
    rw [xor_xor_cancel p prev (by omega)]

theorem encBlocks_all_length (enc : Bytes → Bytes) (hlen : ∀ b, b.length = 16 → (enc b).length = 16) :
    ∀ (ps : List Bytes) (prev : Bytes), prev.length = 16 → (∀ p ∈ ps, p.length = 16) →
      ∀ c ∈ Cbc.encBlocks enc prev ps, c.length = 16
  | [], _, _, _ => by simp [Cbc.encBlocks]
  | p :: ps, prev, hprev, h => by
    have hp : p.length = 16 := h p (by simp)
    have hx : (Cbc.xor p prev).length = 16 := by rw [xor_length]; omega
    intro c hc
    simp only [Cbc.encBlocks, List.mem_cons] at hc
    cases hc with
    | inl h1 => subst h1; exact hlen _ hx
    | inr h1 => exact encBlocks_all_length enc hlen ps _ (hlen _ hx) (fun q hq => h q (by simp [hq])) c h1

theorem encBlocks_length (enc : Bytes → Bytes) : ∀ (ps : List Bytes) (prev : Bytes), (Cbc.encBlocks enc prev ps).length = ps.length
  | [], _ => by simp [Cbc.encBlocks]
  | p :: ps, prev => by simp [Cbc.encBlocks, encBlocks_length enc ps]

theorem decBlocks_all_length (dec : Bytes → Bytes) (hlen : ∀ b, b.length = 16 → (dec b).length = 16) :
    ∀ (cs : List Bytes) (prev : Bytes), prev.length = 16 → (∀ c ∈ cs, c.length = 16) →
      ∀ p ∈ Cbc.decBlocks dec prev cs, p.length = 16
  | [], _, _, _ => by simp [Cbc.decBlocks]
  | c :: cs, prev, hprev, h => by
    have hc : c.length = 16 := h c (by simp)
    intro p hp
    simp only [Cbc.decBlocks, List.mem_cons] at hp
    cases hp with
    | inl h1 => subst h1; rw [xor_length, hlen _ hc, hprev]; rfl
    | inr h1 => exact decBlocks_all_length dec hlen cs c hc (fun q hq => h q (by simp [hq])) p h1

theorem decBlocks_length (dec : Bytes → Bytes) : ∀ (cs : List Bytes) (prev : Bytes), (Cbc.decBlocks dec prev cs).length = cs.length
  | [], _ => by simp [Cbc.decBlocks]
  | c :: cs, prev => by simp [Cbc.decBlocks, decBlocks_length dec cs]

theorem cbc_encrypt_length (enc : Bytes → Bytes) (hlen : ∀ b, b.length = 16 → (enc b).length = 16)
    (iv data : Bytes) (hiv : iv.length = 16) : (Cbc.encrypt enc iv data).length = 16 * (data.length / 16) := by
  unfold Cbc.encrypt
  rw [flatten_length_of_all 16 _ (encBlocks_all_length enc hlen _ iv hiv (chunks_all_length 16 data)),
    encBlocks_length, chunks_length]

theorem cbc_decrypt_length (dec : Bytes → Bytes) (hlen : ∀ b, b.length = 16 → (dec b).length = 16)
    (iv data : Bytes) (hiv : iv.length = 16) : (Cbc.decrypt dec iv data).length = 16 * (data.length / 16) := by
  unfold Cbc.decrypt
  rw [flatten_length_of_all 16 _
      (decBlocks_all_length dec hlen _ iv hiv (chunks_all_length 16 data)),
    decBlocks_length, chunks_length]

/-- SP 800-38A CBC on whole blocks, for any block cipher -/
theorem cbc_dec_enc (enc dec : Bytes → Bytes)
    (hlen : ∀ b, b.length = 16 → (enc b).length = 16) (hde : ∀ b, b.length = 16 → dec (enc b) = b)
    (iv data : Bytes) (hiv : iv.length = 16) (hd : data.length % 16 = 0) :
    Cbc.decrypt dec iv (Cbc.encrypt enc iv data) = data := by
  unfold Cbc.decrypt Cbc.encrypt
  have hall := encBlocks_all_length enc hlen _ iv hiv (chunks_all_length 16 data)
  rw [chunks_flatten 16 (by decide) _ hall, cbc_dec_enc_blocks enc dec hlen hde _ iv hiv (chunks_all_length 16 data),
    flatten_chunks 16 data hd]

theorem cbcPaddingLength_spec (n : Nat) : (n / 16 + 1) * 16 = n + cbcPaddingLength n := by
  unfold cbcPaddingLength
  have := Nat.div_add_mod n 16
  have := Nat.mod_lt n (by decide : 0 < 16)
  omega

theorem cbc_encrypt_pad_length (enc : Bytes → Bytes) (hlen : ∀ b, b.length = 16 → (enc b).length = 16) (iv m : Bytes)
    (hiv : iv.length = 16) : (Cbc.encrypt enc iv (Cbc.pkcs7Pad 16 m)).length = m.length + cbcPaddingLength m.length := by
  rw [cbc_encrypt_length _ hlen _ _ hiv, pkcs7Pad_length 16 (by decide), Nat.mul_div_cancel _ (by decide : 0 < 16),
    Nat.mul_comm, cbcPaddingLength_spec]

theorem cbcDecryptPadded_encrypt (C : BlockCipher) (hC : C.Lawful) (ek nonce m : Bytes) (hn : nonce.length = 16) :
    cbcDecryptPadded (C.dec ek) nonce (Cbc.encrypt (C.enc ek) nonce (Cbc.pkcs7Pad 16 m)) = some m := by
  have hpl := pkcs7Pad_length 16 (by decide) m
  have hmod : (Cbc.pkcs7Pad 16 m).length % 16 = 0 := by rw [hpl]; exact Nat.mul_mod_left _ _
  have hl : (Cbc.encrypt (C.enc ek) nonce (Cbc.pkcs7Pad 16 m)).length % 16 = 0 := by
    rw [cbc_encrypt_length _ (hC.enc_len _) _ _ hn]; exact Nat.mul_mod_right _ _
  unfold cbcDecryptPadded
  simp only [hl, ne_eq, not_true_eq_false, if_false]
  rw [cbc_dec_enc _ _ (hC.enc_len ek) (hC.dec_enc ek) _ _ hn hmod]
  exact pkcs7_unpad_pad 16 (by decide) (by decide) m

theorem cbcDecryptPadded_some (dec : Bytes → Bytes) (hlen : ∀ b, b.length = 16 → (dec b).length = 16) (iv data pt : Bytes)
    (hiv : iv.length = 16) (h : cbcDecryptPadded dec iv data = some pt) :
    (Cbc.decrypt dec iv data).length = data.length ∧ pt.length ≤ data.length ∧ (Cbc.decrypt dec iv data).take pt.length = pt := by
  unfold cbcDecryptPadded at h
  split at h
  · cases h
  · rename_i hmod
    have hl : (Cbc.decrypt dec iv data).length = data.length := by
      have := Nat.div_add_mod data.length 16
      rw [cbc_decrypt_length dec hlen iv data hiv]; omega
    obtain ⟨hpt, hptl⟩ := pkcs7Unpad_take 16 _ pt h
    exact ⟨hl, hl ▸ hptl, hpt.symm⟩

/-! ### `Res`, guards, bounds-checked slices -/

@[simp] theorem bind_ok {α β : Type} (a : α) (f : α → Res β) : (Res.ok a >>= f) = f a := rfl
@[simp] theorem bind_err {α β : Type} (e : Err) (f : α → Res β) : (Res.err e >>= f) = Res.err e := rfl
@[simp] theorem bind_panic {α β : Type} (p : Panic) (f : α → Res β) : (Res.panic p >>= f) = Res.panic p := rfl

theorem bind_noPanic {α β : Type} (r : Res α) (f : α → Res β) (h1 : r.isPanic = false) (h2 : ∀ a, (f a).isPanic = false) :
    (r >>= f).isPanic = false := by
  cases r with
  | ok a => exact h2 a
  | err e => rfl
  | panic p => simp [Res.isPanic] at h1

theorem ite_congr_else {α : Type} {c : Prop} [Decidable c] {x a b : α} (h : ¬ c → a = b) :
    (if c then x else a) = (if c then x else b) := by
  split
  · rfl
  · exact h ‹_›

theorem of_ite_panic_eq_ok {α : Type} {c : Prop} [Decidable c] {v a : α} {p : Panic}
    (h : (if c then Res.ok v else .panic p) = .ok a) : c ∧ a = v := by
  split at h
  · cases h; exact ⟨‹_›, rfl⟩
  · cases h

theorem of_ite_err_eq_ok {α : Type} {c : Prop} [Decidable c] {e : Err} {y : Res α} {a : α}
    (h : (if c then .err e else y) = .ok a) : ¬ c ∧ y = .ok a := by
  split at h
  · cases h
  · exact ⟨‹_›, h⟩

theorem ite_noPanic {α : Type} {c : Prop} [Decidable c] {x y : Res α} (hx : x.isPanic = false) (hy : y.isPanic = false) :
    (if c then x else y).isPanic = false := by
  split
  · exact hx
  · exact hy

theorem sliceTo_ok {b c : Bytes} {n : Nat} (h : sliceTo b n = .ok c) : n ≤ b.length ∧ c = b.take n :=
  of_ite_panic_eq_ok h

theorem sliceRange_ok {b c : Bytes} {lo hi : Nat} (h : sliceRange b lo hi = .ok c) :
    (lo ≤ hi ∧ hi ≤ b.length) ∧ c = (b.take hi).drop lo :=
  of_ite_panic_eq_ok h

theorem tryInto8_ok {b c : Bytes} (h : tryInto8 b = .ok c) : b.length = 8 ∧ c = b :=
  of_ite_panic_eq_ok h

theorem sliceFrom_ok {b c : Bytes} {n : Nat} (h : sliceFrom b n = .ok c) : n ≤ b.length ∧ c = b.drop n :=
  of_ite_panic_eq_ok h

theorem fromSlice_ok {b c : Bytes} {n : Nat} (h : fromSlice b n = .ok c) : b.length = n ∧ c = b :=
  of_ite_panic_eq_ok h

theorem copyInto_length (buf : Bytes) (lo hi : Nat) (src r : Bytes) (h : copyInto buf lo hi src = .ok r) :
    r.length = buf.length := by
  unfold copyInto at h
  by_cases h1 : lo ≤ hi ∧ hi ≤ buf.length
  · by_cases h2 : src.length = hi - lo
    · simp only [h1, and_self, if_true, h2] at h
      cases h
      simp [List.length_take, h2]; omega
    · simp [h1, h2] at h
  · simp [h1] at h

theorem zeros_length (n : Nat) : (zeros n).length = n := List.length_replicate

/-! ### AES-CBC-HMAC: normal forms of encrypt / decrypt

`op_nf`: the operation with every slice check discharged, its guards kept as `if`s; `op_of_shape`: the same on input of
the shape the guards accept, the guards gone. -/

/-- the tag the code expects for (aad, nonce, ct) under `key` -/
def expectedTag (M : Mac) (K : Nat) (key aad nonce ct : Bytes) : Bytes :=
  (M.mac (key.take K) (macInput aad nonce ct)).take K

theorem cbcHmacDecrypt_of_shape (fixed : Bool) (C : BlockCipher) (M : Mac) (K : Nat) (key ct tag nonce aad : Bytes)
    (hn : nonce.length = 16) (ha : aadTooLong aad = false) (ht : tag.length = K) (hk : key.length = 2 * K)
    (hM : K ≤ (M.mac (key.take K) (macInput aad nonce ct)).length) :
    cbcHmacDecrypt fixed C M K key (ct ++ tag) nonce aad =
      if fixed && !decide (tag = expectedTag M K key aad nonce ct) then .err aeadDecErr else
      match cbcDecryptPadded (C.dec (key.drop K)) nonce ct with
      | none => .err cbcDecErr
      | some pt => if !decide (tag = expectedTag M K key aad nonce ct) then .err aeadDecErr else .ok pt := by
  have e1 : (ct ++ tag).length - K = ct.length := by rw [List.length_append, ht, Nat.add_sub_cancel]
  have e2 : ¬ (ct ++ tag).length < K := by rw [List.length_append, ht]; exact Nat.not_lt.2 (Nat.le_add_left _ _)
  have e3 : ct.length ≤ (ct ++ tag).length := by rw [List.length_append]; exact Nat.le_add_right _ _
  have e4 : K ≤ key.length := by omega
  have e5 : (key.drop K).length = K := by rw [List.length_drop, hk]; omega
  unfold cbcHmacDecrypt
  simp only [hn, ha, e1, e2, ne_eq, not_true_eq_false, if_false, Bool.false_eq_true, sliceFrom, sliceTo, fromSlice, e3, e4, if_true,
    List.drop_left' rfl, List.take_left' rfl, bind_ok, ht, e5, hM, expectedTag]
  cases fixed <;> cases cbcDecryptPadded (C.dec (key.drop K)) nonce ct <;> rfl

theorem cbcHmacEncrypt_nf (C : BlockCipher) (hC : C.Lawful) (M : Mac) (hM : M.Lawful) (K : Nat) (key m nonce aad : Bytes)
    (hk : key.length = 2 * K) :
    cbcHmacEncrypt C M K key m nonce aad =
      if nonce.length ≠ 16 then .err ⟨.InvalidNonce, .default⟩
      else if K > M.outLen then .err ⟨.Encryption, .cbcTagSize⟩
      else if aadTooLong aad then .err ⟨.Encryption, .cbcAadSize⟩
      else .ok (Cbc.encrypt (C.enc (key.drop K)) nonce (Cbc.pkcs7Pad 16 m)
            ++ expectedTag M K key aad nonce (Cbc.encrypt (C.enc (key.drop K)) nonce (Cbc.pkcs7Pad 16 m)),
           m.length + cbcPaddingLength m.length) := by
  unfold cbcHmacEncrypt
  refine ite_congr_else fun hn => ?_
  refine ite_congr_else fun hK => ?_
  refine ite_congr_else fun _ => ?_
  have hctl := cbc_encrypt_pad_length (C.enc (key.drop K)) (hC.enc_len _) nonce m (Decidable.not_not.1 hn)
  generalize hct : Cbc.encrypt (C.enc (key.drop K)) nonce (Cbc.pkcs7Pad 16 m) = ct at hctl
  have e4 : K ≤ key.length := by omega
  have e5 : (key.drop K).length = K := by rw [List.length_drop, hk]; omega
  have e7 : ¬ (m.length / 16 + 1) * 16 > (m ++ zeros (cbcPaddingLength m.length + K)).length := by
    rw [cbcPaddingLength_spec, List.length_append, zeros_length]; omega
  have e8 : (m ++ zeros (cbcPaddingLength m.length + K)).drop (m.length + cbcPaddingLength m.length) = zeros K := by
    rw [zeros, ← List.replicate_append_replicate, ← List.append_assoc]
    exact List.drop_left' (by rw [List.length_append, List.length_replicate])
  have e9 : (M.mac (key.take K) (macInput aad nonce ct)).length = M.outLen := hM.mac_len _ _
  simp only [sliceFrom, sliceTo, fromSlice, e4, if_true, bind_ok, e5, Decidable.not_not.1 hn, e7, if_false, List.take_left' rfl,
    hct, e8]
  have e10 : m.length + cbcPaddingLength m.length ≤ (ct ++ zeros K).length := by
    rw [List.length_append, hctl]; exact Nat.le_add_right _ _
  have e11 : K ≤ (M.mac (key.take K) (macInput aad nonce ct)).length := by omega
  simp only [e10, if_true, bind_ok, List.take_left' hctl, e11, copyInto, expectedTag]
  have e12 : m.length + cbcPaddingLength m.length ≤ m.length + cbcPaddingLength m.length + K ∧
      m.length + cbcPaddingLength m.length + K ≤ (ct ++ zeros K).length :=
    ⟨Nat.le_add_right _ _, by rw [List.length_append, hctl, zeros, List.length_replicate]; exact Nat.le_refl _⟩
  have e13 : (List.take K (M.mac (key.take K) (macInput aad nonce ct))).length = m.length + cbcPaddingLength m.length + K - (m.length + cbcPaddingLength m.length) := by
    rw [List.length_take, Nat.add_sub_cancel_left, Nat.min_eq_left e11]
  have e14 : (ct ++ zeros K).drop (m.length + cbcPaddingLength m.length + K) = [] := by
    exact List.drop_eq_nil_of_le (by rw [List.length_append, hctl, zeros, List.length_replicate]; exact Nat.le_refl _)
  simp only [e12, e13, and_self, if_true, e14, List.append_nil, bind_ok]

/-! ### AES-CBC-HMAC: round trip, tag, uniformity -/

theorem cbcHmac_roundtrip (fixed : Bool) (C : BlockCipher) (hC : C.Lawful) (M : Mac) (hM : M.Lawful) (K : Nat)
    (key m nonce aad : Bytes) (hn : nonce.length = 16) (ha : aadTooLong aad = false) (hk : key.length = 2 * K)
    (hK : K ≤ M.outLen) :
    ∃ buf, cbcHmacEncrypt C M K key m nonce aad = .ok (buf, m.length + cbcPaddingLength m.length) ∧
      buf.length = m.length + cbcPaddingLength m.length + K ∧
      cbcHmacDecrypt fixed C M K key buf nonce aad = .ok m := by
  have he := cbcHmacEncrypt_nf C hC M hM K key m nonce aad hk
  rw [if_neg (by omega), if_neg (by omega), if_neg (by rw [ha]; decide)] at he
  have hl := cbc_encrypt_pad_length (C.enc (key.drop K)) (hC.enc_len _) nonce m hn
  generalize hct : Cbc.encrypt (C.enc (key.drop K)) nonce (Cbc.pkcs7Pad 16 m) = ct at he hl
  have hml : (M.mac (key.take K) (macInput aad nonce ct)).length = M.outLen := hM.mac_len _ _
  have htl : (expectedTag M K key aad nonce ct).length = K := by
    simp only [expectedTag, List.length_take, hml]; omega
  refine ⟨_, he, by simp [hl, htl], ?_⟩
  rw [cbcHmacDecrypt_of_shape fixed C M K key ct _ nonce aad hn ha htl hk (by omega)]
  have hd := cbcDecryptPadded_encrypt C hC (key.drop K) nonce m hn
  rw [hct] at hd
  simp [hd]

theorem cbcHmacDecrypt_ok_guards {fixed : Bool} {C : BlockCipher} {M : Mac} {K : Nat} {key buf nonce aad m : Bytes}
    (h : cbcHmacDecrypt fixed C M K key buf nonce aad = .ok m) : nonce.length = 16 ∧ aadTooLong aad = false := by
  unfold cbcHmacDecrypt at h
  obtain ⟨hn, h⟩ := of_ite_err_eq_ok h
  obtain ⟨ha, _⟩ := of_ite_err_eq_ok h
  exact ⟨Decidable.not_not.1 hn, Bool.eq_false_iff.2 ha⟩

theorem cbcHmac_ok_iff_tag (fixed : Bool) (C : BlockCipher) (M : Mac) (hM : M.Lawful) (K : Nat)
    (key ct tag nonce aad m : Bytes) (ht : tag.length = K) (hk : key.length = 2 * K) (hK : K ≤ M.outLen)
    (h : cbcHmacDecrypt fixed C M K key (ct ++ tag) nonce aad = .ok m) :
    tag = expectedTag M K key aad nonce ct ∧ cbcDecryptPadded (C.dec (key.drop K)) nonce ct = some m := by
  -- a success passed the guards, so the normal form applies; it is a success only on its last branch
  obtain ⟨hn, ha⟩ := cbcHmacDecrypt_ok_guards h
  rw [cbcHmacDecrypt_of_shape fixed C M K key ct tag nonce aad hn ha ht hk (Nat.le_trans hK (Nat.le_of_eq (hM.mac_len _ _).symm))] at h
  obtain ⟨_, h⟩ := of_ite_err_eq_ok h
  split at h
  · cases h
  · obtain ⟨hte, h⟩ := of_ite_err_eq_ok h
    cases h
    exact ⟨by simpa using hte, ‹_›⟩

/-- the statement of uniformity: every forgery (wrong tag) of well-formed shape is answered by the one
    error `AEAD decryption error`, whatever the CBC padding of the forged ciphertext looks like -/
def CbcHmacErrorsUniform (fixed : Bool) : Prop :=
  ∀ (C : BlockCipher) (M : Mac) (K : Nat) (key ct tag nonce aad : Bytes), C.Lawful → M.Lawful → K ≤ M.outLen →
    key.length = 2 * K → nonce.length = 16 → aadTooLong aad = false → tag.length = K →
    tag ≠ expectedTag M K key aad nonce ct →
    cbcHmacDecrypt fixed C M K key (ct ++ tag) nonce aad = .err aeadDecErr

theorem cbcHmac_errors_uniform_fixed : CbcHmacErrorsUniform true := by
  intro C M K key ct tag nonce aad _ hM hK hk hn ha ht hne
  rw [cbcHmacDecrypt_of_shape true C M K key ct tag nonce aad hn ha ht hk (Nat.le_trans hK (Nat.le_of_eq (hM.mac_len _ _).symm))]
  simp [hne]

/-! ### toy instance, D5 witness, MAC input framing -/

theorem xorByte_xorByte (c : UInt8) (b : Bytes) : xorByte c (xorByte c b) = b := by
  simp only [xorByte, List.map_map]
  have : ((fun x : UInt8 => x ^^^ c) ∘ fun x => x ^^^ c) = id := by
    funext x; simp [UInt8.xor_assoc]
  rw [this, List.map_id]

theorem xorByte_length (c : UInt8) (b : Bytes) : (xorByte c b).length = b.length := by simp [xorByte]

theorem toyCipher_lawful : toyCipher.Lawful where
  enc_len := fun _ b h => (xorByte_length _ b).trans h
  dec_len := fun _ b h => (xorByte_length _ b).trans h
  dec_enc := fun _ b _ => xorByte_xorByte _ b

theorem toyMac_lawful (n : Nat) : (toyMac n).Lawful where
  mac_len := by intro k m; simp [toyMac]
/-- two forgeries of the same length with wrong tags, answered differently when the tag is checked last (`fixed = false`) -/
theorem d5_witness :
    cbcHmacDecrypt false toyCipher (toyMac 32) 16 (zeros 32) (zeros 16 ++ List.replicate 16 1) (zeros 16) [] = .err cbcDecErr ∧
    cbcHmacDecrypt false toyCipher (toyMac 32) 16 (zeros 32) (List.replicate 16 16 ++ List.replicate 16 1) (zeros 16) [] = .err aeadDecErr := by
  decide +kernel

theorem not_cbcHmac_errors_uniform_false : ¬ CbcHmacErrorsUniform false := by
  intro h
  have h1 := h toyCipher (toyMac 32) 16 (zeros 32) (zeros 16) (List.replicate 16 1) (zeros 16) []
    toyCipher_lawful (toyMac_lawful 32) (by decide) (by decide) (by decide) (by decide) (by decide) (by decide)
  rw [d5_witness.1] at h1
  exact absurd h1 (by decide)

theorem cbcHmac_errors_uniform_iff (fixed : Bool) : CbcHmacErrorsUniform fixed ↔ fixed = true := by
  cases fixed with
  | true => exact ⟨fun _ => rfl, fun _ => cbcHmac_errors_uniform_fixed⟩
  | false => exact ⟨fun h => absurd h not_cbcHmac_errors_uniform_false, fun h => by cases h⟩

theorem aad_bits_lt (aad : Bytes) (h : aadTooLong aad = false) : aad.length * 8 < 2 ^ 64 := by
  simp only [aadTooLong, decide_eq_false_iff_not, Nat.not_lt] at h
  omega

/-- the trailing 64-bit bit-length of the aad makes the framing unambiguous once the nonce length is fixed -/
theorem macInput_injective (a n c a' n' c' : Bytes) (ha : aadTooLong a = false) (ha' : aadTooLong a' = false)
    (hn : n.length = n'.length) (h : macInput a n c = macInput a' n' c') : a = a' ∧ n = n' ∧ c = c' := by
  simp only [macInput] at h
  obtain ⟨h1, h2⟩ := List.append_inj' h rfl
  have hl := Bytes.be64_inj (aad_bits_lt a ha) (aad_bits_lt a' ha') h2
  have hal : a.length = a'.length := by omega
  rw [List.append_assoc, List.append_assoc] at h1
  obtain ⟨e1, h3⟩ := List.append_inj h1 hal
  obtain ⟨e2, e3⟩ := List.append_inj h3 hn
  exact ⟨e1, e2, e3⟩

/-! ### AES key wrap -/

/-- `A` is one 64-bit block, `R` is `n` 64-bit blocks -/
def Blocks (n : Nat) (s : Bytes × List Bytes) : Prop := s.1.length = 8 ∧ s.2.length = n ∧ ∀ c ∈ s.2, c.length = 8

/-- a loop body `(A, R[i]) ↦ (A', R[i]')` that keeps both at 64 bits -/
def Halves (step : Bytes → Bytes → Bytes × Bytes) : Prop :=
  ∀ a c, a.length = 8 → c.length = 8 → (step a c).1.length = 8 ∧ (step a c).2.length = 8

theorem kwWrapStep_halves (enc : Bytes → Bytes) (hlen : ∀ b, b.length = 16 → (enc b).length = 16) (t : Nat) :
    Halves (kwWrapStep enc t) := by
  intro iv c hiv hc
  have hel := hlen (iv ++ c) (by rw [List.length_append, hiv, hc])
  constructor
  · simp only [kwWrapStep, xor_length, List.length_take, hel, Bytes.be64_length]; rfl
  · simp only [kwWrapStep, List.length_drop, hel]

theorem kwUnwrapStep_halves (dec : Bytes → Bytes) (hlen : ∀ b, b.length = 16 → (dec b).length = 16) (t : Nat) :
    Halves (kwUnwrapStep dec t) := by
  intro iv c hiv hc
  have hdl := hlen (Cbc.xor iv (Bytes.be64 t) ++ c) (by rw [List.length_append, xor_length, hiv, hc]; rfl)
  constructor
  · simp only [kwUnwrapStep, List.length_take, hdl]; rfl
  · simp only [kwUnwrapStep, List.length_drop, hdl]

theorem kw_step_inv (enc dec : Bytes → Bytes) (hlen : ∀ b, b.length = 16 → (enc b).length = 16)
    (hde : ∀ b, b.length = 16 → dec (enc b) = b) (t : Nat) (iv c : Bytes) (hiv : iv.length = 8) (hc : c.length = 8) :
    kwUnwrapStep dec t (kwWrapStep enc t iv c).1 (kwWrapStep enc t iv c).2 = (iv, c) := by
  have hb : (iv ++ c).length = 16 := by rw [List.length_append, hiv, hc]
  have ht8 : ((enc (iv ++ c)).take 8).length = 8 := by rw [List.length_take, hlen _ hb]; rfl
  simp only [kwUnwrapStep, kwWrapStep]
  rw [xor_xor_cancel _ _ (by rw [ht8]; exact Nat.le_refl _), List.take_append_drop, hde _ hb,
    List.take_left' hiv, List.drop_left' hiv]

/-- the converse needs the other law, `enc (dec b) = b` -/
theorem kw_step_inv' (enc dec : Bytes → Bytes) (hed : ∀ b, b.length = 16 → enc (dec b) = b) (t : Nat) (iv c : Bytes)
    (hiv : iv.length = 8) (hc : c.length = 8) :
    kwWrapStep enc t (kwUnwrapStep dec t iv c).1 (kwUnwrapStep dec t iv c).2 = (iv, c) := by
  have hx : (Cbc.xor iv (Bytes.be64 t)).length = 8 := by rw [xor_length, hiv]; rfl
  simp only [kwUnwrapStep, kwWrapStep]
  rw [List.take_append_drop, hed _ (by rw [List.length_append, hx, hc]), List.take_left' hx, List.drop_left' hx,
    xor_xor_cancel _ _ (by rw [hiv]; exact Nat.le_refl _)]

/-! #### the chunk loops as loops over an index

RFC 3394 §2.2 describes wrap and unwrap as `for j, for i` over a register `A` and an array `R[1..n]`, unwrap running
both loops downwards with the inverse body.  In that form the two directions are one fact: a loop is undone by the
inverse steps in the reverse order (`foldl_undo`), a step applied at index `i` is undone at index `i` (`atIx_undo`). -/

/-- the loop body `step` applied to `(A, R[i])` (`i` from 1), `R[i]` written back -/
def atIx (step : Bytes → Bytes → Bytes × Bytes) (st : Bytes × List Bytes) (i : Nat) : Bytes × List Bytes :=
  ((step st.1 st.2[i - 1]!).1, st.2.set (i - 1) (step st.1 st.2[i - 1]!).2)

theorem blocks_get {n i : Nat} {st : Bytes × List Bytes} (hb : Blocks n st) (hi : i ∈ List.range' 1 n) :
    ∃ h : i - 1 < st.2.length, st.2[i - 1]! = st.2[i - 1] ∧ st.2[i - 1].length = 8 := by
  have hk : i - 1 < st.2.length := by have := List.mem_range'_1.1 hi; have := hb.2.1; omega
  exact ⟨hk, getElem!_pos st.2 (i - 1) hk, hb.2.2 _ (List.getElem_mem hk)⟩

theorem atIx_blocks {step : Bytes → Bytes → Bytes × Bytes} (hs : Halves step) {n i : Nat} (hi : i ∈ List.range' 1 n)
    {st : Bytes × List Bytes} (hb : Blocks n st) : Blocks n (atIx step st i) := by
  obtain ⟨hk, hg, hc⟩ := blocks_get hb hi
  obtain ⟨s1, s2⟩ := hs st.1 _ hb.1 (hg ▸ hc)
  refine ⟨s1, (List.length_set ..).trans hb.2.1, fun c hcm => ?_⟩
  rcases List.mem_or_eq_of_mem_set hcm with h | rfl
  · exact hb.2.2 c h
  · exact s2

theorem atIx_undo {f g : Bytes → Bytes → Bytes × Bytes}
    (hgf : ∀ a c, a.length = 8 → c.length = 8 → g (f a c).1 (f a c).2 = (a, c)) {n i : Nat} (hi : i ∈ List.range' 1 n)
    {st : Bytes × List Bytes} (hb : Blocks n st) : atIx g (atIx f st i) i = st := by
  obtain ⟨hk, hg, hc⟩ := blocks_get hb hi
  have hset : (st.2.set (i - 1) (f st.1 st.2[i - 1]!).2)[i - 1]! = (f st.1 st.2[i - 1]!).2 := by
    rw [getElem!_pos _ _ (by rw [List.length_set]; exact hk), List.getElem_set_self]
  simp only [atIx, hset, hgf _ _ hb.1 (hg ▸ hc), List.set_set]
  rw [hg, List.set_getElem_self]

theorem foldl_inv {σ ι : Type} (P : σ → Prop) (f : σ → ι → σ) :
    ∀ (is : List ι) (s : σ), (∀ i ∈ is, ∀ s, P s → P (f s i)) → P s → P (is.foldl f s)
  | [], _, _, h => h
  | i :: is, s, hf, h =>
    foldl_inv P f is (f s i) (fun k hk => hf k (List.mem_cons_of_mem _ hk)) (hf i (List.mem_cons_self ..) s h)

theorem foldr_inv {σ ι : Type} (P : σ → Prop) (g : σ → ι → σ) (is : List ι) (s : σ) (hg : ∀ i ∈ is, ∀ s, P s → P (g s i))
    (h : P s) : P (is.foldr (fun i s => g s i) s) := by
  rw [← List.foldl_reverse]
  exact foldl_inv P g _ s (fun i hi => hg i (List.mem_reverse.1 hi)) h

theorem foldl_undo {σ ι : Type} (P : σ → Prop) (f g : σ → ι → σ) :
    ∀ (is : List ι) (s : σ), (∀ i ∈ is, ∀ s, P s → P (f s i) ∧ g (f s i) i = s) → P s →
      is.foldr (fun i s => g s i) (is.foldl f s) = s
  | [], _, _, _ => rfl
  | i :: is, s, hf, h => by
    obtain ⟨hp, hg⟩ := hf i (List.mem_cons_self ..) s h
    rw [List.foldl_cons, List.foldr_cons, foldl_undo P f g is (f s i) (fun k hk => hf k (List.mem_cons_of_mem _ hk)) hp, hg]

theorem foldr_undo {σ ι : Type} (P : σ → Prop) (f g : σ → ι → σ) (is : List ι) (s : σ)
    (hg : ∀ i ∈ is, ∀ s, P s → P (g s i) ∧ f (g s i) i = s) (h : P s) : is.foldl f (is.foldr (fun i s => g s i) s) = s := by
  have := foldl_undo P g f is.reverse s (fun i hi => hg i (List.mem_reverse.1 hi)) h
  rwa [List.foldl_reverse, List.foldr_reverse] at this

/-- RFC 3394 §2.2.1 step 2, one (j, i) iteration, on lists: `st = (A, R)` -/
def ixWrapStep (enc : Bytes → Bytes) (n j : Nat) (st : Bytes × List Bytes) (i : Nat) : Bytes × List Bytes :=
  atIx (kwWrapStep enc (n * j + i)) st i

/-- RFC 3394 §2.2.2 step 2, one (j, i) iteration, on lists -/
def ixUnwrapStep (dec : Bytes → Bytes) (n j : Nat) (st : Bytes × List Bytes) (i : Nat) : Bytes × List Bytes :=
  atIx (kwUnwrapStep dec (n * j + i)) st i

theorem kwWrapPass_length (enc : Bytes → Bytes) (base : Nat) :
    ∀ (cs : List Bytes) (iv : Bytes) (i : Nat), (kwWrapPass enc base iv cs i).2.length = cs.length
  | [], _, _ => by simp [kwWrapPass]
  | c :: cs, iv, i => by simp [kwWrapPass, kwWrapPass_length enc base cs]

theorem kwUnwrapPass_length (dec : Bytes → Bytes) (base : Nat) :
    ∀ (cs : List Bytes) (iv : Bytes) (i : Nat), (kwUnwrapPass dec base iv cs i).2.length = cs.length
  | [], _, _ => by simp [kwUnwrapPass]
  | c :: cs, iv, i => by simp [kwUnwrapPass, kwUnwrapPass_length dec base cs]

theorem kwUnwrapPasses_length (dec : Bytes → Bytes) (n : Nat) :
    ∀ (k j : Nat) (iv : Bytes) (cs : List Bytes), (kwUnwrapPasses dec n k j iv cs).2.length = cs.length
  | 0, _, _, _ => by simp [kwUnwrapPasses]
  | k + 1, j, iv, cs => by
    simp only [kwUnwrapPasses]; rw [kwUnwrapPass_length, kwUnwrapPasses_length dec n k]

theorem ixWrap_pass (enc : Bytes → Bytes) (n j : Nat) : ∀ (cs pre : List Bytes) (iv : Bytes),
    (List.range' (pre.length + 1) cs.length).foldl (ixWrapStep enc n j) (iv, pre ++ cs) =
      ((kwWrapPass enc (n * j) iv cs pre.length).1, pre ++ (kwWrapPass enc (n * j) iv cs pre.length).2)
  | [], pre, iv => by simp [kwWrapPass]
  | c :: cs, pre, iv => by
    have ih := ixWrap_pass enc n j cs (pre ++ [(enc (iv ++ c)).drop 8])
      (Cbc.xor ((enc (iv ++ c)).take 8) (Bytes.be64 (n * j + (pre.length + 1))))
    simp only [List.length_append, List.length_cons, List.length_nil, List.append_assoc, List.singleton_append] at ih
    simp only [List.length_cons, List.range'_succ, List.foldl_cons, kwWrapPass, kwWrapStep]
    have e1 : ixWrapStep enc n j (iv, pre ++ c :: cs) (pre.length + 1) =
        (Cbc.xor ((enc (iv ++ c)).take 8) (Bytes.be64 (n * j + (pre.length + 1))), pre ++ (enc (iv ++ c)).drop 8 :: cs) := by
      simp [ixWrapStep, atIx, kwWrapStep]
    rw [e1, ih, Nat.add_assoc]

theorem ixWrap_passes (enc : Bytes → Bytes) (n : Nat) : ∀ (k j : Nat) (iv : Bytes) (cs : List Bytes), cs.length = n →
    (List.range' j k).foldl (fun st j => (List.range' 1 n).foldl (ixWrapStep enc n j) st) (iv, cs) =
      kwWrapPasses enc n k j iv cs
  | 0, j, iv, cs, _ => by simp [kwWrapPasses]
  | k + 1, j, iv, cs, h => by
    have hp := ixWrap_pass enc n j cs [] iv
    simp only [List.length_nil, Nat.zero_add, List.nil_append, h] at hp
    simp only [List.range'_succ, List.foldl_cons, kwWrapPasses, hp]
    exact ixWrap_passes enc n k (j + 1) _ _ (by rw [kwWrapPass_length, h])

theorem ixUnwrap_pass (dec : Bytes → Bytes) (n j : Nat) : ∀ (cs pre : List Bytes) (iv : Bytes),
    (List.range' (pre.length + 1) cs.length).foldr (fun i st => ixUnwrapStep dec n j st i) (iv, pre ++ cs) =
      ((kwUnwrapPass dec (n * j) iv cs pre.length).1, pre ++ (kwUnwrapPass dec (n * j) iv cs pre.length).2)
  | [], pre, iv => by simp [kwUnwrapPass]
  | c :: cs, pre, iv => by
    have ih := ixUnwrap_pass dec n j cs (pre ++ [c]) iv
    simp only [List.length_append, List.length_cons, List.length_nil, List.append_assoc, List.singleton_append] at ih
    simp only [List.length_cons, List.range'_succ, List.foldr_cons, kwUnwrapPass, kwUnwrapStep, ih]
    simp [ixUnwrapStep, atIx, kwUnwrapStep, Nat.add_assoc]

theorem ixUnwrap_passes (dec : Bytes → Bytes) (n : Nat) : ∀ (k j : Nat) (iv : Bytes) (cs : List Bytes), cs.length = n →
    (List.range' j k).foldr (fun j st => (List.range' 1 n).foldr (fun i st => ixUnwrapStep dec n j st i) st) (iv, cs) =
      kwUnwrapPasses dec n k j iv cs
  | 0, j, iv, cs, _ => by simp [kwUnwrapPasses]
  | k + 1, j, iv, cs, h => by
    simp only [List.range'_succ, List.foldr_cons, kwUnwrapPasses]
    rw [ixUnwrap_passes dec n k (j + 1) iv cs h]
    have hl := kwUnwrapPasses_length dec n k (j + 1) iv cs
    have hp := ixUnwrap_pass dec n j (kwUnwrapPasses dec n k (j + 1) iv cs).2 [] (kwUnwrapPasses dec n k (j + 1) iv cs).1
    simp only [List.length_nil, Nat.zero_add, List.nil_append, hl, h] at hp
    exact hp

theorem kwWrapPasses_blocks (enc : Bytes → Bytes) (hlen : ∀ b, b.length = 16 → (enc b).length = 16) (n k j : Nat)
    (iv : Bytes) (cs : List Bytes) (hb : Blocks n (iv, cs)) : Blocks n (kwWrapPasses enc n k j iv cs) := by
  rw [← ixWrap_passes enc n k j iv cs hb.2.1]
  exact foldl_inv _ _ _ _ (fun j _ st hst => foldl_inv _ _ _ st
    (fun i hi st hst => atIx_blocks (kwWrapStep_halves enc hlen _) hi hst) hst) hb

theorem kwUnwrapPasses_blocks (dec : Bytes → Bytes) (hlen : ∀ b, b.length = 16 → (dec b).length = 16) (n k j : Nat)
    (iv : Bytes) (cs : List Bytes) (hb : Blocks n (iv, cs)) : Blocks n (kwUnwrapPasses dec n k j iv cs) := by
  rw [← ixUnwrap_passes dec n k j iv cs hb.2.1]
  exact foldr_inv _ _ _ _ (fun j _ st hst => foldr_inv _ (ixUnwrapStep dec n j) _ st
    (fun i hi st hst => atIx_blocks (kwUnwrapStep_halves dec hlen _) hi hst) hst) hb

/-- the `k` unwrap passes undo the `k` wrap passes, from any start index `j`: by `ixWrap_passes` / `ixUnwrap_passes` both are
    index loops; then `foldl_undo` twice (outer over `j`, inner over `i`), with `atIx_undo` and `kw_step_inv` at the leaf -/
theorem kw_passes_inv (enc dec : Bytes → Bytes) (hlen : ∀ b, b.length = 16 → (enc b).length = 16)
    (hde : ∀ b, b.length = 16 → dec (enc b) = b) (n k j : Nat) (iv : Bytes) (cs : List Bytes) (hb : Blocks n (iv, cs)) :
    kwUnwrapPasses dec n k j (kwWrapPasses enc n k j iv cs).1 (kwWrapPasses enc n k j iv cs).2 = (iv, cs) := by
  have hstep (j i : Nat) (hi : i ∈ List.range' 1 n) (st : Bytes × List Bytes) (hst : Blocks n st) :=
    And.intro (atIx_blocks (kwWrapStep_halves enc hlen (n * j + i)) hi hst)
      (atIx_undo (g := kwUnwrapStep dec (n * j + i)) (kw_step_inv enc dec hlen hde _) hi hst)
  rw [← ixUnwrap_passes dec n k j _ _ (kwWrapPasses_blocks enc hlen n k j iv cs hb).2.1, ← ixWrap_passes enc n k j iv cs hb.2.1]
  exact foldl_undo (Blocks n) _ _ _ _ (fun j _ st hst =>
    ⟨foldl_inv _ _ _ st (fun i hi st hst => (hstep j i hi st hst).1) hst,
      foldl_undo (Blocks n) (ixWrapStep enc n j) (ixUnwrapStep dec n j) _ st (hstep j) hst⟩) hb

/-- the converse, for every `k` and `j`, under the additional law `enc (dec b) = b`: the same argument read backwards
    (`foldr_undo`, `kw_step_inv'`) -/
theorem kw_passes_inv' (enc dec : Bytes → Bytes) (hlen : ∀ b, b.length = 16 → (dec b).length = 16)
    (hed : ∀ b, b.length = 16 → enc (dec b) = b) (n k j : Nat) (iv : Bytes) (cs : List Bytes) (hb : Blocks n (iv, cs)) :
    kwWrapPasses enc n k j (kwUnwrapPasses dec n k j iv cs).1 (kwUnwrapPasses dec n k j iv cs).2 = (iv, cs) := by
  have hstep (j i : Nat) (hi : i ∈ List.range' 1 n) (st : Bytes × List Bytes) (hst : Blocks n st) :=
    And.intro (atIx_blocks (kwUnwrapStep_halves dec hlen (n * j + i)) hi hst)
      (atIx_undo (g := kwWrapStep enc (n * j + i)) (kw_step_inv' enc dec hed _) hi hst)
  rw [← ixWrap_passes enc n k j _ _ (kwUnwrapPasses_blocks dec hlen n k j iv cs hb).2.1, ← ixUnwrap_passes dec n k j iv cs hb.2.1]
  exact foldr_undo (Blocks n) _ _ _ _ (fun j _ st hst =>
    ⟨foldr_inv _ (ixUnwrapStep dec n j) _ st (fun i hi st hst => (hstep j i hi st hst).1) hst,
      foldr_undo (Blocks n) (ixWrapStep enc n j) (ixUnwrapStep dec n j) _ st (hstep j) hst⟩) hb

theorem blocks_chunks (a l : Bytes) {n : Nat} (ha : a.length = 8) (hn : l.length / 8 = n) : Blocks n (a, Cbc.chunks 8 l) :=
  ⟨ha, (chunks_length 8 l).trans hn, chunks_all_length 8 l⟩

/-! #### `encrypt_in_place` / `decrypt_in_place`: normal forms, round trip, IV check -/

theorem kwIv_length : kwIv.length = 8 := by decide

theorem kwEncrypt_nf (C : BlockCipher) (hC : C.Lawful) (key p nonce aad : Bytes) :
    kwEncrypt C key p nonce aad =
      if !nonce.isEmpty then .err ⟨.Unsupported, .kwNonce⟩
      else if !aad.isEmpty then .err ⟨.Unsupported, .kwAad⟩
      else if p.length % 8 ≠ 0 then .err ⟨.Unsupported, .kwLen⟩
      else .ok ((kwWrapPasses (C.enc key) (p.length / 8) 6 0 kwIv (Cbc.chunks 8 p)).1 ++
           (kwWrapPasses (C.enc key) (p.length / 8) 6 0 kwIv (Cbc.chunks 8 p)).2.flatten, p.length + 8) := by
  unfold kwEncrypt
  refine ite_congr_else fun _ => ?_
  refine ite_congr_else fun _ => ?_
  refine ite_congr_else fun hp => ?_
  have hn : 8 * (p.length / 8) = p.length := Nat.mul_div_cancel' (Nat.dvd_of_mod_eq_zero (Decidable.not_not.1 hp))
  obtain ⟨r2, r4, r3⟩ := kwWrapPasses_blocks (C.enc key) (hC.enc_len key) _ 6 0 kwIv _ (blocks_chunks kwIv p kwIv_length rfl)
  generalize hr : kwWrapPasses (C.enc key) (p.length / 8) 6 0 kwIv (Cbc.chunks 8 p) = r at r2 r3 r4
  have hfl : r.2.flatten.length = p.length := by
    rw [flatten_length_of_all 8 _ r3, r4, hn]
  have e1 : 8 ≤ (zeros 8 ++ p).length := by rw [List.length_append, zeros_length]; exact Nat.le_add_right _ _
  have e2 : (zeros 8 ++ p).drop 8 = p := List.drop_left' (zeros_length 8)
  have e3 : (zeros 8 ++ p).take 8 = zeros 8 := List.take_left' (zeros_length 8)
  simp only [sliceFrom, e1, if_true, bind_ok, e2, e3, hn, List.drop_length, List.append_nil, hr, copyInto]
  have e4 : 0 ≤ 8 ∧ 8 ≤ (zeros 8 ++ r.2.flatten).length :=
    ⟨Nat.zero_le _, by rw [List.length_append, zeros_length]; exact Nat.le_add_right _ _⟩
  have e5 : r.1.length = 8 - 0 := by simp [r2]
  have e6 : (zeros 8 ++ r.2.flatten).drop 8 = r.2.flatten := List.drop_left' (zeros_length 8)
  rw [if_pos e4, if_pos e5, e6]
  simp only [List.take_zero, List.nil_append, bind_ok, List.length_append, r2, hfl]
  rw [Nat.add_comm]

theorem kwEncrypt_of_shape (C : BlockCipher) (hC : C.Lawful) (key p : Bytes) (hp : p.length % 8 = 0) :
    kwEncrypt C key p [] [] =
      .ok ((kwWrapPasses (C.enc key) (p.length / 8) 6 0 kwIv (Cbc.chunks 8 p)).1 ++
           (kwWrapPasses (C.enc key) (p.length / 8) 6 0 kwIv (Cbc.chunks 8 p)).2.flatten, p.length + 8) := by
  rw [kwEncrypt_nf C hC, if_neg (by decide), if_neg (by decide), if_neg (by omega)]

theorem kwDecrypt_nf (C : BlockCipher) (key c nonce aad : Bytes) :
    kwDecrypt C key c nonce aad =
      if !nonce.isEmpty then .err ⟨.Unsupported, .kwNonce⟩
      else if !aad.isEmpty then .err ⟨.Unsupported, .kwAad⟩
      else if c.length % 8 ≠ 0 then .err ⟨.Encryption, .kwLen⟩
      else if c.length / 8 < 1 then .err ⟨.Encryption, .default⟩
      else if (kwUnwrapPasses (C.dec key) (c.length / 8 - 1) 6 0 (c.take 8) (Cbc.chunks 8 (c.drop 8))).1 = kwIv
      then .ok (kwUnwrapPasses (C.dec key) (c.length / 8 - 1) 6 0 (c.take 8) (Cbc.chunks 8 (c.drop 8))).2.flatten
      else .err ⟨.Encryption, .default⟩ := by
  unfold kwDecrypt
  refine ite_congr_else fun _ => ?_
  refine ite_congr_else fun _ => ?_
  refine ite_congr_else fun h3 => ?_
  refine ite_congr_else fun h4 => ?_
  have h : (0 ≤ 8 ∧ 8 ≤ c.length) ∧ 8 * ((c.drop 8).length / 8) = (c.drop 8).length := by
    rw [List.length_drop]; omega
  have e6 : (c.take 8).length = 8 := by rw [List.length_take]; exact Nat.min_eq_left h.1.2
  simp only [sliceRange, if_pos h.1, bind_ok, List.drop_zero, tryInto8, if_pos e6, drainFront, if_pos h.1.2, h.2,
    List.drop_length, List.append_nil]

theorem kwDecrypt_of_shape (C : BlockCipher) (key c : Bytes) (h3 : c.length % 8 = 0) (h5 : 8 ≤ c.length) :
    kwDecrypt C key c [] [] =
      if (kwUnwrapPasses (C.dec key) (c.length / 8 - 1) 6 0 (c.take 8) (Cbc.chunks 8 (c.drop 8))).1 = kwIv
      then .ok (kwUnwrapPasses (C.dec key) (c.length / 8 - 1) 6 0 (c.take 8) (Cbc.chunks 8 (c.drop 8))).2.flatten
      else .err ⟨.Encryption, .default⟩ := by
  rw [kwDecrypt_nf, if_neg (by decide), if_neg (by decide), if_neg (by omega), if_neg (by omega)]

theorem kw_roundtrip (C : BlockCipher) (hC : C.Lawful) (key p : Bytes) (hp : p.length % 8 = 0) :
    ∃ buf, kwEncrypt C key p [] [] = .ok (buf, p.length + 8) ∧ buf.length = p.length + 8 ∧
      kwDecrypt C key buf [] [] = .ok p := by
  have hb := blocks_chunks kwIv p kwIv_length rfl
  have r1 := kw_passes_inv (C.enc key) (C.dec key) (hC.enc_len key) (hC.dec_enc key) _ 6 0 kwIv _ hb
  obtain ⟨r2, r4, r3⟩ := kwWrapPasses_blocks (C.enc key) (hC.enc_len key) _ 6 0 kwIv _ hb
  refine ⟨_, kwEncrypt_of_shape C hC key p hp, ?_⟩
  generalize kwWrapPasses (C.enc key) (p.length / 8) 6 0 kwIv (Cbc.chunks 8 p) = r at r1 r2 r3 r4
  have hfl : r.2.flatten.length = p.length := by
    rw [flatten_length_of_all 8 _ r3, r4]; exact Nat.mul_div_cancel' (Nat.dvd_of_mod_eq_zero hp)
  have hl : (r.1 ++ r.2.flatten).length = p.length + 8 := by rw [List.length_append, r2, hfl, Nat.add_comm]
  have hb : (p.length + 8) / 8 - 1 = p.length / 8 := by rw [Nat.add_div_right _ (by decide)]; rfl
  refine ⟨hl, ?_⟩
  rw [kwDecrypt_of_shape C key _ (by rw [hl, Nat.add_mod_right]; exact hp) (by rw [hl]; exact Nat.le_add_left _ _), hl, hb, List.take_left' r2, List.drop_left' r2,
    chunks_flatten 8 (by decide) _ r3, r1, if_pos rfl, flatten_chunks 8 p hp]

theorem kw_checks_iv (C : BlockCipher) (key c nonce aad p : Bytes) (h : kwDecrypt C key c nonce aad = .ok p) :
    (kwUnwrapPasses (C.dec key) (c.length / 8 - 1) 6 0 (c.take 8) (Cbc.chunks 8 (c.drop 8))).1 = kwIv
    ∧ nonce = [] ∧ aad = [] ∧ c.length % 8 = 0 ∧ 8 ≤ c.length := by
  rw [kwDecrypt_nf] at h
  obtain ⟨h1, h⟩ := of_ite_err_eq_ok h
  obtain ⟨h2, h⟩ := of_ite_err_eq_ok h
  obtain ⟨h3, h⟩ := of_ite_err_eq_ok h
  obtain ⟨h4, h⟩ := of_ite_err_eq_ok h
  have hiv := Decidable.byContradiction fun hne => by rw [if_neg hne] at h; cases h
  exact ⟨hiv, by simpa using h1, by simpa using h2, by omega, by omega⟩

theorem kwUnwrapPasses_nil (dec : Bytes → Bytes) (blocks : Nat) : ∀ (k j : Nat) (iv : Bytes),
    kwUnwrapPasses dec blocks k j iv [] = (iv, [])
  | 0, _, _ => rfl
  | k + 1, j, iv => by simp [kwUnwrapPasses, kwUnwrapPasses_nil dec blocks k, kwUnwrapPass]

/-- n = 0 (outside RFC 3394, which requires n ≥ 2, but accepted by the code): the eight bytes A6…A6 unwrap
    to the empty string under EVERY key and EVERY block cipher — the check value is not bound to the key. -/
theorem kw_empty_unwraps_under_every_key (C : BlockCipher) (key : Bytes) : kwDecrypt C key kwIv [] [] = .ok [] := by
  -- no chunks: the passes leave the IV block as it is
  rw [kwDecrypt_of_shape C key kwIv (by decide) (by decide), show kwIv.drop 8 = [] from rfl, show Cbc.chunks 8 [] = [] from rfl,
    kwUnwrapPasses_nil]
  rfl

/-! ### wrappers of the detached AEADs -/

theorem streamDecrypt_of_shape (A : AeadPrim) (nl : Nat) (sk : Kind) (key ct tag nonce aad : Bytes) (hn : nonce.length = nl)
    (ht : tag.length = A.tagLen) :
    streamDecrypt A nl sk key (ct ++ tag) nonce aad =
      match A.dec key nonce aad ct tag with
      | none => .err aeadDecErr
      | some pt => .ok pt := by
  have e1 : ¬ (ct ++ tag).length < A.tagLen := by rw [List.length_append, ht]; exact Nat.not_lt.2 (Nat.le_add_left _ _)
  have e2 : (ct ++ tag).length - A.tagLen = ct.length := by rw [List.length_append, ht, Nat.add_sub_cancel]
  have e3 : ct.length ≤ (ct ++ tag).length := by rw [List.length_append]; exact Nat.le_add_right _ _
  unfold streamDecrypt
  simp only [hn, ne_eq, not_true_eq_false, if_false, e1, e2, fromSlice, if_true, bind_ok, sliceFrom, e3, sliceTo,
    List.drop_left' rfl, List.take_left' rfl, ht]
  cases A.dec key nonce aad ct tag <;> rfl

theorem streamAead_roundtrip (A : AeadPrim) (hA : A.Lawful) (nl : Nat) (sk : Kind) (key m nonce aad buf : Bytes) (pos : Nat)
    (h : streamEncrypt A nl key m nonce aad = .ok (buf, pos)) :
    pos = m.length ∧ buf.length = m.length + A.tagLen ∧ nonce.length = nl ∧
      streamDecrypt A nl sk key buf nonce aad = .ok m := by
  unfold streamEncrypt at h
  by_cases hn : nonce.length = nl
  · simp only [hn, ne_eq, not_true_eq_false, if_false, fromSlice, if_true, bind_ok] at h
    cases he : A.enc key nonce aad m with
    | none => simp [he] at h
    | some r =>
      obtain ⟨ct, tag⟩ := r
      simp only [he, Res.ok.injEq, Prod.mk.injEq] at h
      obtain ⟨hb, hp⟩ := h
      obtain ⟨l1, l2⟩ := hA.enc_len _ _ _ _ _ _ he
      have hd := hA.dec_enc _ _ _ _ _ _ he
      subst hb
      refine ⟨hp.symm, by simp [l1, l2], hn, ?_⟩
      rw [streamDecrypt_of_shape A nl sk key ct tag nonce aad hn l2, hd]
  · simp [hn] at h

/-! ### no `panic` branch is reachable -/

theorem streamEncrypt_noPanic (A : AeadPrim) (nl : Nat) (key m nonce aad : Bytes) :
    (streamEncrypt A nl key m nonce aad).isPanic = false := by
  unfold streamEncrypt
  by_cases hn : nonce.length = nl
  · simp only [hn, ne_eq, not_true_eq_false, if_false, fromSlice, if_true, bind_ok]
    cases A.enc key nonce aad m with
    | none => rfl
    | some r => rfl
  · simp [hn, Res.isPanic]

theorem streamDecrypt_noPanic (A : AeadPrim) (nl : Nat) (sk : Kind) (key buf nonce aad : Bytes) :
    (streamDecrypt A nl sk key buf nonce aad).isPanic = false := by
  by_cases hn : nonce.length = nl
  · by_cases hb : buf.length < A.tagLen
    · unfold streamDecrypt
      rw [if_neg (not_not_intro hn), if_pos hb]; rfl
    · -- the buffer is ciphertext ‖ tag
      have ht : (buf.drop (buf.length - A.tagLen)).length = A.tagLen := by rw [List.length_drop]; omega
      rw [← List.take_append_drop (buf.length - A.tagLen) buf, streamDecrypt_of_shape A nl sk key _ _ nonce aad hn ht]
      split <;> rfl
  · unfold streamDecrypt
    rw [if_pos hn]; rfl

theorem cbcHmacEncrypt_noPanic (C : BlockCipher) (hC : C.Lawful) (M : Mac) (hM : M.Lawful) (K : Nat) (key m nonce aad : Bytes)
    (hk : key.length = 2 * K) : (cbcHmacEncrypt C M K key m nonce aad).isPanic = false := by
  rw [cbcHmacEncrypt_nf C hC M hM K key m nonce aad hk]
  exact ite_noPanic rfl (ite_noPanic rfl (ite_noPanic rfl rfl))

theorem cbcHmacDecrypt_noPanic (fixed : Bool) (C : BlockCipher) (M : Mac) (hM : M.Lawful) (K : Nat) (key buf nonce aad : Bytes)
    (hk : key.length = 2 * K) (hK : K ≤ M.outLen) : (cbcHmacDecrypt fixed C M K key buf nonce aad).isPanic = false := by
  by_cases hn : nonce.length = 16
  · cases ha : aadTooLong aad with
    | true => simp [cbcHmacDecrypt, hn, ha, Res.isPanic]
    | false =>
      by_cases hb : buf.length < K
      · simp [cbcHmacDecrypt, hn, ha, hb, Res.isPanic]
      · have hsplit : buf = buf.take (buf.length - K) ++ buf.drop (buf.length - K) := (List.take_append_drop _ _).symm
        have ht : (buf.drop (buf.length - K)).length = K := by simp [List.length_drop]; omega
        rw [hsplit, cbcHmacDecrypt_of_shape fixed C M K key _ _ nonce aad hn ha ht hk (Nat.le_trans hK (Nat.le_of_eq (hM.mac_len _ _).symm))]
        split
        · rfl
        · split
          · rfl
          · split <;> rfl
  · simp [cbcHmacDecrypt, hn, Res.isPanic]

theorem kwEncrypt_noPanic (C : BlockCipher) (hC : C.Lawful) (key m nonce aad : Bytes) :
    (kwEncrypt C key m nonce aad).isPanic = false := by
  rw [kwEncrypt_nf C hC]
  exact ite_noPanic rfl (ite_noPanic rfl (ite_noPanic rfl rfl))

theorem kwDecrypt_noPanic (C : BlockCipher) (key buf nonce aad : Bytes) :
    (kwDecrypt C key buf nonce aad).isPanic = false := by
  rw [kwDecrypt_nf]
  exact ite_noPanic rfl (ite_noPanic rfl (ite_noPanic rfl (ite_noPanic rfl (ite_noPanic rfl rfl))))

/-! ### dispatch and `LocalKey` -/

theorem fromSecretBytes_ok (alg : Alg) (secret : Bytes) (k : Key) (h : fromSecretBytes alg secret = .ok k) :
    k.alg = alg ∧ k.bytes = secret ∧ k.bytes.length = k.alg.keyLen := by
  unfold fromSecretBytes at h
  by_cases hl : secret.length = alg.keyLen
  · simp only [hl, ne_eq, not_true_eq_false, if_false, Res.ok.injEq] at h
    subst h; exact ⟨rfl, rfl, hl⟩
  · simp [hl] at h

theorem encryptInPlace_noPanic (P : Prims) (hP : P.Lawful) (k : Key) (hk : k.bytes.length = k.alg.keyLen) (m nonce aad : Bytes) :
    (encryptInPlace P k m nonce aad).isPanic = false := by
  unfold encryptInPlace
  cases ha : k.alg <;> simp only [ha, Alg.keyLen] at hk ⊢
  · exact streamEncrypt_noPanic _ _ _ _ _ _
  · exact streamEncrypt_noPanic _ _ _ _ _ _
  · exact cbcHmacEncrypt_noPanic _ hP.aes128 _ hP.hmac256 16 _ _ _ _ hk
  · exact cbcHmacEncrypt_noPanic _ hP.aes256 _ hP.hmac512 32 _ _ _ _ hk
  · exact kwEncrypt_noPanic _ hP.aes128 _ _ _ _
  · exact kwEncrypt_noPanic _ hP.aes256 _ _ _ _
  · exact streamEncrypt_noPanic _ _ _ _ _ _
  · exact streamEncrypt_noPanic _ _ _ _ _ _
  · rfl

theorem decryptInPlace_noPanic (fixed : Bool) (P : Prims) (hP : P.Lawful) (k : Key) (hk : k.bytes.length = k.alg.keyLen)
    (buf nonce aad : Bytes) : (decryptInPlace fixed P k buf nonce aad).isPanic = false := by
  unfold decryptInPlace
  cases ha : k.alg <;> simp only [ha, Alg.keyLen] at hk ⊢
  · exact streamDecrypt_noPanic _ _ _ _ _ _ _
  · exact streamDecrypt_noPanic _ _ _ _ _ _ _
  · exact cbcHmacDecrypt_noPanic _ _ _ hP.hmac256 16 _ _ _ _ hk (by rw [hP.hmac256_len]; decide)
  · exact cbcHmacDecrypt_noPanic _ _ _ hP.hmac512 32 _ _ _ _ hk (by rw [hP.hmac512_len]; decide)
  · exact kwDecrypt_noPanic _ _ _ _ _
  · exact kwDecrypt_noPanic _ _ _ _ _
  · exact streamDecrypt_noPanic _ _ _ _ _ _ _
  · exact streamDecrypt_noPanic _ _ _ _ _ _ _
  · rfl

theorem streamAead_inPlace (A : AeadPrim) (hA : A.Lawful) (nl : Nat) (sk : Kind) (key m nonce aad buf : Bytes) (pos : Nat)
    (h : streamEncrypt A nl key m nonce aad = .ok (buf, pos)) :
    pos ≤ buf.length ∧ streamDecrypt A nl sk key buf nonce aad = .ok m :=
  let ⟨hp, hl, _, hd⟩ := streamAead_roundtrip A hA nl sk key m nonce aad buf pos h
  ⟨by omega, hd⟩

theorem cbcHmac_inPlace (fixed : Bool) (C : BlockCipher) (hC : C.Lawful) (M : Mac) (hM : M.Lawful) (K : Nat)
    (key m nonce aad buf : Bytes) (pos : Nat) (hk : key.length = 2 * K) (hK : K ≤ M.outLen)
    (h : cbcHmacEncrypt C M K key m nonce aad = .ok (buf, pos)) :
    pos ≤ buf.length ∧ cbcHmacDecrypt fixed C M K key buf nonce aad = .ok m := by
  -- encryption succeeded, so it passed the guards under which the round trip holds
  have hg := h
  rw [cbcHmacEncrypt_nf C hC M hM K key m nonce aad hk] at hg
  obtain ⟨hn, hg⟩ := of_ite_err_eq_ok hg
  obtain ⟨_, hg⟩ := of_ite_err_eq_ok hg
  obtain ⟨ha, _⟩ := of_ite_err_eq_ok hg
  obtain ⟨b, he, hl, hd⟩ := cbcHmac_roundtrip fixed C hC M hM K key m nonce aad (Decidable.not_not.1 hn)
    (Bool.eq_false_iff.2 ha) hk hK
  cases he.symm.trans h
  exact ⟨by omega, hd⟩

theorem kw_inPlace (C : BlockCipher) (hC : C.Lawful) (key m nonce aad buf : Bytes) (pos : Nat)
    (h : kwEncrypt C key m nonce aad = .ok (buf, pos)) : pos ≤ buf.length ∧ kwDecrypt C key buf nonce aad = .ok m := by
  have hg := h
  rw [kwEncrypt_nf C hC] at hg
  obtain ⟨h1, hg⟩ := of_ite_err_eq_ok hg
  obtain ⟨h2, hg⟩ := of_ite_err_eq_ok hg
  obtain ⟨h3, _⟩ := of_ite_err_eq_ok hg
  have h1 : nonce = [] := by simpa using h1
  have h2 : aad = [] := by simpa using h2
  subst h1 h2
  obtain ⟨b, he, hl, hd⟩ := kw_roundtrip C hC key m (Decidable.not_not.1 h3)
  cases he.symm.trans h
  exact ⟨by omega, hd⟩

theorem encrypt_decrypt_inPlace (fixed : Bool) (P : Prims) (hP : P.Lawful) (k : Key) (hk : k.bytes.length = k.alg.keyLen)
    (m nonce aad buf : Bytes) (pos : Nat) (h : encryptInPlace P k m nonce aad = .ok (buf, pos)) :
    pos ≤ buf.length ∧ decryptInPlace fixed P k buf nonce aad = .ok m := by
  unfold encryptInPlace at h
  unfold decryptInPlace
  cases ha : k.alg <;> simp only [ha, Alg.keyLen] at hk h ⊢
  · exact streamAead_inPlace _ hP.gcm128 12 .Encryption _ _ _ _ _ _ h
  · exact streamAead_inPlace _ hP.gcm256 12 .Encryption _ _ _ _ _ _ h
  · exact cbcHmac_inPlace fixed _ hP.aes128 _ hP.hmac256 16 _ _ _ _ _ _ hk (by rw [hP.hmac256_len]; decide) h
  · exact cbcHmac_inPlace fixed _ hP.aes256 _ hP.hmac512 32 _ _ _ _ _ _ hk (by rw [hP.hmac512_len]; decide) h
  · exact kw_inPlace P.aes128 hP.aes128 _ _ _ _ _ _ h
  · exact kw_inPlace P.aes256 hP.aes256 _ _ _ _ _ _ h
  · exact streamAead_inPlace _ hP.c20p 12 .Invalid _ _ _ _ _ _ h
  · exact streamAead_inPlace _ hP.xc20p 24 .Invalid _ _ _ _ _ _ h
  · cases h

/-- `aead_encrypt` appends the nonce only if there is one; appending an empty one is the same -/
theorem ite_isEmpty_append (buf nonce : Bytes) : (if !nonce.isEmpty then buf ++ nonce else buf) = buf ++ nonce := by
  cases nonce <;> simp

theorem layout_core (buf nonce' : Bytes) (pos : Nat) (hpos : pos ≤ buf.length) :
    let e : Encrypted := ⟨buf ++ nonce', pos, buf.length⟩
    e.buffer = buf.take pos ++ buf.drop pos ++ nonce' ∧ e.tagPos = (buf.take pos).length ∧
    e.noncePos = (buf.take pos).length + (buf.drop pos).length ∧
    e.ciphertext = .ok (buf.take pos) ∧ e.tag = .ok (buf.drop pos) ∧ e.nonce = .ok nonce' := by
  simp only [List.take_append_drop]
  have e1 : 0 ≤ pos ∧ pos ≤ (buf ++ nonce').length := ⟨Nat.zero_le _, by simp; omega⟩
  have e2 : pos ≤ buf.length ∧ buf.length ≤ (buf ++ nonce').length := ⟨hpos, by simp⟩
  have e3 : buf.length ≤ (buf ++ nonce').length := by simp
  refine ⟨trivial, by simp [List.length_take]; omega, by simp [List.length_take, List.length_drop]; omega, ?_, ?_, ?_⟩
  · simp only [Encrypted.ciphertext, sliceRange, e1, and_self, if_true, List.drop_zero, List.take_append_of_le_length hpos]
  · simp only [Encrypted.tag, sliceRange, e2, and_self, if_true, List.take_left' rfl]
  · simp only [Encrypted.nonce, sliceFrom, e3, if_true, List.drop_left' rfl]

theorem localKey_layout (fixed : Bool) (P : Prims) (hP : P.Lawful) (k : Key) (hk : k.bytes.length = k.alg.keyLen)
    (rnd m nonce aad : Bytes) (e : Encrypted) (h : aeadEncrypt P rnd k m nonce aad = .ok e) :
    ∃ ct tag nonce', nonce' = (if nonce.isEmpty && k.alg.params.1 > 0 then rnd else nonce) ∧
      e.buffer = ct ++ tag ++ nonce' ∧ e.tagPos = ct.length ∧ e.noncePos = ct.length + tag.length ∧
      e.ciphertext = .ok ct ∧ e.tag = .ok tag ∧ e.nonce = .ok nonce' ∧
      aeadDecrypt fixed P k ct tag nonce' aad = .ok m := by
  unfold aeadEncrypt at h
  generalize hn' : (if nonce.isEmpty && k.alg.params.1 > 0 then rnd else nonce) = nonce' at h
  cases hr : encryptInPlace P k m nonce' aad with
  | err er => simp [hr] at h
  | panic p => simp [hr] at h
  | ok r =>
    obtain ⟨buf, pos⟩ := r
    obtain ⟨hpos, hd⟩ := encrypt_decrypt_inPlace fixed P hP k hk m nonce' aad buf pos hr
    simp only [hr, bind_ok, Res.ok.injEq, ite_isEmpty_append] at h
    obtain ⟨l1, l2, l3, l4, l5, l6⟩ := layout_core buf nonce' pos hpos
    subst h
    refine ⟨buf.take pos, buf.drop pos, nonce', rfl, l1, l2, l3, l4, l5, l6, ?_⟩
    simp only [aeadDecrypt, List.take_append_drop, hd]

theorem wrong_lengths_error (fixed : Bool) (P : Prims) (hP : P.Lawful) (alg : Alg) (secret : Bytes) :
    (secret.length ≠ alg.keyLen → fromSecretBytes alg secret = .err ⟨.InvalidKeyData, .default⟩) ∧
    (∀ k, fromSecretBytes alg secret = .ok k →
      (∀ rnd m nonce aad, (aeadEncrypt P rnd k m nonce aad).isPanic = false) ∧
      (∀ ct tag nonce aad, (aeadDecrypt fixed P k ct tag nonce aad).isPanic = false) ∧
      (∀ payload nonce, (wrapKey P k payload nonce).isPanic = false) ∧
      (∀ alg' ct tag nonce, (unwrapKey fixed P k alg' ct tag nonce).isPanic = false) ∧
      (∀ rnd m nonce aad e, aeadEncrypt P rnd k m nonce aad = .ok e →
        e.ciphertext.isPanic = false ∧ e.tag.isPanic = false ∧ e.nonce.isPanic = false)) := by
  refine ⟨fun h => by simp [fromSecretBytes, h], ?_⟩
  intro k hk
  obtain ⟨_, _, hlen⟩ := fromSecretBytes_ok alg secret k hk
  refine ⟨?_, ?_, ?_, ?_, ?_⟩
  · intro rnd m nonce aad
    unfold aeadEncrypt
    exact bind_noPanic _ _ (encryptInPlace_noPanic P hP k hlen _ _ _) (fun _ => rfl)
  · intro ct tag nonce aad
    exact decryptInPlace_noPanic fixed P hP k hlen _ _ _
  · intro payload nonce
    unfold wrapKey
    exact bind_noPanic _ _ (encryptInPlace_noPanic P hP k hlen _ _ _) (fun _ => rfl)
  · intro alg' ct tag nonce
    unfold unwrapKey
    refine bind_noPanic _ _ (decryptInPlace_noPanic fixed P hP k hlen _ _ _) (fun b => ?_)
    unfold fromSecretBytes
    split <;> rfl
  · intro rnd m nonce aad e he
    obtain ⟨ct, tag, n', _, _, _, _, h1, h2, h3, _⟩ := localKey_layout fixed P hP k hlen rnd m nonce aad e he
    rw [h1, h2, h3]; exact ⟨rfl, rfl, rfl⟩

/-! ### the toy instance satisfies all laws -/

theorem toyAead_lawful : toyAead.Lawful where
  enc_len := by
    intro k n a m c t h
    simp only [toyAead, Option.some.injEq, Prod.mk.injEq] at h
    obtain ⟨h1, h2⟩ := h
    subst h1; subst h2
    simp [xorByte, toyAead]
  dec_enc := by
    intro k n a m c t h
    simp only [toyAead, Option.some.injEq, Prod.mk.injEq] at h
    obtain ⟨h1, h2⟩ := h
    subst h1; subst h2
    simp [toyAead, xorByte_xorByte]

/-- the hypotheses of the theorems are satisfiable -/
theorem toyPrims_lawful : toyPrims.Lawful where
  aes128 := toyCipher_lawful
  aes256 := toyCipher_lawful
  hmac256 := toyMac_lawful 32
  hmac512 := toyMac_lawful 64
  gcm128 := toyAead_lawful
  gcm256 := toyAead_lawful
  c20p := toyAead_lawful
  xc20p := toyAead_lawful
  hmac256_len := rfl
  hmac512_len := rfl
  gcm128_tag := rfl
  gcm256_tag := rfl
  c20p_tag := rfl
  xc20p_tag := rfl

/-- the additional law of `kw_wrap_unwrap` is satisfiable together with `BlockCipher.Lawful` -/
theorem toyCipher_enc_dec (k b : Bytes) : toyCipher.enc k (toyCipher.dec k b) = b := xorByte_xorByte _ _

end Askar.Aead.Lemmas
