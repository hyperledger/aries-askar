/- The two dialects of `Model/WqlTextPg.lean` against each other (`respell`), a second pass of the scanner over the
   Postgres output, and `extend_query` in terms of `withFilter` / `filterArgs`. -/
import AskarModel.Model.WqlTextPg
import AskarModel.Lemmas.WqlText

namespace Askar.Wql.Lemmas

/-! ### across the dialects: the Postgres output is the SQLite output with `?` re-spelled `$` -/

theorem respellChar_of_ne {c : Char} (h : c ≠ '?') : respellChar c = c := by
  simp [respellChar, h]

theorem respell_id (l : List Char) (h : l.contains '?' = false) : respell l = l := by
  induction l with
  | nil => rfl
  | cons c l ih =>
    simp only [List.contains_cons, Bool.or_eq_false_iff, beq_eq_false_iff_ne, ne_eq] at h
    simp only [respell, List.map_cons] at ih ⊢
    rw [ih h.2, respellChar_of_ne (fun e => h.1 e.symm)]

theorem toDigits_no_qmark (n : Nat) : (Nat.toDigits 10 n).contains '?' = false := by
  rw [Bool.eq_false_iff]
  intro h
  have := List.contains_iff_mem.mp h
  exact isDigit_ne (toDigits_all_digit n _ this) (by decide) rfl

theorem intChars_no_qmark (i : Int) : (intChars i).contains '?' = false := by
  cases i with
  | ofNat n => exact toDigits_no_qmark n
  | negSucc n =>
    simp only [intChars, List.contains_cons, Bool.or_eq_false_iff]
    exact ⟨by decide, toDigits_no_qmark _⟩

theorem respell_placeholder (k : Int) :
    respell (Dialect.placeholder .sqlite k) = Dialect.placeholder .postgres k := by
  simp only [Dialect.placeholder, Dialect.sigil, respell, List.map_cons]
  have := respell_id _ (intChars_no_qmark k)
  simp only [respell] at this
  rw [this]
  rfl

theorem respell_append (a b : List Char) : respell (a ++ b) = respell a ++ respell b := by
  simp [respell]

theorem respell_no_qmark (l : List Char) : (respell l).contains '?' = false := by
  induction l with
  | nil => rfl
  | cons c l ih =>
    simp only [respell, List.map_cons, List.contains_cons, Bool.or_eq_false_iff, beq_eq_false_iff_ne, ne_eq] at ih ⊢
    refine ⟨?_, ih⟩
    unfold respellChar
    split
    · decide
    · rename_i h; exact fun e => h e.symm

theorem map_respell_prepend {pre pre' : List Char} (h : respell pre = pre') (o : Option (List Char)) :
    (o.map respell).map (pre' ++ ·) = (o.map (pre ++ ·)).map respell := by
  cases o with
  | none => rfl
  | some l => simp [respell_append, h]

/-- on ANY text without `?` (every start index, every scanner state, panics included) -/
theorem replaceGoD_respell (start : Int) (s : List Char) (h : s.contains '?' = false) :
    ∀ (index : Int) (st : Scan),
      replaceGoD .postgres start index st s = (replaceGoD .sqlite start index st s).map respell := by
  induction s with
  | nil =>
    intro index st
    cases st with
    | text => rfl
    | dollar => rfl
    | digits ds =>
      simp only [replaceGoD]
      cases subIndex start ds <;> cases chk (index + 1) <;> simp [respell_placeholder]
  | cons c cs ih =>
    simp only [List.contains_cons, Bool.or_eq_false_iff, beq_eq_false_iff_ne, ne_eq] at h
    have hc : respell [c] = [c] := congrArg (· :: []) (respellChar_of_ne fun e => h.1 e.symm)
    have ih := ih h.2
    intro index st
    cases st with
    | text =>
      simp only [replaceGoD]
      split
      · exact ih _ _
      · rw [ih]
        exact map_respell_prepend hc _
    | dollar =>
      simp only [replaceGoD]
      split
      · cases chk (index + 1) with
        | none => rfl
        | some i' =>
          rw [Option.bind_some, ih]
          exact map_respell_prepend (respell_placeholder index) _
      · split
        · exact ih _ _
        · rw [ih]
          exact map_respell_prepend (pre := ['$', c]) (congrArg ('$' :: ·) hc) _
    | digits ds =>
      simp only [replaceGoD]
      split
      · exact ih _ _
      · cases subIndex start ds with
        | none => rfl
        | some k =>
          cases chk (index + 1) with
          | none => rfl
          | some i' =>
            simp only [Option.bind_some]
            split
            · rw [ih]
              exact map_respell_prepend (respell_placeholder k) _
            · rw [ih]
              exact (congrArg (Option.map _) (map_respell_prepend hc _)).trans
                (map_respell_prepend (respell_placeholder k) _)

theorem replaceArgsD_respell (s : List Char) (start : Int) (h : s.contains '?' = false) :
    replaceArgsD .postgres s start = (replaceArgs s start).map respell := by
  rw [← replaceArgsD_sqlite]
  exact replaceGoD_respell start s h start .text

theorem tokChars_no_qmark (t : Tok) (h : tokNoQ t = true) : t.chars.contains '?' = false := by
  cases t with
  | text s => simpa [tokNoQ, Tok.chars] using h
  | ph p =>
    cases p with
    | dd => decide
    | num n =>
      simp only [Tok.chars, List.contains_cons, Bool.or_eq_false_iff]
      exact ⟨by decide, toDigits_no_qmark n⟩

theorem toksChars_no_qmark (ts : List Tok) (h : NoQ ts) : (toksChars ts).contains '?' = false := by
  rw [Bool.eq_false_iff]
  intro hc
  obtain ⟨t, ht, hm⟩ := List.mem_flatMap.mp (List.contains_iff_mem.mp hc)
  have := tokChars_no_qmark t (h t ht)
  rw [Bool.eq_false_iff] at this
  exact this (List.contains_iff_mem.mpr hm)

theorem render_no_qmark (c : Clause) : (toksChars (render c)).contains '?' = false :=
  toksChars_no_qmark _ (render_noQ c)

/-! ### a second pass over the Postgres output -/

theorem finalCharsD_pg_toksChars (xs : List (String ⊕ Nat)) :
    finalCharsD .postgres xs = toksChars (xs.map pieceTok) := by
  simp only [finalCharsD, toksChars, List.flatMap_map]
  congr 1
  funext x
  cases x <;> rfl

/-- `replaceToks` on text that carries numbered placeholders only: every number moves by `start − 1` -/
theorem replaceToks_pieceTok (start k : Nat) (xs : List (String ⊕ Nat)) :
    replaceToks start k (xs.map pieceTok)
      = xs.map (shiftPiece start) := by
  induction xs generalizing k with
  | nil => rfl
  | cons x xs ih =>
    cases x with
    | inl s => simp [pieceTok, replaceToks, ih, shiftPiece]
    | inr n => simp [pieceTok, replaceToks, ih, shiftPiece]

/-! ### `extend_query`, any dialect -/

theorem extendQueryD_eq (d : Dialect) (base : List Char) (nparams : Nat) (filter : Option (List Char × Nat))
    (offset limit : Option Int) (orderBy descending : Bool) :
    extendQueryD d base nparams filter offset limit orderBy descending
      = if startsWithSelect (withFilter base filter) then
          (if offset.isSome || limit.isSome then
            limitQueryD d (if orderBy then orderByQuery (withFilter base filter) descending else withFilter base filter)
              (nparams + filterArgs filter) offset limit
           else some (if orderBy then orderByQuery (withFilter base filter) descending else withFilter base filter,
              nparams + filterArgs filter, []))
        else some (withFilter base filter, nparams + filterArgs filter, []) := by
  cases filter with
  | none => rfl
  | some f => obtain ⟨clause, k⟩ := f; rfl

theorem extendQuery_eq (base : List Char) (nparams : Nat) (filter : Option (List Char × Nat))
    (offset limit : Option Int) (orderBy descending : Bool) :
    extendQuery base nparams filter offset limit orderBy descending
      = if startsWithSelect (withFilter base filter) then
          (if offset.isSome || limit.isSome then
            limitQuery (if orderBy then orderByQuery (withFilter base filter) descending else withFilter base filter)
              (nparams + filterArgs filter) offset limit
           else some (if orderBy then orderByQuery (withFilter base filter) descending else withFilter base filter,
              nparams + filterArgs filter))
        else some (withFilter base filter, nparams + filterArgs filter) := by
  cases filter with
  | none => rfl
  | some f => obtain ⟨clause, k⟩ := f; rfl

theorem inl_mem_replaceToks (start k : Nat) (ts : List Tok) (s : String)
    (h : Sum.inl s ∈ replaceToks start k ts) : Tok.text s ∈ ts := by
  fun_induction replaceToks start k ts with
  | case1 => cases h
  | case2 k s' ts ih =>
    rcases List.mem_cons.mp h with h | h
    · cases h; exact List.mem_cons_self
    · exact List.mem_cons_of_mem _ (ih h)
  | case3 k ts ih => exact List.mem_cons_of_mem _ (ih (by simpa using h))
  | case4 k n ts ih => exact List.mem_cons_of_mem _ (ih (by simpa using h))

theorem wfToks_text_mem (ts : List Tok) (h : wfToks ts = true) (s : String) (hm : Tok.text s ∈ ts) :
    s.toList.contains '$' = false := by
  fun_induction wfToks ts with
  | case1 => cases hm
  | case2 s' ts ih =>
    simp only [Bool.and_eq_true, Bool.not_eq_true'] at h
    rcases List.mem_cons.mp hm with e | hm
    · cases e; exact h.1
    · exact ih h.2 hm
  | case3 ts ih => exact ih h (by simpa using hm)
  | case4 n ts ih =>
    simp only [Bool.and_eq_true] at h
    exact ih h.2 (by simpa using hm)

end Askar.Wql.Lemmas
