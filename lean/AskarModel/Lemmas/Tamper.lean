/- Lemmas for C03, logical level (`Model/Tamper.lean`).  Core Lean only. -/
import AskarModel.Model.Tamper
import AskarModel.Lemmas.Decrypt

namespace Askar.Tamper.Lemmas
open Askar Askar.Tamper
open Askar.Decrypt (EK Res)
open Askar.Decrypt.Lemmas (bind_ok bind_err bind_panic bind_ne_panic bind_eq_ok)

/-! ### nothing at this level panics except the unchecked unwrap -/

theorem dec_ne_panic (key : Nat) (f : Field) (bc bn : Bytes) (x : Ct) : dec key f bc bn x ≠ .panic := by
  cases x with
  | valid k f' c n pt => simp only [dec]; split <;> simp
  | garbage l => simp [dec]

theorem decTag_ne_panic (key : Nat) (t : TagRow) : decTag key t ≠ .panic := by
  unfold decTag
  apply bind_ne_panic _ _ (dec_ne_panic _ _ _ _ _)
  intro n
  cases t.value with
  | plain v => simp
  | enc c => exact bind_ne_panic _ _ (dec_ne_panic _ _ _ _ _) (fun _ => by simp)

theorem decTags_ne_panic (key : Nat) (ts : List TagRow) : decTags key ts ≠ .panic := by
  induction ts with
  | nil => simp [decTags]
  | cons t ts ih =>
    unfold decTags
    exact bind_ne_panic _ _ (decTag_ne_panic key t) fun _ => bind_ne_panic _ _ ih fun _ => by simp

theorem decRow_ne_panic (key : Nat) (cat : Option Bytes) (r : Row) : decRow key cat r ≠ .panic := by
  unfold decRow
  apply bind_ne_panic
  · cases cat with
    | none => exact dec_ne_panic _ _ _ _ _
    | some c => simp
  · intro c
    exact bind_ne_panic _ _ (dec_ne_panic _ _ _ _ _) fun _ => bind_ne_panic _ _ (dec_ne_panic _ _ _ _ _) fun _ =>
      bind_ne_panic _ _ (decTags_ne_panic _ _) fun _ => by simp

theorem decRows_ne_panic (key : Nat) (cat : Option Bytes) (rs : List Row) : decRows key cat rs ≠ .panic := by
  induction rs with
  | nil => simp [decRows]
  | cons r rs ih =>
    unfold decRows
    exact bind_ne_panic _ _ (decRow_ne_panic _ _ _) fun _ => bind_ne_panic _ _ ih fun _ => by simp

theorem decFetched_ne_panic (key kind : Nat) (cat name : Bytes) (r : Row) : decFetched key kind cat name r ≠ .panic := by
  unfold decFetched
  exact bind_ne_panic _ _ (dec_ne_panic _ _ _ _ _) fun _ => bind_ne_panic _ _ (decTags_ne_panic _ _) fun _ => by simp

theorem readAs_ne_panic (db : Db) (pid key : Nat) (r : Read) : readAs db pid key r ≠ .panic := by
  cases r with
  | fetch k c n =>
    unfold readAs fetch
    apply bind_ne_panic _ _ _ (fun _ => by simp)
    split
    · simp
    · exact bind_ne_panic _ _ (decFetched_ne_panic _ _ _ _ _) fun _ => by simp
  | scan k c =>
    unfold readAs scan
    exact bind_ne_panic _ _ (decRows_ne_panic _ _ _) fun _ => by simp
  | count k c => simp [readAs]

theorem dec_ok (key : Nat) (f : Field) (bc bn : Bytes) (x : Ct) (v : Bytes) (h : dec key f bc bn x = .ok v) :
    x = .valid key f bc bn v := by
  cases x with
  | garbage l => simp [dec] at h
  | valid k f' c n pt =>
    simp only [dec] at h
    split at h
    · rename_i hc
      obtain ⟨h1, h2, h3, h4⟩ := hc
      injection h with h5
      subst h1 h2 h3 h4 h5; rfl
    · simp at h

theorem dec_valid (key : Nat) (f : Field) (bc bn v : Bytes) : dec key f bc bn (.valid key f bc bn v) = .ok v := by
  simp [dec]

theorem decRow_ok_inv (key : Nat) (cat : Option Bytes) (r : Row) (e : Entry) (h : decRow key cat r = .ok e) :
    ∃ c n v ts, (match cat with | some c' => c = c' | none => r.cat = .valid key .category [] [] c) ∧
      r.name = .valid key .name [] [] n ∧ r.value = .valid key .value c n v ∧ decTags key r.tags = .ok ts ∧
      e = ⟨r.kind, c, n, v, ts⟩ := by
  unfold decRow at h
  obtain ⟨c, hc, h⟩ := bind_eq_ok _ _ _ h
  obtain ⟨n, hn, h⟩ := bind_eq_ok _ _ _ h
  obtain ⟨v, hv, h⟩ := bind_eq_ok _ _ _ h
  obtain ⟨ts, hts, h⟩ := bind_eq_ok _ _ _ h
  refine ⟨c, n, v, ts, ?_, dec_ok _ _ _ _ _ _ hn, dec_ok _ _ _ _ _ _ hv, hts, ?_⟩
  · cases cat with
    | none => exact dec_ok _ _ _ _ _ _ hc
    | some c' => simp at hc; exact hc.symm
  · injection h with h; exact h.symm

theorem decFetched_ok_inv (key kind : Nat) (cat name : Bytes) (r : Row) (e : Entry) (h : decFetched key kind cat name r = .ok e) :
    ∃ v ts, r.value = .valid key .value cat name v ∧ decTags key r.tags = .ok ts ∧ e = ⟨kind, cat, name, v, ts⟩ := by
  unfold decFetched at h
  obtain ⟨v, hv, h⟩ := bind_eq_ok _ _ _ h
  obtain ⟨ts, hts, h⟩ := bind_eq_ok _ _ _ h
  refine ⟨v, ts, dec_ok _ _ _ _ _ _ hv, hts, ?_⟩
  injection h with h; exact h.symm

/-! ### lifting a per-row guarantee to the reads -/

/-- the category predicate of `SCAN_QUERY` -/
def CatCond (key : Nat) (cat : Option Bytes) (r : Row) : Prop :=
  match cat with
  | none => True
  | some c => r.cat = encS key .category c

/-- what a session (pid, key) can get out of row `r`: only entries of `W` -/
def RowOK (W : List Entry) (pid key : Nat) (r : Row) : Prop :=
  r.pid = pid →
    (∀ cat e, CatCond key cat r → decRow key cat r = .ok e → e ∈ W) ∧
    (∀ kind cat name e, r.kind = kind → r.cat = encS key .category cat → r.name = encS key .name name →
      decFetched key kind cat name r = .ok e → e ∈ W)

theorem selects_true (pid key : Nat) (kind : Option Nat) (cat : Option Bytes) (r : Row) (h : selects pid key kind cat r = true) :
    r.pid = pid ∧ CatCond key cat r := by
  unfold selects at h
  simp only [Bool.and_eq_true, decide_eq_true_eq] at h
  refine ⟨h.1.1, ?_⟩
  cases cat with
  | none => trivial
  | some c => simpa [CatCond] using h.2

theorem decRows_mem (W : List Entry) (pid key : Nat) (cat : Option Bytes) :
    ∀ (l : List Row) (es : List Entry),
      (∀ r ∈ l, r.pid = pid ∧ CatCond key cat r ∧ RowOK W pid key r) →
      decRows key cat l = .ok es → ∀ e ∈ es, e ∈ W := by
  intro l
  induction l with
  | nil => intro es _ h; simp [decRows] at h; subst h; simp
  | cons r rs ih =>
    intro es hl h
    unfold decRows at h
    obtain ⟨e0, he0, h⟩ := bind_eq_ok _ _ _ h
    obtain ⟨es0, hes0, h⟩ := bind_eq_ok _ _ _ h
    injection h with h
    subst h
    have hr := hl r (by simp)
    intro e he
    cases he with
    | head => exact (hr.2.2 hr.1).1 cat _ hr.2.1 he0
    | tail _ hm => exact ih es0 (fun r' hr' => hl r' (by simp [hr'])) hes0 e hm

theorem scan_safe (W : List Entry) (db : Db) (pid key : Nat) (kind : Option Nat) (cat : Option Bytes) (es : List Entry)
    (hok : ∀ r ∈ db.items, RowOK W pid key r) (h : scan db pid key kind cat = .ok es) : ∀ e ∈ es, e ∈ W := by
  unfold scan at h
  apply decRows_mem W pid key cat _ es _ h
  intro r hr
  have hm := List.mem_filter.mp hr
  have hs := selects_true pid key kind cat r hm.2
  exact ⟨hs.1, hs.2, hok r hm.1⟩

theorem fetch_safe (W : List Entry) (db : Db) (pid key kind : Nat) (cat name : Bytes) (e : Entry)
    (hok : ∀ r ∈ db.items, RowOK W pid key r) (h : fetch db pid key kind cat name = .ok (some e)) : e ∈ W := by
  unfold fetch at h
  cases hf : db.items.find? (fetchSelects pid key kind cat name) with
  | none => simp [hf] at h
  | some r =>
    simp only [hf] at h
    obtain ⟨e0, he0, h⟩ := bind_eq_ok _ _ _ h
    have he : e0 = e := by injection h with h; injection h
    subst he
    have hmem := List.mem_of_find?_eq_some hf
    have hp := List.find?_some hf
    unfold fetchSelects at hp
    simp only [Bool.and_eq_true, decide_eq_true_eq] at hp
    exact ((hok r hmem) hp.1.1.1).2 kind cat name e0 hp.1.1.2 hp.1.2 hp.2 he0

theorem readAs_safe (ps : List ProfSpec) (profile : String) (db : Db) (pid key : Nat) (W : List Entry)
    (hW : ∀ e ∈ W, Written ps profile e) (hok : ∀ r ∈ db.items, RowOK W pid key r) (r : Read) (a : Answer)
    (h : readAs db pid key r = .ok a) : AnswerSafe ps profile a := by
  cases r with
  | fetch k c n =>
    unfold readAs at h
    obtain ⟨eo, he, h⟩ := bind_eq_ok _ _ _ h
    injection h with h; subst h
    cases eo with
    | none => trivial
    | some e => exact hW e (fetch_safe W db pid key k c n e hok he)
  | scan k c =>
    unfold readAs at h
    obtain ⟨es, he, h⟩ := bind_eq_ok _ _ _ h
    injection h with h; subst h
    intro e hm
    exact hW e (scan_safe W db pid key k c es hok he e hm)
  | count k c =>
    unfold readAs at h
    injection h with h; subst h; trivial

/-! ### rows as written, and with one cell replaced -/

theorem decTag_encTag (key : Nat) (t : Tag) : decTag key (encTag key t) = .ok t := by
  obtain ⟨pl, n, v⟩ := t
  cases pl <;> simp [decTag, encTag, encS, dec]

theorem decTags_encTag (key : Nat) (ts : List Tag) : decTags key (ts.map (encTag key)) = .ok ts := by
  induction ts with
  | nil => rfl
  | cons t ts ih => simp [decTags, decTag_encTag, ih]

theorem encTag_inj (key : Nat) (t t' : Tag) (h : encTag key t = encTag key t') : t = t' := by
  obtain ⟨pl, n, v⟩ := t
  obtain ⟨pl', n', v'⟩ := t'
  cases pl <;> cases pl' <;> simp [encTag, encS] at h ⊢ <;> exact h

theorem encRow_inj (pid key pid' key' : Nat) (rec rec' : RecSpec) (h : encRow pid key rec = encRow pid' key' rec') :
    pid = pid' ∧ key = key' ∧ rec = rec' := by
  obtain ⟨k, c, n, v, ts⟩ := rec
  obtain ⟨k', c', n', v', ts'⟩ := rec'
  simp only [encRow, encS, Row.mk.injEq, Ct.valid.injEq] at h
  obtain ⟨h1, h2, h3, h4, h5, h6⟩ := h
  have hk : key = key' := h3.1
  subst hk
  refine ⟨h1, rfl, ?_⟩
  rw [h2, h3.2.2.2.2, h4.2.2.2.2, h5.2.2.2.2, (List.map_inj_right (encTag_inj key)).mp h6]

/-- after `setTag` a tag row either fails or gives the tag that was written: the replaced cell itself cannot decrypt
    (`Admissible`), every other cell is as written -/
theorem decTag_setTag (key : Nat) (rec : RecSpec) (c : Col) (x : Ct) (i : Nat) (t t' : Tag) (hx : Admissible key rec c x)
    (h : decTag key (setTag c x i (encTag key t)) = .ok t') : t' = t := by
  have hgen : decTag key (encTag key t) = .ok t' → t' = t := by
    intro h'; rw [decTag_encTag] at h'; injection h' with h'; exact h'.symm
  cases c with
  | category => exact hgen h
  | name => exact hgen h
  | value => exact hgen h
  | tagName j =>
    simp only [setTag] at h
    split at h
    · obtain ⟨n, hn, _⟩ := bind_eq_ok _ _ _ h
      exact absurd (dec_ok _ _ _ _ _ _ hn) (hx n)
    · exact hgen h
  | tagValue j =>
    simp only [setTag] at h
    split at h
    · obtain ⟨pl, n, v⟩ := t
      cases pl with
      | true => exact hgen h
      | false =>
        obtain ⟨n', _, h⟩ := bind_eq_ok _ _ _ h
        obtain ⟨v', hv, _⟩ := bind_eq_ok _ _ _ h
        exact absurd (dec_ok _ _ _ _ _ _ hv) (hx v')
    · exact hgen h

theorem decTags_setTags (key : Nat) (rec : RecSpec) (c : Col) (x : Ct) (hx : Admissible key rec c x) :
    ∀ (ts : List Tag) (i : Nat) (out : List Tag), decTags key (setTags c x i (ts.map (encTag key))) = .ok out → out = ts := by
  intro ts
  induction ts with
  | nil => intro i out h; simp [setTags, decTags] at h; exact h
  | cons t ts ih =>
    intro i out h
    simp only [List.map_cons, setTags] at h
    unfold decTags at h
    obtain ⟨t', ht', h⟩ := bind_eq_ok _ _ _ h
    obtain ⟨ts', hts', h⟩ := bind_eq_ok _ _ _ h
    injection h with h
    subst h
    rw [decTag_setTag key rec c x i t t' hx ht', ih (i + 1) ts' hts']

theorem setTags_item (c : Col) (x : Ct) (hc : c = .category ∨ c = .name ∨ c = .value) :
    ∀ (i : Nat) (ts : List TagRow), setTags c x i ts = ts
  | _, [] => rfl
  | i, t :: ts => by
    rw [setTags, setTags_item c x hc (i + 1) ts]
    rcases hc with rfl | rfl | rfl <;> rfl

theorem set_frame (r : Row) (c : Col) (x : Ct) :
    (r.set c x).pid = r.pid ∧ (r.set c x).kind = r.kind ∧ (c ≠ .category → (r.set c x).cat = r.cat) ∧
    (c ≠ .name → (r.set c x).name = r.name) ∧ (c ≠ .value → (r.set c x).value = r.value) ∧
    (r.set c x).tags = setTags c x 0 r.tags := by
  cases c <;> simp [Row.set, setTags_item]

theorem genuine_rowOK (W : List Entry) (pid key' p k : Nat) (rec : RecSpec)
    (hW : pid = p → key' = k → rec.entry ∈ W) : RowOK W pid key' (encRow p k rec) := by
  intro hp
  have hp' : pid = p := hp.symm
  constructor
  · intro cat e _ h
    obtain ⟨c, n, v, ts, _, h2, h3, h4, h5⟩ := decRow_ok_inv _ _ _ _ h
    simp only [encRow, encS] at h2 h3 h4
    injection h2 with k1 _ _ _ k2
    injection h3 with _ _ k3 k4 k5
    subst k1
    rw [decTags_encTag] at h4
    injection h4 with h4
    subst k2 k3 k5 h4 h5
    exact hW hp' rfl
  · intro kind cat name e hk _ _ h
    obtain ⟨v, ts, h3, h4, h5⟩ := decFetched_ok_inv _ _ _ _ _ _ h
    simp only [encRow] at h3 h4 hk
    injection h3 with k1 _ k3 k4 k5
    subst k1
    rw [decTags_encTag] at h4
    injection h4 with h4
    subst k3 k4 k5 h4 h5 hk
    exact hW hp' rfl

theorem tampered_rowOK (W : List Entry) (k : Nat) (rec : RecSpec) (c : Col) (x : Ct)
    (hx : Admissible k rec c x) (hW : rec.entry ∈ W) :
    RowOK W k k ((encRow k k rec).set c x) := by
  intro _
  obtain ⟨-, hkind, hcat, hname, hvalue, htags⟩ := set_frame (encRow k k rec) c x
  have htags : ∀ out, decTags k ((encRow k k rec).set c x).tags = .ok out → out = rec.tags :=
    fun out h => decTags_setTags k rec c x hx rec.tags 0 out (by rw [htags] at h; exact h)
  -- The value cell decrypts with the binding (c0, n) to v.  If it is the original cell, it fixes all three; if it is `x`,
  -- category and name cells are the original ones and fix the binding, and `x` is admissible.
  have hval : ∀ c0 n v, ((encRow k k rec).set c x).value = .valid k .value c0 n v →
      (c = .value → c0 = rec.cat ∧ n = rec.name) → c0 = rec.cat ∧ n = rec.name ∧ v = rec.value := by
    intro c0 n v h3 hb
    by_cases hc : c = .value
    · obtain ⟨rfl, rfl⟩ := hb hc
      subst hc
      exact ⟨rfl, rfl, hx v h3⟩
    · rw [hvalue hc] at h3
      injection h3 with _ _ k3 k4 k5
      exact ⟨k3.symm, k4.symm, k5.symm⟩
  constructor
  · intro cat e hc h
    obtain ⟨c0, n, v, ts, h1, h2, h3, h4, h5⟩ := decRow_ok_inv _ _ _ _ h
    obtain ⟨rfl, rfl, rfl⟩ := hval c0 n v h3 (by
      rintro rfl
      rw [hname (by decide)] at h2
      injection h2 with _ _ _ _ k2
      refine ⟨?_, k2.symm⟩
      cases cat with
      | none => rw [hcat (by decide)] at h1; injection h1 with _ _ _ _ k1; exact k1.symm
      | some c' =>
        simp only [CatCond] at hc
        rw [hcat (by decide)] at hc
        injection hc with _ _ _ _ k1
        rw [h1]; exact k1.symm)
    rw [htags ts h4, hkind] at h5
    rw [h5]; exact hW
  · intro kind cat name e hk hcat' hname' h
    obtain ⟨v, ts, h3, h4, h5⟩ := decFetched_ok_inv _ _ _ _ _ _ h
    obtain ⟨rfl, rfl, rfl⟩ := hval cat name v h3 (by
      rintro rfl
      rw [hcat (by decide)] at hcat'
      rw [hname (by decide)] at hname'
      injection hcat' with _ _ _ _ k1
      injection hname' with _ _ _ _ k2
      exact ⟨k1.symm, k2.symm⟩)
    rw [htags ts h4, ← hk, hkind] at h5
    rw [h5]; exact hW

/-! ### the shape of the written store -/

theorem mem_itemRows : ∀ (ps : List ProfSpec) (off : Nat) (r : Row), r ∈ itemRows off ps →
    ∃ q p rec, ps[q]? = some p ∧ rec ∈ p.recs ∧ r = encRow (off + q + 1) (off + q + 1) rec := by
  intro ps
  induction ps with
  | nil => intro off r h; simp [itemRows] at h
  | cons p ps ih =>
    intro off r h
    simp only [itemRows, List.mem_append, List.mem_map] at h
    cases h with
    | inl h =>
      obtain ⟨rec, hrec, hr⟩ := h
      exact ⟨0, p, rec, rfl, hrec, hr.symm⟩
    | inr h =>
      obtain ⟨q, p', rec, h1, h2, h3⟩ := ih (off + 1) r h
      rw [Nat.add_right_comm off 1 q] at h3
      exact ⟨q + 1, p', rec, h1, h2, h3⟩

theorem mem_setNth (c : Col) (x : Ct) : ∀ (l : List Row) (i : Nat) (r' : Row), r' ∈ setNth c x i l →
    r' ∈ l ∨ ∃ r, l[i]? = some r ∧ r' = r.set c x := by
  intro l
  induction l with
  | nil => intro i r' h; rw [setNth] at h; cases h
  | cons r rs ih =>
    intro i r' h
    cases i with
    | zero =>
      rcases List.mem_cons.mp h with h | h
      · exact .inr ⟨r, rfl, h⟩
      · exact .inl (List.mem_cons_of_mem _ h)
    | succ i =>
      rcases List.mem_cons.mp h with h | h
      · exact .inl (h ▸ List.mem_cons_self)
      · exact (ih i r' h).imp (List.mem_cons_of_mem _) id

theorem store_rowOK (ps : List ProfSpec) (k key : Nat) (p : ProfSpec) (hp : ps[k]? = some p) :
    ∀ r ∈ itemRows 0 ps, RowOK (p.recs.map RecSpec.entry) (k + 1) key r := by
  intro r hr
  obtain ⟨q, p', rec, h1, h2, h3⟩ := mem_itemRows ps 0 r hr
  simp only [Nat.zero_add] at h3
  subst h3
  apply genuine_rowOK
  intro hk _
  have : k = q := by omega
  subst this
  rw [hp] at h1
  injection h1 with h1
  subst h1
  exact List.mem_map.mpr ⟨rec, h2, rfl⟩

theorem find_profileRows (sk : Nat) (profile : String) (ps : List ProfSpec) : ∀ (off : Nat) (pr : ProfileRow),
    (profileRows sk off ps).find? (fun p => p.name = profile) = some pr →
    ∃ k p, ps[k]? = some p ∧ p.name = profile ∧ pr.pid = off + k + 1 ∧ pr.key = .valid sk (off + k + 1) := by
  induction ps with
  | nil => intro off pr h; cases h
  | cons p ps ih =>
    intro off pr h
    rw [profileRows, List.find?_cons] at h
    by_cases hn : p.name = profile
    · simp only [hn, decide_true] at h
      cases h
      exact ⟨0, p, rfl, hn, rfl, rfl⟩
    · simp only [hn, decide_false] at h
      obtain ⟨k, p', h1, h2, h3, h4⟩ := ih (off + 1) pr h
      rw [Nat.add_right_comm off 1 k] at h3 h4
      exact ⟨k + 1, p', h1, h2, h3, h4⟩

theorem find_setKeyNth (w : Wrapped) (profile : String) (l : List ProfileRow) : ∀ (i : Nat) (pr : ProfileRow),
    (setKeyNth w i l).find? (fun p => p.name = profile) = some pr →
    ∃ p, l.find? (fun p => p.name = profile) = some p ∧ pr.pid = p.pid ∧ (pr.key = p.key ∨ pr.key = w) := by
  induction l with
  | nil => intro i pr h; cases i <;> cases h
  | cons p l ih =>
    intro i pr h
    rw [List.find?_cons]
    by_cases hn : p.name = profile
    · simp only [hn, decide_true]
      cases i with
      | zero =>
        simp only [setKeyNth, List.find?_cons, hn, decide_true] at h
        cases h
        exact ⟨p, rfl, rfl, .inr rfl⟩
      | succ i =>
        simp only [setKeyNth, List.find?_cons, hn, decide_true] at h
        cases h
        exact ⟨p, rfl, rfl, .inl rfl⟩
    · simp only [hn, decide_false]
      cases i with
      | zero =>
        simp only [setKeyNth, List.find?_cons, hn, decide_false] at h
        exact ⟨pr, h, rfl, .inl rfl⟩
      | succ i =>
        simp only [setKeyNth, List.find?_cons, hn, decide_false] at h
        exact ih i pr h

theorem setKeyNth_beyond (w : Wrapped) : ∀ (l : List ProfileRow), setKeyNth w l.length l = l := by
  intro l; induction l with
  | nil => rfl
  | cons a l ihl => simp [setKeyNth, ihl]

/-! ### panics: `Sat` and the unchecked unwrap -/

def Sat {α : Type} (Q : α → Prop) (P : Prop) : Res α → Prop
  | .ok a => Q a
  | .err _ => True
  | .panic => P

theorem Sat.mono {α : Type} {Q : α → Prop} {P P' : Prop} {r : Res α} (h : Sat Q P r) (hp : P → P') : Sat Q P' r := by
  cases r with
  | ok a => exact h
  | err e => trivial
  | panic => exact hp h

/-- only a `profile_key` shorter than the nonce makes the unchecked unwrap panic -/
def ShortKey (chk : Bool) (w : Wrapped) : Prop := chk = false ∧ ∃ len, len < 12 ∧ w = .garbage len

theorem unwrapWith_sat (chk : Bool) (sk : Nat) (w : Wrapped) :
    Sat (fun key => w = .valid sk key) (ShortKey chk w) (unwrapWith chk sk w) := by
  cases w with
  | valid sk' pk =>
    rw [unwrapWith]
    by_cases hs : sk' = sk
    · rw [if_pos hs, hs]
      exact rfl
    · rw [if_neg hs]
      trivial
  | garbage len =>
    rw [unwrapWith]
    by_cases hl : len < 12
    · rw [if_pos hl]
      cases chk
      · exact ⟨rfl, len, hl, rfl⟩
      · trivial
    · rw [if_neg hl]
      trivial

theorem resolve_sat (chk : Bool) (sk : Nat) (ps : List ProfSpec) (items : List Row) (i : Nat) (w : Wrapped) (profile : String) :
    Sat (fun pk => ∃ k p, ps[k]? = some p ∧ p.name = profile ∧ pk.1 = k + 1 ∧ (pk.2 = k + 1 ∨ w = .valid sk pk.2))
      (ShortKey chk w) (resolveWith chk ⟨setKeyNth w i (profileRows sk 0 ps), items⟩ sk profile) := by
  unfold resolveWith
  cases hf : (setKeyNth w i (profileRows sk 0 ps)).find? (fun p => p.name = profile) with
  | none => trivial
  | some pr =>
    -- the row found is the written one, up to its key, which is the written one or `w`
    obtain ⟨p0, hf0, hpid, h4⟩ := find_setKeyNth w profile _ i pr hf
    obtain ⟨k, p, h1, h2, h3, h5⟩ := find_profileRows sk profile ps 0 p0 hf0
    rw [Nat.zero_add] at h3 h5
    have hw : pr.key = .valid sk (k + 1) ∨ pr.key = w := h4.imp_left (·.trans h5)
    have hu := unwrapWith_sat chk sk pr.key
    dsimp only
    cases hk : unwrapWith chk sk pr.key with
    | ok key =>
      rw [hk] at hu
      exact ⟨k, p, h1, h2, hpid.trans h3,
        hw.imp (fun e => (Wrapped.valid.inj (e.symm.trans hu)).2.symm) (fun e => e.symm.trans hu)⟩
    | err e => trivial
    | panic =>
      rw [hk] at hu
      obtain ⟨hc, len, hl, hg⟩ := hu
      refine ⟨hc, len, hl, hw.elim (fun e => ?_) (fun e => e.symm.trans hg)⟩
      cases e.symm.trans hg

theorem read_sat (chk : Bool) (sk : Nat) (ps : List ProfSpec) (profile : String) (r : Read) (items : List Row) (i : Nat)
    (w : Wrapped)
    (hrows : ∀ k p, ps[k]? = some p → ∀ key, (key = k + 1 ∨ w = .valid sk key) →
      ∀ r ∈ items, RowOK (p.recs.map RecSpec.entry) (k + 1) key r) :
    Sat (AnswerSafe ps profile) (ShortKey chk w)
      (readWith chk ⟨setKeyNth w i (profileRows sk 0 ps), items⟩ sk profile r) := by
  unfold readWith
  have hres := resolve_sat chk sk ps items i w profile
  cases hr : resolveWith chk ⟨setKeyNth w i (profileRows sk 0 ps), items⟩ sk profile with
  | err e => trivial
  | panic => rw [hr] at hres; exact hres
  | ok pk =>
    rw [hr] at hres
    obtain ⟨k, p, h1, h2, h3, h4⟩ := hres
    rw [bind_ok, h3]
    cases ha : readAs ⟨setKeyNth w i (profileRows sk 0 ps), items⟩ (k + 1) pk.2 r with
    | panic => exact absurd ha (readAs_ne_panic _ _ _ _)
    | err e => trivial
    | ok a =>
      exact readAs_safe ps profile _ (k + 1) pk.2 (p.recs.map RecSpec.entry)
        (fun e he => ⟨p, List.mem_of_getElem? h1, h2, he⟩) (hrows k p h1 pk.2 h4) r a ha

theorem setNth_rowOK (ps : List ProfSpec) (i : Nat) (c : Col) (x : Ct) (q : Nat) (rec : RecSpec)
    (hrow : (itemRows 0 ps)[i]? = some (encRow (q + 1) (q + 1) rec)) (hx : Admissible (q + 1) rec c x)
    (k : Nat) (p : ProfSpec) (hp : ps[k]? = some p) :
    ∀ r ∈ setNth c x i (itemRows 0 ps), RowOK (p.recs.map RecSpec.entry) (k + 1) (k + 1) r := by
  intro r' hr'
  cases mem_setNth c x _ i r' hr' with
  | inl h => exact store_rowOK ps k (k + 1) p hp r' h
  | inr h =>
    obtain ⟨r0, h1, rfl⟩ := h
    rw [hrow] at h1
    injection h1 with h1
    subst h1
    by_cases hkq : k = q
    · -- the replaced row belongs to the session's profile: `rec` is one of its records
      subst hkq
      apply tampered_rowOK _ (k + 1) rec c x hx
      obtain ⟨q', p', rec', g1, g2, g3⟩ := mem_itemRows ps 0 _ (List.mem_of_getElem? hrow)
      rw [Nat.zero_add] at g3
      obtain ⟨e1, _, rfl⟩ := encRow_inj _ _ _ _ _ _ g3
      rw [← Nat.succ.inj e1, hp] at g1
      injection g1 with g1
      subst g1
      exact List.mem_map.mpr ⟨rec, g2, rfl⟩
    · intro hpid
      rw [(set_frame _ c x).1] at hpid
      exact absurd (Nat.succ.inj hpid).symm hkq

theorem read_of_tampered_row (chk : Bool) (sk : Nat) (ps : List ProfSpec) (db : Db) (ht : Tampered sk ps db)
    (profile : String) (r : Read) :
    match readWith chk db sk profile r with
    | .ok a => AnswerSafe ps profile a
    | .err _ => True
    | .panic => chk = false ∧ ∃ i len, len < 12 ∧ db = tamperProfile (store sk ps) i (.garbage len) := by
  -- an untouched `profiles` table is one whose key beyond the last row was replaced, by a key that unwraps to nothing
  have intact : ∀ items, (∀ k p, ps[k]? = some p → ∀ r ∈ items, RowOK (p.recs.map RecSpec.entry) (k + 1) (k + 1) r) →
      Sat (AnswerSafe ps profile) False (readWith chk ⟨profileRows sk 0 ps, items⟩ sk profile r) := by
    intro items hrows
    have := read_sat chk sk ps profile r items (profileRows sk 0 ps).length (.valid (sk + 1) 0) fun k p hp key hkey =>
      hkey.elim (fun e => e ▸ hrows k p hp) (fun e => absurd (Wrapped.valid.inj e).1 (Nat.succ_ne_self sk))
    rw [setKeyNth_beyond] at this
    exact this.mono fun ⟨_, len, _, hl⟩ => by cases hl
  have h : Sat (AnswerSafe ps profile) (chk = false ∧ ∃ i len, len < 12 ∧ db = tamperProfile (store sk ps) i (.garbage len))
      (readWith chk db sk profile r) := by
    cases ht with
    | intact => exact (intact _ fun k p hp => store_rowOK ps k (k + 1) p hp).mono False.elim
    | item i c x q rec hrow hx => exact (intact _ (setNth_rowOK ps i c x q rec hrow hx)).mono False.elim
    | profile i w =>
      exact (read_sat chk sk ps profile r _ i w fun k p hp key _ => store_rowOK ps k key p hp).mono
        fun ⟨hc, len, hlen, hl⟩ => ⟨hc, i, len, hlen, by rw [hl]⟩
  -- `Sat` and the `match` of the statement are the same proposition constructor by constructor (the unifier does not
  -- identify the two matchers on an unknown result)
  generalize readWith chk db sk profile r = res at h ⊢
  cases res <;> exact h

theorem wrong_key_open_fails (chk : Bool) (sk : Nat) (ps : List ProfSpec) (method : Option Method) (pass : Pass) (profile : String)
    (h : pass ≠ .key sk) : ∃ e, openWith chk (store sk ps) method pass profile = .err e := by
  unfold openWith
  split
  · exact ⟨_, rfl⟩
  · cases pass with
    | empty => exact ⟨_, rfl⟩
    | malformed => exact ⟨_, rfl⟩
    | wrongLength => exact ⟨_, rfl⟩
    | key sk' =>
      have hne : sk ≠ sk' := fun e => h (by rw [e])
      simp only
      unfold resolveWith
      cases hf : (store sk ps).profiles.find? (fun p => p.name = profile) with
      | none => exact ⟨_, rfl⟩
      | some pr =>
        obtain ⟨k, _, _, _, _, hk⟩ := find_profileRows sk profile ps 0 pr hf
        simp only [hk, unwrapWith, hne, if_false]
        exact ⟨_, rfl⟩

end Askar.Tamper.Lemmas
