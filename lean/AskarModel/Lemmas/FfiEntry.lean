/- Lemmas about the entry-point table of Model/FfiEntry.lean (property C19). -/
import AskarModel.Model.FfiEntry
import AskarModel.Lemmas.Ffi

namespace Askar.Ffi.Lemmas
open Askar.Store (Err)

theorem flag_check_err {b : Bool} {x : Err} (h : (if b = true then Except.error Err.input else Except.ok ()) = Except.error x) :
    x = .input := by
  cases b
  · cases h
  · exact (Except.error.inj h).symm

theorem check_err_kind (a : SyncArgs) (c : Check) (x : Err) (h : c.run a = .error x) :
    x = .input ∨ x = .unsupported ∨ x = .unexpected := by
  cases c with
  | alg =>
    unfold Check.run at h
    cases hg : a.alg <;> rw [hg] at h <;> cases h
    · exact .inr (.inl rfl)
    · exact .inr (.inr rfl)
  | outPtr => exact .inl (flag_check_err h)
  | handle i => exact .inl (flag_check_err h)
  | nonNeg => exact .inl (flag_check_err h)

theorem runChecks_ok (a : SyncArgs) : ∀ cs : List Check, (∀ c ∈ cs, c.run a = .ok ()) → runChecks a cs = .ok ()
  | [], _ => rfl
  | c :: cs, h => by
    simp only [runChecks, h c (List.mem_cons_self ..)]
    exact runChecks_ok a cs fun d hd => h d (List.mem_cons_of_mem _ hd)

theorem runChecks_fails (a : SyncArgs) : ∀ cs : List Check, ∀ c ∈ cs, (∃ x, c.run a = .error x) → ∃ y, runChecks a cs = .error y
  | [], _, h, _ => by cases h
  | d :: cs, c, hc, hx => by
    simp only [runChecks]
    cases hd : d.run a with
    | error y => exact ⟨y, rfl⟩
    | ok u =>
      cases u
      rcases List.mem_cons.mp hc with rfl | hm
      · obtain ⟨x, hx⟩ := hx; rw [hd] at hx; cases hx
      · exact runChecks_fails a cs c hm hx

theorem runChecks_err_kind (a : SyncArgs) : ∀ (cs : List Check) (x : Err), runChecks a cs = .error x →
    x = .input ∨ x = .unsupported ∨ x = .unexpected
  | [], x, h => by simp [runChecks] at h
  | c :: cs, x, h => by
    simp only [runChecks] at h
    cases hc : c.run a with
    | error y => rw [hc] at h; simp only [Except.error.injEq] at h; subst h; exact check_err_kind a c y hc
    | ok u => cases u; rw [hc] at h; exact runChecks_err_kind a cs x h

theorem runChecks_null_out (a : SyncArgs) (cs : List Check) (h : a.outNull = true) : runChecks a (.outPtr :: cs) = .error .input := by
  simp [runChecks, Check.run, h]

theorem runSync_of_checks_err {ρ : Type} (cs : List Check) (a : SyncArgs) (body : Except Err ρ) (s : ErrSlot) (x : Err)
    (h : runChecks a cs = .error x) : runSync cs a body s = (Code.ofErr x, none, (Code.ofErr x).num) := by
  simp [runSync, h, setLastError]

theorem runSync_of_checks_ok {ρ : Type} (cs : List Check) (a : SyncArgs) (body : Except Err ρ) (s : ErrSlot)
    (h : runChecks a cs = .ok ()) (hb : a.bufNeg = false) :
    runSync cs a body s = match body with
      | .ok v => (.success, some v, s)
      | .error x => (Code.ofErr x, none, (Code.ofErr x).num) := by
  cases body <;> simp [runSync, h, hb, setLastError]

/-- a negative buffer length behind passing checks: the caught panic of `as_slice` -/
theorem runSync_of_bufNeg {ρ : Type} (cs : List Check) (a : SyncArgs) (body : Except Err ρ) (s : ErrSlot)
    (h : runChecks a cs = .ok ()) (hb : a.bufNeg = true) :
    runSync cs a body s = (.unexpected, none, Code.unexpected.num) := by
  simp [runSync, h, hb, setLastError]

theorem runSync_shape {ρ : Type} (cs : List Check) (a : SyncArgs) (body : Except Err ρ) (s : ErrSlot) :
    (∃ v, runSync cs a body s = (.success, some v, s)) ∨ (∃ c, c ≠ .success ∧ runSync cs a body s = (c, none, c.num)) := by
  unfold runSync
  cases runChecks a cs with
  | error x => exact .inr ⟨_, ofErr_ne_success x, rfl⟩
  | ok u =>
    cases a.bufNeg
    · cases body with
      | ok v => exact .inl ⟨v, rfl⟩
      | error x => exact .inr ⟨_, ofErr_ne_success x, rfl⟩
    · exact .inr ⟨.unexpected, by decide, rfl⟩

theorem checks_head (e : KeyEntry) : ∃ cs, e.checks = .outPtr :: cs := by
  cases e <;> exact ⟨_, rfl⟩

theorem handle_mem_iff (e : KeyEntry) (i : Nat) : Check.handle i ∈ e.checks ↔ i < e.handles := by
  have h : e.checks.filterMap (fun | .handle i => some i | _ => none) = List.range e.handles := by cases e <;> rfl
  rw [← List.mem_range, ← h, List.mem_filterMap]
  constructor
  · exact fun hm => ⟨_, hm, rfl⟩
  · rintro ⟨c, hc, hi⟩
    cases c <;> simp at hi
    exact hi ▸ hc

theorem wellFormed_checks (e : KeyEntry) (a : SyncArgs) (hw : a.WellFormed e.handles) : runChecks a e.checks = .ok () := by
  obtain ⟨h1, h2, h3, _, h5⟩ := hw
  apply runChecks_ok
  intro c hc
  cases c with
  | outPtr => simp [Check.run, h1]
  | alg => simp [Check.run, h2]
  | handle i => have := h5 i ((handle_mem_iff e i).mp hc); simp only [Check.run, this]; rfl
  | nonNeg => simp [Check.run, h3]

theorem decodeRequired_err : ∀ (l : List CStr) (x : Err), decodeRequired l = .error x → x = .input
  | [], x, h => by simp [decodeRequired] at h
  | s :: l, x, h => by
    simp only [decodeRequired] at h
    split at h
    · simp only [Except.error.injEq] at h; exact h.symm
    · exact decodeRequired_err l x h

theorem decodeRequired_null : ∀ (l : List CStr), CStr.null ∈ l → decodeRequired l = .error .input
  | [], h => by cases h
  | s :: l, h => by
    simp only [decodeRequired]
    cases hs : s.intoOptString with
    | none => rfl
    | some v =>
      simp only
      rcases List.mem_cons.mp h with rfl | hm
      · simp [CStr.intoOptString] at hs
      · exact decodeRequired_null l hm

theorem AsyncEntry.run_accepted {ρ : Type} (e : AsyncEntry) (parse : String → Except Err Unit) (strs : List CStr) (method : CStr)
    (fate : TaskFate ρ) (hd : e.decode parse strs method = .ok ()) :
    e.run true parse strs method fate = (.success, taskFires {} fate) := by
  simp [AsyncEntry.run, runEntry, hd]

theorem cstep_remove (e : CEntry) : cstep e .remove =
    ({ e with inMap := false }, if e.inMap then (if e.holders = 0 then .taken else .busy) else .notFound) := by
  obtain ⟨m, h⟩ := e
  cases m <;> by_cases hh : h = 0 <;> simp [cstep, hh]

theorem sessionCloseTask_eq (e : CEntry) (commit : Bool) (cr : Except Err Unit) : sessionCloseTask e commit cr =
    ({ e with inMap := false },
     if e.inMap then (if e.holders = 0 then (if commit then cr else .ok ()) else .error .busy) else .ok ()) := by
  unfold sessionCloseTask
  rw [cstep_remove]
  cases e.inMap <;> by_cases hh : e.holders = 0 <;> simp [hh]

theorem crun_length : ∀ (evs : List CEv) (e : CEntry), (crun e evs).2.length = evs.length
  | [], _ => rfl
  | ev :: evs, e => by simp [crun, crun_length evs]

theorem crun_dead (evs : List CEv) : ∀ e : CEntry, e.inMap = false →
    (crun e evs).1.inMap = false ∧ ∀ r ∈ (crun e evs).2, r ≠ .borrowed ∧ r ≠ .taken ∧ r ≠ .busy := by
  induction evs with
  | nil => exact fun e h => ⟨h, fun r hr => by cases hr⟩
  | cons ev evs ih =>
    intro e h
    have hs : (cstep e ev).1.inMap = false ∧ (cstep e ev).2 ≠ .borrowed ∧ (cstep e ev).2 ≠ .taken ∧ (cstep e ev).2 ≠ .busy := by
      cases ev <;> simp [cstep, h]
    obtain ⟨h1, h2⟩ := ih (cstep e ev).1 hs.1
    refine ⟨h1, fun r hr => ?_⟩
    rcases List.mem_cons.mp hr with rfl | hr
    · exact hs.2
    · exact h2 r hr

end Askar.Ffi.Lemmas
