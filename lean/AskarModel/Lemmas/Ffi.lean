/- Lemmas about Model/Ffi.lean for `Props/C19.lean`, in the order of the model: (a) registries and `remove_all`, (b) `get_row`,
   (c) the tag-set codec on decoded members, (c′) on the JSON text, (d) callbacks, then argument decoding and the lemma for
   the sites whose variant is selected by a flag. -/
import AskarModel.Model.Ffi

namespace Askar.Ffi.Lemmas
open Askar.Ffi
open Askar.Store (Err)
open Askar.Wql (Tag)
open Askar.Ffi.ResMap (removeAllLoop findFrom)

variable {V : Type}

/-! ### (a) registries -/

theorem get_eq_none_iff {β} (m : KMap β) (k : Nat) : m.get k = none ↔ k ∉ m.keys := by
  unfold KMap.get KMap.keys
  rw [Option.map_eq_none_iff, List.find?_eq_none, List.mem_map]
  simp only [beq_iff_eq, not_exists, not_and]

theorem borrow_unknown (m : ResMap V) (h : Nat) (hn : h ∉ m.keys) : m.borrow h = .error .input := by
  unfold ResMap.borrow; rw [(get_eq_none_iff _ _).mpr hn]

theorem remove_unknown (m : ResMap V) (h : Nat) (hn : h ∉ m.keys) : m.remove h = (none, m) := by
  unfold ResMap.remove; rw [(get_eq_none_iff _ _).mpr hn]

theorem keys_erase {β} (m : KMap β) (k x : Nat) : x ∈ (m.erase k).keys ↔ x ∈ m.keys ∧ x ≠ k := by
  unfold KMap.erase KMap.keys
  simp only [List.mem_map, List.mem_filter, bne_iff_ne, ne_eq]
  constructor
  · rintro ⟨e, ⟨he, hne⟩, rfl⟩; exact ⟨⟨e, he, rfl⟩, hne⟩
  · rintro ⟨⟨e, he, rfl⟩, hne⟩; exact ⟨e, ⟨he, hne⟩, rfl⟩

theorem keys_insert {β} (m : KMap β) (k x : Nat) (v : β) : x ∈ (KMap.insert k v m).keys ↔ x = k ∨ x ∈ m.keys := by
  induction m with
  | nil => simp [KMap.insert, KMap.keys]
  | cons e rest ih =>
    unfold KMap.keys at ih ⊢
    unfold KMap.insert
    split
    · exact List.mem_cons
    · split
      · rename_i h; subst h
        simp only [List.map_cons, List.mem_cons, ← or_assoc, or_self]
      · simp only [List.map_cons, List.mem_cons, ih]
        exact or_left_comm

theorem remove_snd (m : ResMap V) (h : Nat) : (m.remove h).2 = { m with map := m.map.erase h } := by
  unfold ResMap.remove
  split
  · rfl
  · rename_i hnone
    have : m.map.erase h = m.map :=
      List.filter_eq_self.mpr fun e he => bne_iff_ne.mpr fun hk =>
        (get_eq_none_iff m.map h).mp hnone (List.mem_map.mpr ⟨e, he, hk⟩)
    rw [this]

theorem remove_counter (m : ResMap V) (h : Nat) : (m.remove h).2.counter = m.counter := by
  rw [remove_snd]

theorem remove_keys (m : ResMap V) (h x : Nat) : x ∈ (m.remove h).2.keys → x ∈ m.keys ∧ x ≠ h := by
  rw [remove_snd]; exact (keys_erase _ _ _).mp

theorem removeAllLoop_keys (store : Nat) : ∀ (fuel pos : Nat) (m m' : KMap (Nat × V)),
    removeAllLoop store fuel pos m = some m' → ∀ x, x ∈ m'.keys → x ∈ m.keys := by
  intro fuel
  induction fuel with
  | zero =>
    intro pos m m' h x hx
    unfold removeAllLoop at h
    split at h
    · cases h; exact hx
    · simp at h
  | succ n ih =>
    intro pos m m' h x hx
    unfold removeAllLoop at h
    split at h
    · cases h; exact hx
    · exact ((keys_erase _ _ _).mp (ih _ _ _ h x hx)).1

theorem removeAll_counter (m : ResMap V) (s : Nat) : ((m.removeAll s).getD m).counter = m.counter := by
  unfold ResMap.removeAll
  cases removeAllLoop s m.map.length 0 m.map <;> rfl

theorem removeAll_keys (m : ResMap V) (s x : Nat) : x ∈ ((m.removeAll s).getD m).keys → x ∈ m.keys := by
  unfold ResMap.removeAll
  cases h : removeAllLoop s m.map.length 0 m.map with
  | none => simp
  | some mp => simp only [Option.map_some, Option.getD_some]; exact removeAllLoop_keys s _ _ _ _ h x

theorem insert_small (m : ResMap V) (s : Nat) (v : V) (h : m.counter + 1 < usizeMod) :
    m.insert s v = (m.counter + 1, { counter := m.counter + 1, map := KMap.insert (m.counter + 1) (s, v) m.map }) := by
  unfold ResMap.insert nextHandle; rw [Nat.mod_eq_of_lt h]

theorem runReg_issued : ∀ (ops : List (RegOp V)) (m : ResMap V), m.counter + ops.length < usizeMod →
    ∃ k, (runReg m ops).2 = List.range' (m.counter + 1) k ∧ (runReg m ops).1.counter = m.counter + k
      ∧ ∀ x ∈ (runReg m ops).1.keys, x ∈ m.keys ∨ x ∈ (runReg m ops).2 := by
  intro ops
  induction ops with
  | nil => intro m _; exact ⟨0, rfl, rfl, fun x hx => Or.inl hx⟩
  | cons op ops ih =>
    intro m hlt
    rw [List.length_cons] at hlt
    cases op with
    | insert s v =>
      have hm := insert_small m s v (by omega)
      obtain ⟨k, hi, hc, hx⟩ := ih (m.insert s v).2 (by rw [hm]; show m.counter + 1 + _ < _; omega)
      simp only [runReg]
      rw [hm] at hi hc hx ⊢
      refine ⟨k + 1, by rw [hi, List.range'_succ], by rw [hc]; show m.counter + 1 + k = _; omega, fun x hxm => ?_⟩
      rcases hx x hxm with hk | hk
      · rcases (keys_insert _ _ _ _).mp hk with rfl | hk
        · exact Or.inr List.mem_cons_self
        · exact Or.inl hk
      · exact Or.inr (List.mem_cons_of_mem _ hk)
    | borrow h => exact ih m (by omega)
    | remove h =>
      obtain ⟨k, hi, hc, hx⟩ := ih (m.remove h).2 (by rw [remove_counter]; omega)
      rw [remove_counter] at hi hc
      exact ⟨k, hi, hc, fun x hxm => (hx x hxm).imp_left fun hk => (remove_keys m h x hk).1⟩
    | removeAll s =>
      obtain ⟨k, hi, hc, hx⟩ := ih ((m.removeAll s).getD m) (by rw [removeAll_counter]; omega)
      rw [removeAll_counter] at hi hc
      exact ⟨k, hi, hc, fun x hxm => (hx x hxm).imp_left (removeAll_keys m s x)⟩

theorem sorted_split {β} (as bs : List (Nat × β)) (e : Nat × β)
    (hs : (KMap.keys (as ++ e :: bs)).Pairwise (· < ·)) :
    (∀ x ∈ as, x.1 < e.1) ∧ (∀ x ∈ bs, e.1 < x.1) ∧ (KMap.keys (as ++ bs)).Pairwise (· < ·) := by
  unfold KMap.keys at hs ⊢
  rw [List.map_append, List.map_cons, List.pairwise_append] at hs
  obtain ⟨h1, h2, h3⟩ := hs
  rw [List.pairwise_cons] at h2
  refine ⟨?_, ?_, ?_⟩
  · intro x hx; exact h3 x.1 (List.mem_map.mpr ⟨x, hx, rfl⟩) e.1 (by simp)
  · intro x hx; exact h2.1 x.1 (List.mem_map.mpr ⟨x, hx, rfl⟩)
  · rw [List.map_append, List.pairwise_append]
    refine ⟨h1, h2.2, ?_⟩
    intro a ha b hb
    exact h3 a ha b (List.mem_cons_of_mem _ hb)

theorem erase_split {β} (as bs : List (Nat × β)) (e : Nat × β)
    (ha : ∀ x ∈ as, x.1 < e.1) (hb : ∀ x ∈ bs, e.1 < x.1) :
    KMap.erase (as ++ e :: bs) e.1 = as ++ bs := by
  unfold KMap.erase
  rw [List.filter_append, List.filter_cons]
  have h1 : as.filter (fun x => x.1 != e.1) = as := by
    apply List.filter_eq_self.mpr; intro x hx; have := ha x hx; simp; omega
  have h2 : bs.filter (fun x => x.1 != e.1) = bs := by
    apply List.filter_eq_self.mpr; intro x hx; have := hb x hx; simp; omega
  simp [h1, h2]

theorem findFrom_none {s pos : Nat} {m : KMap (Nat × V)} (h : findFrom s pos m = none) :
    ∀ e ∈ m, e.2.1 = s → e.1 < pos := by
  intro e he hs
  have := List.find?_eq_none.mp (Option.map_eq_none_iff.mp h) e he
  simpa [hs] using this

theorem filter_of_findFrom_none {s pos : Nat} {m : KMap (Nat × V)} (h : findFrom s pos m = none)
    (hH : ∀ e ∈ m, e.2.1 = s → pos ≤ e.1) : m.filter (fun e => e.2.1 != s) = m :=
  List.filter_eq_self.mpr fun e he => by
    simpa using fun hes => absurd (findFrom_none h e he hes) (Nat.not_lt.mpr (hH e he hes))

theorem findFrom_some {s pos k : Nat} {m : KMap (Nat × V)} (h : findFrom s pos m = some k) :
    ∃ as e bs, m = as ++ e :: bs ∧ e.1 = k ∧ e.2.1 = s ∧ ∀ x ∈ as, x.2.1 = s → x.1 < pos := by
  obtain ⟨e, hfind, rfl⟩ := Option.map_eq_some_iff.mp h
  obtain ⟨hp, as, bs, hm, hfirst⟩ := List.find?_eq_some_iff_append.mp hfind
  simp only [Bool.and_eq_true, beq_iff_eq] at hp
  refine ⟨as, e, bs, hm, rfl, hp.2, fun x hx hxs => ?_⟩
  simpa [hxs] using hfirst x hx

/-- Invariant of the induction on the fuel: the keys are
    ascending, every entry of the store still in the map lies at or after `pos`, and the fuel is at least their number.  Each round
    erases the first of them and moves `pos` to its key, so the others stay at or after the new `pos`. -/
theorem removeAllLoop_eq_filter (s : Nat) : ∀ (fuel pos : Nat) (m : KMap (Nat × V)), m.keys.Pairwise (· < ·) →
    (∀ e ∈ m, e.2.1 = s → pos ≤ e.1) → (m.filter (fun e => e.2.1 == s)).length ≤ fuel →
    removeAllLoop s fuel pos m = some (m.filter (fun e => e.2.1 != s)) := by
  intro fuel
  induction fuel with
  | zero =>
    intro pos m _ hH hc
    unfold removeAllLoop
    cases hf : findFrom s pos m with
    | none =>
      exact congrArg some (filter_of_findFrom_none hf hH).symm
    | some k =>
      obtain ⟨as, e, bs, rfl, -, hes, -⟩ := findFrom_some hf
      have : e ∈ (as ++ e :: bs).filter (fun e => e.2.1 == s) :=
        List.mem_filter.mpr ⟨List.mem_append_right as List.mem_cons_self, beq_iff_eq.mpr hes⟩
      have := List.length_pos_of_mem this
      omega
  | succ n ih =>
    intro pos m hs hH hc
    unfold removeAllLoop
    cases hf : findFrom s pos m with
    | none =>
      exact congrArg some (filter_of_findFrom_none hf hH).symm
    | some k =>
      obtain ⟨as, e, bs, rfl, rfl, hes, hfirst⟩ := findFrom_some hf
      obtain ⟨ha, hb, hs'⟩ := sorted_split as bs e hs
      have hasn : ∀ x ∈ as, ¬ x.2.1 = s := fun x hx hxs =>
        absurd (hfirst x hx hxs) (Nat.not_lt.mpr (hH x (List.mem_append_left _ hx) hxs))
      simp only
      rw [erase_split as bs e ha hb, ih e.1 (as ++ bs) hs' ?_ ?_]
      · congr 1
        simp [List.filter_append, hes]
      · intro x hx hxs
        rcases List.mem_append.mp hx with hx | hx
        · exact absurd hxs (hasn x hx)
        · exact Nat.le_of_lt (hb x hx)
      · simp only [List.filter_append, List.filter_cons, hes, beq_self_eq_true, if_true,
          List.length_append, List.length_cons] at hc ⊢
        omega

/-! ### (b) get_row -/

theorem getRow_eq {α} (l : ResultList α) (idx : Int32) :
    l.getRow idx = if 0 ≤ idx.toInt then (match l.toList[idx.toInt.toNat]? with | some e => .ok e | none => .error .input)
      else .error .input := by
  have h0 : idx ≥ 0 ↔ 0 ≤ idx.toInt := by
    show (0 : Int32) ≤ idx ↔ _
    rw [Int32.le_iff_toInt_le]; simp
  unfold ResultList.getRow
  by_cases hge : idx ≥ 0
  · rw [if_pos hge, if_pos (h0.mp hge)]
    cases l with
    | rows r => rfl
    | single a =>
      by_cases hz : idx = 0
      · subst hz; rfl
      · have hi := h0.mp hge
        have : idx.toInt ≠ 0 := fun h => hz (Int32.toInt_inj.mp (by simpa using h))
        cases hn : idx.toInt.toNat with
        | zero => omega
        | succ n => exact if_neg hz
  · rw [if_neg hge, if_neg (mt h0.mpr hge)]

theorem getRow_err {α} (l : ResultList α) (idx : Int32) (x : Err) (h : l.getRow idx = .error x) : x = .input := by
  rw [getRow_eq] at h
  split at h
  · split at h
    · cases h
    · exact (Except.error.inj h).symm
  · exact (Except.error.inj h).symm

theorem getRow_ok_iff {α} (l : ResultList α) (idx : Int32) (e : α) :
    l.getRow idx = .ok e ↔ (0 ≤ idx.toInt ∧ l.toList[idx.toInt.toNat]? = some e) := by
  rw [getRow_eq]
  by_cases h : 0 ≤ idx.toInt
  · rw [if_pos h]
    cases l.toList[idx.toInt.toNat]? <;> simp [h]
  · rw [if_neg h]
    exact ⟨fun h' => (nomatch h'), fun h' => absurd h'.1 h⟩

/-! ### (c) tag-set codec, decoded-member level -/

def tagOf (k : TagKey) (v : String) : Tag := ⟨!k.enc, k.name, v⟩

def flat (G : List (TagKey × List String)) : List Tag := G.flatMap fun g => g.2.map (tagOf g.1)

/-- the key can be expressed in the JSON form: an encrypted name is non-empty and does not start with `~` -/
def KeyOK (k : TagKey) : Prop :=
  k.enc = true → match k.name.toList with | [] => False | c :: _ => c ≠ '~'

def keyOfTag (t : Tag) : TagKey := ⟨t.name, !t.plain⟩

theorem tagOf_keyOfTag (t : Tag) : tagOf (keyOfTag t) t.value = t := by
  cases t; simp [tagOf, keyOfTag]

theorem flat_cons (g : TagKey × List String) (G) : flat (g :: G) = g.2.map (tagOf g.1) ++ flat G := by
  simp [flat]

theorem groupPush_flat (k : TagKey) (v : String) : ∀ G, (flat (groupPush k v G)).Perm (flat G ++ [tagOf k v]) := by
  intro G
  induction G with
  | nil => simp [groupPush, flat]
  | cons g rest ih =>
    obtain ⟨k', vs⟩ := g
    unfold groupPush
    split
    · rename_i h; subst h
      simp only [flat_cons, List.map_append, List.map_cons, List.map_nil, List.append_assoc]
      exact List.Perm.append_left _ List.perm_append_comm
    · split
      · simp only [flat_cons, List.map_cons, List.map_nil]
        exact (List.perm_append_comm (l₁ := [tagOf k v]))
      · simp only [flat_cons, List.append_assoc]
        exact List.Perm.append_left _ ih

theorem groupPush_mem (k : TagKey) (v : String) : ∀ G g, g ∈ groupPush k v G →
    (g.1 = k ∧ g.2 ≠ []) ∨ g ∈ G := by
  intro G
  induction G with
  | nil => intro g hg; simp [groupPush] at hg; subst hg; simp
  | cons g0 rest ih =>
    obtain ⟨k', vs⟩ := g0
    intro g hg
    unfold groupPush at hg
    split at hg
    · rename_i h; subst h
      rcases List.mem_cons.mp hg with rfl | hg
      · left; simp
      · right; exact List.mem_cons_of_mem _ hg
    · split at hg
      · rcases List.mem_cons.mp hg with rfl | hg
        · left; simp
        · right; exact hg
      · rcases List.mem_cons.mp hg with rfl | hg
        · right; simp
        · rcases ih g hg with h | h
          · left; exact h
          · right; exact List.mem_cons_of_mem _ h

-- the groups built from the tags read so far: flattened they are a permutation of those tags, no group is empty, and every group
-- key is the key of one of them
structure GInv (G : List (TagKey × List String)) (tags : List Tag) : Prop where
  perm : (flat G).Perm tags
  nonempty : ∀ g ∈ G, g.2 ≠ []
  keys : ∀ g ∈ G, ∃ t ∈ tags, g.1 = keyOfTag t

theorem fold_inv : ∀ (rest done : List Tag) (G : List (TagKey × List String)), GInv G done →
    GInv (rest.foldl (fun m t => groupPush ⟨t.name, !t.plain⟩ t.value m) G) (done ++ rest) := by
  intro rest
  induction rest with
  | nil => intro done G h; simpa using h
  | cons t rest ih =>
    intro done G h
    simp only [List.foldl_cons]
    have : GInv (groupPush ⟨t.name, !t.plain⟩ t.value G) (done ++ [t]) := by
      refine ⟨?_, ?_, ?_⟩
      · refine (groupPush_flat _ _ G).trans ?_
        rw [show tagOf ⟨t.name, !t.plain⟩ t.value = t from tagOf_keyOfTag t]
        exact List.Perm.append_right _ h.perm
      · intro g hg
        rcases groupPush_mem _ _ G g hg with h1 | h1
        · exact h1.2
        · exact h.nonempty g h1
      · intro g hg
        rcases groupPush_mem _ _ G g hg with h1 | h1
        · exact ⟨t, by simp, h1.1⟩
        · obtain ⟨t', ht', hk⟩ := h.keys g h1
          exact ⟨t', by simp [ht'], hk⟩
    have := ih (done ++ [t]) _ this
    simpa using this

theorem groupTags_inv (tags : List Tag) : GInv (groupTags tags) tags := by
  have := fold_inv tags [] [] ⟨by simp [flat], by simp, by simp⟩
  simpa [groupTags] using this

theorem splitKey_render (k : TagKey) (hk : KeyOK k) : splitKey k.render = .ok (k.name, !k.enc) := by
  unfold TagKey.render splitKey
  cases he : k.enc with
  | false =>
    have : ("~" ++ k.name).toList = '~' :: k.name.toList := by simp [String.toList_append]
    simp [this, String.ofList_toList]
  | true =>
    have h := hk he
    simp only [if_true]
    cases hn : k.name.toList with
    | nil => rw [hn] at h; exact absurd h id
    | cons c rest =>
      rw [hn] at h
      simp only at h
      split
      · rename_i r heq; injection heq with h1 _; exact absurd h1.symm (by simpa using fun h' => h h'.symm)
      · rename_i heq; cases heq
      · simp

theorem memberOf_spec (k : TagKey) (vs : List String) (hne : vs ≠ []) :
    ∃ val, memberOf k vs = some (k.render, val) ∧ ∀ name plain, tagsOfMember name plain val = vs.map fun v => ⟨plain, name, v⟩ := by
  unfold memberOf
  split
  · exact ⟨.multiple vs, rfl, fun _ _ => rfl⟩
  · rename_i hlen
    cases vs with
    | nil => exact absurd rfl hne
    | cons v rest =>
      cases rest with
      | nil => exact ⟨.single v, rfl, fun _ _ => rfl⟩
      | cons w r => simp at hlen

theorem serialize_visit (b : Bool) : ∀ G : List (TagKey × List String), (∀ g ∈ G, g.2 ≠ [] ∧ KeyOK g.1) →
    ∃ obj, G.mapM (fun (g : TagKey × List String) => memberOf g.1 g.2) = some obj ∧
      visitMap b (obj.map fun (m : String × TagVal) => (⟨m.1, false⟩, m.2)) = .ok (flat G) ∧
      obj.map (·.1) = G.map (·.1.render) := by
  intro G
  induction G with
  | nil => intro _; exact ⟨[], by simp, by simp [visitMap, flat], rfl⟩
  | cons g rest ih =>
    intro h
    obtain ⟨obj, ho, hv, hk⟩ := ih (fun g' hg' => h g' (List.mem_cons_of_mem _ hg'))
    obtain ⟨hne, hok⟩ := h g (by simp)
    obtain ⟨val, hm, ht⟩ := memberOf_spec g.1 g.2 hne
    refine ⟨(g.1.render, val) :: obj, ?_, ?_, ?_⟩
    · simp [List.mapM_cons, hm, ho]
    · simp only [List.map_cons, visitMap, Bool.and_false, Bool.false_eq_true, if_false, splitKey_render g.1 hok, hv, ht]
      rw [flat_cons]
      rfl
    · rw [List.map_cons, List.map_cons, hk]

theorem member_roundtrip (b : Bool) (tags : List Tag)
    (hdom : ∀ t ∈ tags, t.plain = false → match t.name.toList with | [] => False | c :: _ => c ≠ '~') :
    ∃ obj, serializeSet tags = some obj ∧
      visitMap b (obj.map fun m => (⟨m.1, false⟩, m.2)) = .ok (flat (groupTags tags)) ∧
      obj.map (·.1) = (groupTags tags).map (·.1.render) := by
  have inv := groupTags_inv tags
  apply serialize_visit
  intro g hg
  refine ⟨inv.nonempty g hg, ?_⟩
  obtain ⟨t, ht, hk⟩ := inv.keys g hg
  intro henc
  rw [hk] at henc ⊢
  exact hdom t ht (by simpa [keyOfTag] using henc)

/-! ### (c') tag-set codec, JSON text level: reader ∘ writer -/

theorem hexDigitVal_hexDigit : ∀ k, k < 16 → hexDigitVal (Bytes.hexDigit k) = some k := by decide

theorem hex4_ctrl (n : Nat) (h : n < 256) :
    hex4 '0' '0' (Bytes.hexDigit (n / 16)) (Bytes.hexDigit (n % 16)) = some n := by
  have h0 : hexDigitVal '0' = some 0 := by decide
  unfold hex4
  rw [h0, hexDigitVal_hexDigit (n / 16) (by omega), hexDigitVal_hexDigit (n % 16) (by omega)]
  simp only [Option.some.injEq]
  omega

theorem renderChar_of_not_short (c : Char) (hs : c.toNat ∉ [8, 9, 10, 12, 13, 34, 92]) :
    renderChar c = if c.toNat < 0x20
      then ['\\', 'u', '0', '0', Bytes.hexDigit (c.toNat / 16), Bytes.hexDigit (c.toNat % 16)] else [c] := by
  simp only [List.mem_cons, List.not_mem_nil, or_false, not_or] at hs
  obtain ⟨h8, h9, h10, h12, h13, h34, h92⟩ := hs
  have hc : ∀ (d : Char) (n : Nat), d.toNat = n → c.toNat ≠ n → c ≠ d := fun d n hd hn e => hn (e ▸ hd)
  unfold renderChar
  rw [if_neg (hc '"' 34 rfl h34), if_neg (hc '\\' 92 rfl h92), if_neg (hc '\n' 10 rfl h10),
    if_neg (hc '\r' 13 rfl h13), if_neg (hc '\t' 9 rfl h9), if_neg h8, if_neg h12]

theorem parse_renderChar (c : Char) (rest acc : List Char) (esc : Bool) :
    parseStrBody (renderChar c ++ rest) acc esc = parseStrBody rest (c :: acc) (esc || needsEscape c) := by
  by_cases hs : c.toNat ∈ [8, 9, 10, 12, 13, 34, 92]
  · have : c ∈ [8, 9, 10, 12, 13, 34, 92].map Char.ofNat := by
      rw [← c.ofNat_toNat]; exact List.mem_map_of_mem hs
    simp only [List.map_cons, List.map_nil, List.mem_cons, List.not_mem_nil, or_false] at this
    rcases this with rfl | rfl | rfl | rfl | rfl | rfl | rfl <;> cases esc <;> rfl
  · rw [renderChar_of_not_short c hs]
    simp only [List.mem_cons, List.not_mem_nil, or_false, not_or] at hs
    have hq : c ≠ '"' := fun e => hs.2.2.2.2.2.1 (e ▸ rfl)
    have hb : c ≠ '\\' := fun e => hs.2.2.2.2.2.2 (e ▸ rfl)
    by_cases h : c.toNat < 0x20
    · rw [if_pos h, show needsEscape c = true by simp [needsEscape, h], Bool.or_true]
      -- `eq_3` is the `\u` arm of `parseStrBody`
      show parseStrBody ('\\' :: 'u' :: '0' :: '0' :: _ :: _ :: rest) acc esc = _
      rw [parseStrBody.eq_3, hex4_ctrl c.toNat (by omega)]
      exact ((if_neg (by omega)).trans (if_neg (by omega))).trans (by rw [Char.ofNat_toNat])
    · -- `eq_14` is the last arm (a plain character); its side conditions say that `c` is not the quote and that none of the
      -- three backslash arms applies
      rw [if_neg h, show needsEscape c = false by simp [needsEscape, h, hq, hb], Bool.or_false, List.singleton_append,
        parseStrBody.eq_14 _ _ _ _ (fun e => hq e) (fun _ _ _ _ _ e _ => hb e) (fun _ _ e _ => hb e) (fun e _ => hb e),
        if_neg h]

theorem parse_body : ∀ (s rest acc : List Char) (esc : Bool),
    parseStrBody (s.flatMap renderChar ++ '"' :: rest) acc esc
      = some (acc.reverse ++ s, esc || s.any needsEscape, rest) := by
  intro s
  induction s with
  | nil => intro rest acc esc; simp [parseStrBody.eq_2]
  | cons c s ih =>
    intro rest acc esc
    rw [List.flatMap_cons, List.append_assoc, parse_renderChar, ih]
    simp [Bool.or_assoc]

theorem renderStr_append (s rest : List Char) :
    renderStr s ++ rest = '"' :: (s.flatMap renderChar ++ '"' :: rest) := by simp [renderStr]

theorem parse_renderStr (s rest : List Char) :
    parseStrBody (s.flatMap renderChar ++ '"' :: rest) [] false = some (s, s.any needsEscape, rest) := by
  rw [parse_body]; simp

theorem skipWs_quote (r : List Char) : skipWs ('"' :: r) = '"' :: r := rfl
theorem skipWs_comma (r : List Char) : skipWs (',' :: r) = ',' :: r := rfl
theorem skipWs_colon (r : List Char) : skipWs (':' :: r) = ':' :: r := rfl
theorem skipWs_rbracket (r : List Char) : skipWs (']' :: r) = ']' :: r := rfl
theorem skipWs_lbracket (r : List Char) : skipWs ('[' :: r) = '[' :: r := rfl
theorem skipWs_rbrace (r : List Char) : skipWs ('}' :: r) = '}' :: r := rfl
theorem skipWs_lbrace (r : List Char) : skipWs ('{' :: r) = '{' :: r := rfl

theorem renderStrs_cons2 (v w : String) (r : List String) :
    renderStrs (v :: w :: r) = renderStr v.toList ++ ',' :: renderStrs (w :: r) := rfl

theorem renderStrs_length : ∀ vs : List String, vs.length ≤ (renderStrs vs).length := by
  intro vs
  induction vs with
  | nil => simp
  | cons v vs ih =>
    cases vs with
    | nil => simp [renderStrs, renderStr]
    | cons w r =>
      rw [renderStrs_cons2]
      simp only [List.length_append, List.length_cons] at ih ⊢
      omega

theorem parse_strs : ∀ (vs : List String) (fuel : Nat) (first : Bool) (rest : List Char) (acc : List String),
    vs ≠ [] → vs.length ≤ fuel →
    parseStrArray fuel first (renderStrs vs ++ ']' :: rest) acc = some (acc.reverse ++ vs, rest) := by
  intro vs
  induction vs with
  | nil => intro _ _ _ _ h; exact absurd rfl h
  | cons v vs ih =>
    intro fuel first rest acc _ hf
    cases fuel with
    | zero => simp at hf
    | succ f =>
      cases vs with
      | nil =>
        simp only [renderStrs, renderStr_append]
        unfold parseStrArray
        simp only [skipWs_quote, parse_renderStr, skipWs_rbracket, String.ofList_toList]
        simp
      | cons w r =>
        rw [renderStrs_cons2, List.append_assoc, renderStr_append]
        unfold parseStrArray
        simp only [skipWs_quote, parse_renderStr, List.cons_append, skipWs_comma, String.ofList_toList]
        rw [ih f false rest (v :: acc) (by simp) (by simpa using hf)]
        simp

theorem parse_val (v : TagVal) (fuel : Nat) (rest : List Char) (hf : (renderVal v).length ≤ fuel) :
    parseTagVal fuel (renderVal v ++ rest) = some (v, rest) := by
  cases v with
  | single s =>
    simp only [renderVal, renderStr_append]
    unfold parseTagVal
    simp only [skipWs_quote, parse_renderStr, String.ofList_toList]
  | multiple vs =>
    have hl := renderStrs_length vs
    simp only [renderVal, List.length_cons, List.length_append] at hf
    simp only [renderVal, List.cons_append, List.append_assoc, List.nil_append]
    unfold parseTagVal
    simp only [skipWs_lbracket]
    cases vs with
    | nil =>
      cases fuel with
      | zero => simp at hf
      | succ f => simp [renderStrs, parseStrArray, skipWs_rbracket]
    | cons v r =>
      rw [parse_strs (v :: r) fuel true rest [] (by simp) (by omega)]
      simp

/-- a member as the reader delivers it -/
def tokOf (m : String × TagVal) : KeyTok × TagVal := (⟨m.1, m.1.toList.any needsEscape⟩, m.2)

theorem renderMembers_cons2 (m m' : String × TagVal) (r : TagObj) :
    renderMembers (m :: m' :: r) = renderStr m.1.toList ++ ':' :: renderVal m.2 ++ ',' :: renderMembers (m' :: r) := rfl

theorem renderMembers_one (m : String × TagVal) :
    renderMembers [m] = renderStr m.1.toList ++ ':' :: renderVal m.2 := rfl

theorem parse_member (m : String × TagVal) (f : Nat) (first : Bool) (rest : List Char) (acc : List (KeyTok × TagVal))
    (hf : (renderVal m.2).length ≤ f + 1) :
    parseMembers (f + 1) first (renderStr m.1.toList ++ ':' :: renderVal m.2 ++ rest) acc =
      match skipWs rest with
      | ',' :: rest => parseMembers f false rest (tokOf m :: acc)
      | '}' :: rest => some ((tokOf m :: acc).reverse, rest)
      | _ => none := by
  rw [List.append_assoc, renderStr_append, parseMembers]
  simp only [skipWs_quote, parse_renderStr, List.cons_append, skipWs_colon, String.ofList_toList]
  rw [parse_val m.2 (f + 1) rest hf]
  rfl

theorem parse_members : ∀ (ms : TagObj) (fuel : Nat) (first : Bool) (rest : List Char) (acc : List (KeyTok × TagVal)),
    ms ≠ [] → (renderMembers ms).length ≤ fuel →
    parseMembers fuel first (renderMembers ms ++ '}' :: rest) acc = some (acc.reverse ++ ms.map tokOf, rest) := by
  intro ms
  induction ms with
  | nil => intro _ _ _ _ h; exact absurd rfl h
  | cons m ms ih =>
    intro fuel first rest acc _ hf
    cases ms with
    | nil =>
      rw [renderMembers_one] at hf ⊢
      simp only [List.length_append, List.length_cons] at hf
      cases fuel with
      | zero => omega
      | succ f =>
        rw [parse_member m f first _ acc (by omega), skipWs_rbrace]
        simp
    | cons m' r =>
      rw [renderMembers_cons2] at hf ⊢
      simp only [List.length_append, List.length_cons] at hf
      cases fuel with
      | zero => omega
      | succ f =>
        rw [List.append_assoc, parse_member m f first _ acc (by omega), List.cons_append, skipWs_comma]
        simp only
        rw [ih f false rest _ (List.cons_ne_nil _ _) (by omega)]
        simp

theorem read_render (o : TagObj) : readTagObj (renderObj o) = some (o.map tokOf) := by
  unfold readTagObj renderObj
  simp only [List.cons_append, skipWs_lbrace]
  cases o with
  | nil => simp [renderMembers, parseMembers, skipWs_rbrace, skipWs]
  | cons m r =>
    rw [parse_members (m :: r) _ true [] [] (by simp) (by simp only [List.length_append, List.length_cons]; omega)]
    simp [skipWs]

theorem visitMap_tok (b : Bool) : ∀ obj : TagObj,
    (b = true → ∀ m ∈ obj, m.1.toList.any needsEscape = false) →
    visitMap b (obj.map tokOf) = visitMap b (obj.map fun m => (⟨m.1, false⟩, m.2)) := by
  intro obj
  induction obj with
  | nil => intro _; rfl
  | cons m r ih =>
    intro h
    have ih' := ih (fun hb x hx => h hb x (List.mem_cons_of_mem _ hx))
    cases b with
    | false => simp only [List.map_cons, visitMap, tokOf, Bool.false_and, ih']
    | true =>
      have hm := h rfl m (by simp)
      simp only [List.map_cons, visitMap, tokOf, hm, Bool.and_false, ih']

theorem render_plain (k : TagKey) (h : k.name.toList.all (fun c => !needsEscape c) = true) :
    k.render.toList.any needsEscape = false := by
  have h' : k.name.toList.any needsEscape = false := by
    rw [List.any_eq_false]
    intro c hc
    have := List.all_eq_true.mp h c hc
    simpa using this
  unfold TagKey.render
  split
  · exact h'
  · have : ("~" ++ k.name).toList = '~' :: k.name.toList := by simp [String.toList_append]
    rw [this, List.any_cons, h']
    decide

/-- `decodeTags` on a text given by its characters.  A string literal unifies with `String.ofList _`, so rewriting with this
    hands the reader the characters of a literal without running `String.toList`, whose UTF-8 decoding of a literal takes the
    kernel time quadratic in the length. -/
theorem decodeTags_ofList (b : Bool) (cs : List Char) :
    decodeTags b (String.ofList cs) = match readTagObj cs with
      | none => .error .input
      | some ms =>
        match visitMap b ms with
        | .ok ts => .ok ts
        | .error _ => .error .input := by
  rw [decodeTags, String.toList_ofList]
  rfl

/-- writer then reader at the level of the JSON text: for every non-empty tag list of the domain.
    With borrowed keys (`b = true`) the names must be spelled without escapes. -/
theorem text_roundtrip (b : Bool) (tags : List Tag) (hne : tags ≠ [])
    (hdom : ∀ t ∈ tags, t.plain = false → match t.name.toList with | [] => False | c :: _ => c ≠ '~')
    (hplain : b = true → ∀ t ∈ tags, t.name.toList.all (fun c => !needsEscape c) = true) :
    ∃ text, encodeTags tags = some (some text) ∧ ∃ out, decodeTags b text = .ok out ∧ out.Perm tags := by
  have inv := groupTags_inv tags
  obtain ⟨obj, hser, hv, hkeys⟩ := member_roundtrip b tags hdom
  refine ⟨String.ofList (renderObj obj), ?_, flat (groupTags tags), ?_, inv.perm⟩
  · unfold encodeTags
    have : tags.isEmpty = false := by cases tags with | nil => exact absurd rfl hne | cons _ _ => rfl
    simp [this, hser]
  · rw [decodeTags_ofList, read_render]
    simp only
    rw [visitMap_tok b obj ?_, hv]
    intro hb m hm
    have hmk : m.1 ∈ (groupTags tags).map (·.1.render) := hkeys ▸ List.mem_map_of_mem hm
    obtain ⟨g, hg, he⟩ := List.mem_map.mp hmk
    obtain ⟨t, ht, hk⟩ := inv.keys g hg
    rw [← he]
    apply render_plain
    rw [hk]
    exact hplain hb t ht

/-! ### (d) callbacks -/

theorem drop_resolved {ρ} : (EnsureCb.drop (ρ := ρ) { resolved := true }) = [] := rfl

/-- a task that completes fires its own result, and the drop of the resolved guard fires nothing more … -/
theorem taskFires_completed {ρ} (r : Except Err ρ) : taskFires ({} : EnsureCb) (.completed r) = [⟨r⟩] := rfl

/-- … every other fate drops the unresolved guard, which fires `Unexpected` -/
theorem taskFires_dropped {ρ} (fate : TaskFate ρ) (h : ∀ r, fate ≠ .completed r) :
    taskFires ({} : EnsureCb) fate = [⟨.error .unexpected⟩] := by
  cases fate with
  | completed r => exact absurd rfl (h r)
  | notSpawned => rfl
  | cancelled => rfl
  | panicked => rfl

theorem taskFires_length {ρ} (fate : TaskFate ρ) : (taskFires ({} : EnsureCb) fate).length = 1 := by
  cases fate <;> rfl

theorem ofErr_ne_success (e : Err) : Code.ofErr e ≠ .success := by cases e <;> simp [Code.ofErr]

theorem callback_exactly_once {ρ} (mode : CbMode) (cbGiven : Bool) (early : Option Code) (decode : Except Err Unit)
    (fate : TaskFate ρ) (hearly : early ≠ some .success) :
    ((runEntry mode cbGiven early decode fate).1 = .success →
        (runEntry mode cbGiven early decode fate).2.length = if cbGiven then 1 else 0)
    ∧ ((runEntry mode cbGiven early decode fate).1 ≠ .success → (runEntry mode cbGiven early decode fate).2 = []) := by
  unfold runEntry
  cases early with
  | some c => simp; intro h; subst h; exact absurd rfl hearly
  | none =>
    simp only
    split
    · simp
    · cases decode with
      | error e => simp [ofErr_ne_success]
      | ok u =>
        cases cbGiven
        · simp
        · simp [taskFires_length]

theorem decodeOperation_err {op : Int} {x : Err} (h : decodeOperation op = .error x) : x = .input := by
  unfold decodeOperation at h
  split at h
  · cases h
  · split at h
    · cases h
    · split at h
      · cases h
      · exact (Except.error.inj h).symm

theorem required_null : required .null = .error .input := rfl

/-- a statement about the variant selected by a flag read from the source holds or fails with the flag,
    once it is proved for one value and refuted for the other -/
theorem status_of_flag (flag v : Bool) (P : Bool → Prop) (hv : P v) (hn : ¬ P (!v)) :
    (flag = v ∧ P flag) ∨ (flag = (!v) ∧ ¬ P flag) := by
  cases flag <;> cases v <;> simp_all

end Askar.Ffi.Lemmas
