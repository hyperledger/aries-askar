/- Lemmas for C06S (store-level calls under statement faults and process kill). -/
import AskarModel.Model.StoreFault

namespace Askar.StoreFault.Lemmas
open Askar.StoreFault

theorem runTxn_miss (k : Nat) : ∀ (ss : List Stmt) (base : Nat) (st : St), k < base ∨ base + ss.length ≤ k →
    runTxn (some k) base ss st = runTxn none base ss st := by
  intro ss
  induction ss with
  | nil => intro base st _; rfl
  | cons s rest ih =>
    intro base st hk
    simp only [List.length_cons] at hk
    have hne : ¬ (some k = some base) := by
      intro e; injection e with e; omega
    simp only [runTxn, hne, if_false, reduceCtorEq]
    cases s.run st with
    | error e => rfl
    | ok st' => exact ih (base + 1) st' (by omega)

theorem runTxn_hit (k : Nat) : ∀ (ss : List Stmt) (base : Nat) (st : St), base ≤ k → k < base + ss.length →
    ∃ e, runTxn (some k) base ss st = .error e := by
  intro ss
  induction ss with
  | nil => intro base st h1 h2; simp only [List.length_nil] at h2; omega
  | cons s rest ih =>
    intro base st h1 h2
    simp only [List.length_cons] at h2
    by_cases hk : k = base
    · exact ⟨.backend, by simp [runTxn, hk]⟩
    · have hne : ¬ (some k = some base) := by
        intro e; injection e with e; exact hk e
      simp only [runTxn, hne, if_false]
      cases s.run st with
      | error e => exact ⟨e, rfl⟩
      | ok st' => exact ih (base + 1) st' (by omega) (by omega)

theorem runTxn_append (f : Option Nat) (a b : List Stmt) : ∀ (base : Nat) (st : St),
    runTxn f base (a ++ b) st =
      match runTxn f base a st with
      | .error e => .error e
      | .ok st' => runTxn f (base + a.length) b st' := by
  induction a with
  | nil => intro base st; simp [runTxn]
  | cons s rest ih =>
    intro base st
    simp only [List.cons_append, runTxn]
    by_cases hf : f = some base
    · simp [hf]
    · simp only [hf, if_false]
      cases hs : s.run st with
      | error e => simp
      | ok st' =>
        simp only [ih (base + 1) st', List.length_cons]
        have : base + 1 + rest.length = base + (rest.length + 1) := by omega
        rw [this]

theorem runTxn_invariant (Q : St → Prop) (f : Option Nat) (ss : List Stmt)
    (hss : ∀ s ∈ ss, ∀ x y, s.run x = .ok y → Q x → Q y) :
    ∀ (base : Nat) (st st' : St), runTxn f base ss st = .ok st' → Q st → Q st' := by
  induction ss with
  | nil => intro base st st' h; simp only [runTxn, Except.ok.injEq] at h; subst h; exact id
  | cons s rest ih =>
    intro base st st' h hq
    simp only [runTxn] at h
    split at h
    · cases h
    · cases hs : s.run st with
      | error e => simp [hs] at h
      | ok st1 =>
        simp only [hs] at h
        exact ih (fun s' hs' => hss s' (List.mem_cons_of_mem _ hs')) (base + 1) st1 st' h
          (hss s List.mem_cons_self _ _ hs hq)

theorem runCall_late (k : Nat) (h : Handle) (c : Call) (st : St) (hk : (stmts h c st).length ≤ k) :
    runCall (some k) h c st = runCall none h c st := by
  simp only [runCall, runTxn_miss k (stmts h c st) 0 st (by omega)]

theorem runCall_all_or_nothing (k : Nat) (h : Handle) (c : Call) (st : St) :
    (∃ e, runCall (some k) h c st = (st, h, .err e)) ∨
    ((stmts h c st).length ≤ k ∧ runCall (some k) h c st = runCall none h c st) := by
  by_cases hk : k < (stmts h c st).length
  · obtain ⟨e, he⟩ := runTxn_hit k (stmts h c st) 0 st (Nat.zero_le _) (by omega)
    exact Or.inl ⟨e, by simp only [runCall, he]⟩
  · exact Or.inr ⟨by omega, runCall_late k h c st (by omega)⟩

theorem insertProfile_noop (n : String) (w : KeyId) (st : St) (hn : st.has n = true) :
    (insertProfile n w).run st = .ok st := by
  simp [insertProfile, hn]

theorem runCall_err_unchanged (f : Option Nat) (h : Handle) (c : Call) (st : St)
    (herr : (runCall f h c st).2.2.isErr = true) :
    (runCall f h c st).1 = st ∧ (runCall f h c st).2.1 = h := by
  unfold runCall at herr ⊢
  cases hr : runTxn f 0 (stmts h c st) st with
  | error e => exact ⟨rfl, rfl⟩
  | ok st' =>
    simp only [hr] at herr ⊢
    -- a committed call reports an error only as `create_profile` of an existing name, whose INSERT OR IGNORE wrote nothing
    cases c with
    | createProfile n =>
      have hn : st.has n = true := by
        cases hn : st.has n with
        | true => rfl
        | false => simp [success, hn, Out.isErr] at herr
      simp only [stmts, runTxn, insertProfile_noop n h.cacheKey st hn] at hr
      split at hr
      · cases hr
      · cases hr; exact ⟨rfl, rfl⟩
    | _ => simp [success, Out.isErr] at herr

theorem failed_call_then_usable (f : Option Nat) (h : Handle) (c : Call) (st : St) (rest : List (Call × Option Nat))
    (herr : (runCall f h c st).2.2.isErr = true) :
    runSeq h st ((c, f) :: rest) =
      ((runSeq h st rest).1, (runSeq h st rest).2.1, (runCall f h c st).2.2 :: (runSeq h st rest).2.2) := by
  obtain ⟨h1, h2⟩ := runCall_err_unchanged f h c st herr
  simp only [runSeq]
  rw [h1, h2]

theorem createProfile_out (h : Handle) (to : String) (st : St) :
    (runCall none h (.createProfile to) st).2.2 = .name to ∨ (runCall none h (.createProfile to) st).2.2 = .err .duplicate := by
  simp only [runCall, stmts, runTxn, insertProfile]
  by_cases hn : st.has to = true <;> simp [hn, success]

theorem createProfile_state (h : Handle) (to : String) (st : St) :
    (runCall none h (.createProfile to) st).1 = st ∨
    (runCall none h (.createProfile to) st).1 = { st with profiles := st.profiles ++ [⟨to, h.cacheKey, []⟩] } := by
  simp only [runCall, stmts, runTxn, insertProfile]
  by_cases hn : st.has to = true <;> simp [hn]

theorem createProfile_fault0 (h : Handle) (to : String) (st : St) :
    runCall (some 0) h (.createProfile to) st = (st, h, .err .backend) := by
  simp [runCall, stmts, runTxn]

/-! ### copy_profile -/

theorem runCopy_eq (f : Option Nat) (hf : f ≠ some 0) (h : Handle) (to : String) (recs : List Rec) (st : St) :
    runCopy f h to recs st =
      ((runCall (shift f) h (.importRecs to recs true) (runCall none h (.createProfile to) st).1).1,
       (runCall (shift f) h (.importRecs to recs true) (runCall none h (.createProfile to) st).1).2.2) := by
  have ho := createProfile_out h to st
  unfold runCopy
  rw [if_neg hf]
  generalize runCall none h (.createProfile to) st = x at ho ⊢
  obtain ⟨st1, h1, o⟩ := x
  rcases ho with rfl | rfl
  · rfl
  · simp

/-- a copy under a fault, with the second failed state left as "after the complete create_profile"; `Askar.StoreFault.copy_import_all_or_nothing`
    (Props/C06S) spells that state out through `createProfile_state` -/
theorem copy_import_all_or_nothing (fault : Option Nat) (h : Handle) (to : String) (recs : List Rec) (st : St) :
    (∃ e, (runCopy fault h to recs st).2 = .err e ∧
        ((runCopy fault h to recs st).1 = st ∨ (runCopy fault h to recs st).1 = (runCall none h (.createProfile to) st).1)) ∨
    runCopy fault h to recs st = runCopy none h to recs st := by
  cases fault with
  | none => exact Or.inr rfl
  | some k =>
    cases k with
    | zero => exact Or.inl ⟨.backend, by simp [runCopy, createProfile_fault0]⟩
    | succ k =>
      rw [runCopy_eq (some (k + 1)) (by simp), runCopy_eq none (by simp)]
      simp only [shift]
      rcases runCall_all_or_nothing k h (.importRecs to recs true) (runCall none h (.createProfile to) st).1 with ⟨e, he⟩ | ⟨_, he⟩
      · rw [he]; exact Or.inl ⟨e, rfl, Or.inr rfl⟩
      · rw [he]; exact Or.inr rfl

/-! ### re-key -/

/-- the database after a complete re-key -/
def rekeyed (new : KeyId) (st : St) : St :=
  { st with profiles := st.profiles.map (fun p => { p with wrap := new }), storeKey := new }

def rewrap (new : KeyId) (names : List String) (p : Profile) : Profile :=
  if names.contains p.name then { p with wrap := new } else p

theorem has_mapProfile (st : St) (n m : String) (f : Profile → Profile) (hf : ∀ p, (f p).name = p.name) :
    (st.mapProfile n f).has m = st.has m := by
  simp only [St.has, St.mapProfile, List.any_map]
  congr 1
  funext p
  simp only [Function.comp]
  by_cases hp : (p.name == n) = true <;> simp [hp, hf]

theorem updateProfileKey_run (n : String) (new : KeyId) (st : St) (hn : st.has n = true) :
    (updateProfileKey n new).run st = .ok (st.mapProfile n fun p => { p with wrap := new }) := by
  simp only [updateProfileKey, hn, if_true]

/-- `base` is arbitrary: without a fault the statement numbers are never looked at. -/
theorem runTxn_updates (new : KeyId) : ∀ (names : List String) (base : Nat) (st : St), (∀ n ∈ names, st.has n = true) →
    runTxn none base (names.map fun n => updateProfileKey n new) st =
      .ok { st with profiles := st.profiles.map (rewrap new names) } := by
  intro names
  induction names with
  | nil =>
    intro base st _
    have : (fun p => rewrap new [] p) = id := by funext p; simp [rewrap]
    simp [runTxn, this]
  | cons n ns ih =>
    intro base st hall
    have hrest : ∀ m ∈ ns, (st.mapProfile n fun p => { p with wrap := new }).has m = true := by
      intro m hm
      rw [has_mapProfile st n m (fun p => { p with wrap := new }) (fun _ => rfl)]
      exact hall m (List.mem_cons_of_mem _ hm)
    simp only [List.map_cons, runTxn, updateProfileKey_run n new st (hall n List.mem_cons_self), reduceCtorEq, if_false,
      ih (base + 1) _ hrest]
    simp only [St.mapProfile, List.map_map]
    congr 3
    funext p
    simp only [Function.comp, rewrap]
    by_cases hp : (p.name == n) = true
    · have hpn : p.name = n := by simpa using hp
      simp [hpn]
    · have hpn : ¬ p.name = n := by simpa using hp
      simp [hp, hpn]

theorem rewrap_all (new : KeyId) (ps : List Profile) :
    ps.map (rewrap new (ps.map (·.name))) = ps.map fun p => { p with wrap := new } := by
  apply List.map_congr_left
  intro p hp
  have : (ps.map (·.name)).contains p.name = true := by
    simp only [List.contains_iff_mem]
    exact List.mem_map_of_mem hp
  simp only [rewrap, this, ↓reduceIte]

/-- the transaction can fail only at its first statement (some profile key does not load with the handle's key): its
    UPDATEs name the profiles it has just read -/
theorem rekey_txn (h : Handle) (new : KeyId) (st : St) :
    runTxn none 0 (stmts h (.rekey new) st) st =
      if st.profiles.all (·.wrap == h.cacheKey) then .ok (rekeyed new st) else .error .encryption := by
  have hpresent : ∀ n ∈ st.profiles.map (·.name), st.has n = true := by
    intro n hn
    obtain ⟨p, hp, rfl⟩ := List.mem_map.mp hn
    exact List.any_eq_true.mpr ⟨p, hp, by simp⟩
  -- the UPDATEs are numbered from 1: statement 0 is `loadKeys`
  have hup := runTxn_updates new (st.profiles.map (·.name)) 1 st hpresent
  rw [List.map_map, rewrap_all] at hup
  simp only [Function.comp_def] at hup
  simp only [stmts, List.cons_append, runTxn, loadKeys, reduceCtorEq, if_false, Nat.zero_add]
  by_cases hl : (st.profiles.all fun p => p.wrap == h.cacheKey) = true
  · simp only [hl, if_true, runTxn_append, hup, runTxn, setConfigKey, reduceCtorEq, if_false, rekeyed]
  · simp only [hl, Bool.false_eq_true, if_false]

theorem runCall_rekey_ok (h : Handle) (new : KeyId) (st : St) (hload : ∀ p ∈ st.profiles, p.wrap = h.cacheKey) :
    runCall none h (.rekey new) st = (rekeyed new st, ⟨new⟩, .ok) := by
  have hall : (st.profiles.all fun p => p.wrap == h.cacheKey) = true := by
    rw [List.all_eq_true]; intro p hp; simp [hload p hp]
  simp only [runCall, rekey_txn, hall, if_true]
  rfl

theorem runCall_rekey_unloadable (h : Handle) (new : KeyId) (st : St) (hex : ∃ p ∈ st.profiles, p.wrap ≠ h.cacheKey) :
    runCall none h (.rekey new) st = (st, h, .err .encryption) := by
  have hall : (st.profiles.all fun p => p.wrap == h.cacheKey) = false := by
    rw [List.all_eq_false]
    obtain ⟨p, hp, hne⟩ := hex
    exact ⟨p, hp, by simpa using hne⟩
  simp only [runCall, rekey_txn, hall, Bool.false_eq_true, if_false]

theorem stmts_rekey_length (h : Handle) (new : KeyId) (st : St) :
    (stmts h (.rekey new) st).length = st.profiles.length + 2 := by
  simp [stmts]

theorem rekey_result (f : Option Nat) (h : Handle) (new : KeyId) (st : St) :
    (∃ e, runCall f h (.rekey new) st = (st, h, .err e)) ∨ runCall f h (.rekey new) st = (rekeyed new st, ⟨new⟩, .ok) := by
  have hnone : (∃ e, runCall none h (.rekey new) st = (st, h, .err e)) ∨
      runCall none h (.rekey new) st = (rekeyed new st, ⟨new⟩, .ok) := by
    by_cases hload : ∀ p ∈ st.profiles, p.wrap = h.cacheKey
    · exact Or.inr (runCall_rekey_ok h new st hload)
    · exact Or.inl ⟨_, runCall_rekey_unloadable h new st (by simpa using hload)⟩
  cases f with
  | none => exact hnone
  | some k =>
    rcases runCall_all_or_nothing k h (.rekey new) st with he | ⟨_, he⟩
    · exact Or.inl he
    · rw [he]; exact hnone

theorem has_rekeyed (new : KeyId) (st : St) (n : String) : (rekeyed new st).has n = st.has n := by
  simp only [rekeyed, St.has, List.any_map]
  rfl

theorem consistent_rekeyed (new : KeyId) (st : St) : Consistent (rekeyed new st) := by
  intro p hp
  simp only [rekeyed, List.mem_map] at hp
  obtain ⟨q, _, rfl⟩ := hp
  rfl

theorem content_rekeyed (new : KeyId) (st : St) : content (rekeyed new st) = content st := by
  simp [content, rekeyed, List.map_map, Function.comp]

theorem find?_rewrap (new : KeyId) (ps : List Profile) (n : String) :
    (ps.map fun p => { p with wrap := new }).find? (·.name == n) = (ps.find? (·.name == n)).map fun p => { p with wrap := new } := by
  rw [List.find?_map]
  rfl

theorem opens_iff (k : KeyId) (active : String) (st : St) (hc : Consistent st) (ha : st.has active = true) :
    opens k active st = true ↔ k = st.storeKey := by
  obtain ⟨p, hp⟩ := Option.isSome_iff_exists.mp (List.find?_isSome.mpr (List.any_eq_true.mp ha))
  have hmem := List.mem_of_find?_eq_some hp
  simp only [opens, St.find?, hp, Bool.and_eq_true, beq_iff_eq]
  exact ⟨fun h => h.1, fun h => ⟨h, by rw [hc p hmem, h]⟩⟩

theorem opens_xor (old new : KeyId) (active : String) (s : St) (hc : Consistent s) (ha : s.has active = true)
    (hne : new ≠ old) (hk : s.storeKey = old ∨ s.storeKey = new) :
    (opens old active s = true ↔ ¬ opens new active s = true) := by
  rw [opens_iff old active s hc ha, opens_iff new active s hc ha]
  rcases hk with hk | hk <;> rw [hk]
  · exact ⟨fun _ h => hne h, fun _ => rfl⟩
  · exact ⟨fun h _ => hne h.symm, fun h => absurd rfl h⟩

theorem rekey_outcomes (st : St) (new : KeyId) (active : String) (hc : Consistent st) (ha : st.has active = true)
    (hne : new ≠ st.storeKey) (s : St) (hs : s = st ∨ s = rekeyed new st) :
    content s = content st ∧ Consistent s ∧ (opens st.storeKey active s = true ↔ ¬ opens new active s = true) := by
  rcases hs with rfl | rfl
  · exact ⟨rfl, hc, opens_xor _ _ active s hc ha hne (Or.inl rfl)⟩
  · exact ⟨content_rekeyed new st, consistent_rekeyed new st,
      opens_xor _ _ active _ (consistent_rekeyed new st) ((has_rekeyed new st active).trans ha) hne (Or.inr rfl)⟩

/-! ### the handle stays usable: every profile key is wrapped with the key the handle holds -/

/-- the config row names `K` and every profile key is wrapped with `K` (the invariant in the proof of `store_stays_usable`,
    Props/C06S) -/
def Usable (K : KeyId) (s : St) : Prop := s.storeKey = K ∧ ∀ p ∈ s.profiles, p.wrap = K

theorem usable_iff {K : KeyId} {s : St} : Usable K s ↔ Consistent s ∧ K = s.storeKey :=
  ⟨fun hu => ⟨fun p hp => (hu.2 p hp).trans hu.1.symm, hu.1.symm⟩, fun hc => ⟨hc.2.symm, fun p hp => (hc.1 p hp).trans hc.2.symm⟩⟩

theorem usable_mapProfile {K : KeyId} {st : St} (n : String) (f : Profile → Profile) (hf : ∀ p, (f p).wrap = p.wrap)
    (hu : Usable K st) : Usable K (st.mapProfile n f) := by
  refine ⟨hu.1, fun p hp => ?_⟩
  simp only [St.mapProfile, List.mem_map] at hp
  obtain ⟨q, hq, rfl⟩ := hp
  split
  · rw [hf]; exact hu.2 q hq
  · exact hu.2 q hq

theorem targetCheck_ok {to : String} {cache : KeyId} {e : Bool} {x y : St} (h : (targetCheck to cache e).run x = .ok y) : y = x := by
  simp only [targetCheck] at h
  split at h
  · cases h
  · split at h
    · cases h
    · split at h
      · cases h
      · cases h; rfl

theorem usable_import (K : KeyId) (to : String) : ∀ (recs : List Rec), ∀ s ∈ importStmts to recs, ∀ x y,
    s.run x = .ok y → Usable K x → Usable K y := by
  intro recs
  induction recs with
  | nil => intro s hs; simp [importStmts] at hs
  | cons r rs ih =>
    intro s hs x y hrun
    simp only [importStmts, List.cons_append, List.mem_cons, List.mem_append, List.mem_map] at hs
    rcases hs with rfl | ⟨t, _, rfl⟩ | hs
    · simp only [insertItem] at hrun
      split at hrun
      · cases hrun
      · split at hrun
        · cases hrun
        · cases hrun; exact usable_mapProfile to _ (fun _ => rfl)
    · simp only [insertTag] at hrun
      cases hrun; exact usable_mapProfile to _ (fun _ => rfl)
    · exact ih s hs x y hrun

/-- every statement of every call but a re-key keeps the store usable with the handle's key: a profile it inserts is wrapped
    with that key, and nothing else touches a wrapping or the config key -/
theorem usable_stmts (h : Handle) (c : Call) (st : St) (hc : ∀ new, c ≠ .rekey new) :
    ∀ s ∈ stmts h c st, ∀ x y, s.run x = .ok y → Usable h.cacheKey x → Usable h.cacheKey y := by
  intro s hs x y hrun hu
  cases c with
  | createProfile n =>
    simp only [stmts, List.mem_singleton] at hs
    subst hs
    simp only [insertProfile, Except.ok.injEq] at hrun
    subst hrun
    split
    · exact hu
    · refine ⟨hu.1, fun p hp => ?_⟩
      rcases List.mem_append.mp hp with hp | hp
      · exact hu.2 p hp
      · rw [List.mem_singleton.mp hp]
  | removeProfile n =>
    simp only [stmts, List.mem_singleton] at hs
    subst hs
    cases hrun
    exact ⟨hu.1, fun p hp => hu.2 p (List.mem_filter.mp hp).1⟩
  | setDefault n =>
    simp only [stmts, List.mem_singleton] at hs
    subst hs
    cases hrun
    exact hu
  | rekey new => exact absurd rfl (hc new)
  | importRecs to recs e =>
    rcases List.mem_cons.mp hs with rfl | hs
    · rw [targetCheck_ok hrun]; exact hu
    · exact usable_import _ to recs s hs x y hrun hu
  | refused e =>
    simp only [stmts, List.mem_singleton] at hs
    subst hs
    cases hrun

/-! ### process kill -/

theorem killCall_cases (j : Nat) (h : Handle) (c : Call) (st : St) :
    killCall j h c st = st ∨ killCall j h c st = (runCall none h c st).1 := by
  unfold killCall
  by_cases hj : j ≤ (stmts h c st).length <;> simp [hj]

theorem afterN_zero (h : Handle) (st : St) (cs : List Call) : afterN h st cs 0 = st := by
  simp [afterN, runSeq]

theorem afterN_nil (h : Handle) (st : St) (n : Nat) : afterN h st [] n = st := by
  simp [afterN, runSeq]

theorem afterN_succ (h : Handle) (st : St) (c : Call) (cs : List Call) (n : Nat) :
    afterN h st (c :: cs) (n + 1) = afterN (runCall none h c st).2.1 (runCall none h c st).1 cs n := by
  simp [afterN, runSeq]

end Askar.StoreFault.Lemmas
