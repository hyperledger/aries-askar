/- Lemmas for C06 (statement-level fault model, Model/Fault.lean). -/
import AskarModel.Model.Fault
import AskarModel.Lemmas.Store
namespace Askar.Store
namespace Lemmas

/-! ### the tag-insert loop -/

theorem insertTagsF_cases (f : Option FaultAt) (i : Nat) (acc ts : List Wql.Tag) :
    insertTagsF f i acc ts = .ok (acc ++ ts) ∨ (f ≠ none ∧ insertTagsF f i acc ts = .error .backend) := by
  induction ts generalizing i acc with
  | nil => left; simp [insertTagsF]
  | cons t ts ih =>
    simp only [insertTagsF]
    split
    · next hf => right; exact ⟨by rw [hf]; nofun, rfl⟩
    · rcases ih (i + 1) (acc ++ [t]) with h | h
      · left; rw [h]; simp
      · right; exact h

theorem tag_ne {k i : Nat} (h : k ≠ i) : some (FaultAt.tag k) ≠ some (FaultAt.tag i) := by
  intro he; injection he with he; injection he with he; exact h he

theorem insertTagsF_tag_beyond (k i : Nat) (acc ts : List Wql.Tag) (h : i + ts.length ≤ k) :
    insertTagsF (some (.tag k)) i acc ts = .ok (acc ++ ts) := by
  induction ts generalizing i acc with
  | nil => simp [insertTagsF]
  | cons t ts ih =>
    simp only [List.length_cons] at h
    simp only [insertTagsF, tag_ne (show k ≠ i by omega), if_false]
    rw [ih (i + 1) (acc ++ [t]) (by omega)]; simp

theorem insertTagsF_tag_within (k i : Nat) (acc ts : List Wql.Tag) (h1 : i ≤ k) (h2 : k < i + ts.length) :
    insertTagsF (some (.tag k)) i acc ts = .error .backend := by
  induction ts generalizing i acc with
  | nil => simp at h2; omega
  | cons t ts ih =>
    simp only [List.length_cons] at h2
    simp only [insertTagsF]
    by_cases hik : k = i
    · subst hik; simp
    · simp only [tag_ne hik, if_false]
      exact ih (i + 1) (acc ++ [t]) (by omega) (by omega)

theorem any_of_find?_some {α} {p : α → Bool} {l : List α} {x : α} (h : l.find? p = some x) : l.any p = true := by
  rw [List.any_eq_true]; exact ⟨x, List.mem_of_find?_eq_some h, List.find?_some h⟩

theorem any_of_find?_none {α} {p : α → Bool} {l : List α} (h : l.find? p = none) : l.any p = false := by
  rw [List.any_eq_false]; intro x hx; exact List.find?_eq_none.1 h x hx

/-! ### each mutating call: its complete effect, or — only under an injected fault — an error

The statement-level call `rF` against the one-shot call `r`. -/

def CompleteOrFaulted {α} (f : Option FaultAt) (rF r : Except Err α) : Prop :=
  rF = r ∨ (f ≠ none ∧ ∃ er, rF = .error er)

theorem CompleteOrFaulted.withExpiry {α} {f : Option FaultAt} (now : Int) (e : Option Int)
    {bodyF body : Option Int → Except Err α} (h : ∀ exp, CompleteOrFaulted f (bodyF exp) (body exp)) :
    CompleteOrFaulted f (withExpiry now e bodyF) (withExpiry now e body) := by
  rcases withExpiry_cases now e with h' | h'
  · left; rw [h', h']
  · rw [h', h']; exact h _

/-- `insertF` after the expiry computation -/
def insertCoreF (f : Option FaultAt) (db : Db) (s : Sess) (k : Kind) (c n : String) (v : Bytes)
    (t : Option (List Wql.Tag)) (exp : Option Int) : Except Err Db :=
  if f = some .item then .error .backend
  else if db.items.any (·.sameIdent s.pid s.key k c n) then .error .duplicate
  else
    match insertTagsF f 0 [] (t.getD []) with
    | .error e => .error e
    | .ok ts =>
      .ok { db with items := db.items ++ [{ id := nextId (db.items.map (·.id)), pid := s.pid, key := s.key, kind := k,
                                            cat := c, name := n, value := v, tags := ts, expiry := exp }] }

/-- `replaceF` after the expiry computation -/
def replaceCoreF (f : Option FaultAt) (db : Db) (s : Sess) (k : Kind) (c n : String) (v : Bytes)
    (t : Option (List Wql.Tag)) (exp : Option Int) : Except Err Db :=
  match db.items.find? (·.sameIdent s.pid s.key k c n) with
  | none => .error .notFound
  | some old =>
    if f = some .itemupd then .error .notFound
    else if f = some .tagdel && !old.tags.isEmpty then .error .backend
    else
      match insertTagsF f 0 [] (t.getD []) with
      | .error e => .error e
      | .ok ts =>
        .ok { db with items := db.items.map fun it =>
                if it.sameIdent s.pid s.key k c n then { it with value := v, tags := ts, expiry := exp } else it }

theorem insertCoreF_cases (f : Option FaultAt) (db : Db) (s : Sess) (k : Kind) (c n : String) (v : Bytes)
    (t : Option (List Wql.Tag)) (exp : Option Int) :
    CompleteOrFaulted f (insertCoreF f db s k c n v t exp) (insertCore db s k c n v t exp) := by
  unfold insertCoreF insertCore
  split
  · next hf => right; exact ⟨by rw [hf]; nofun, _, rfl⟩
  · split
    · left; rfl
    · rcases insertTagsF_cases f 0 [] (t.getD []) with h | ⟨hf, h⟩
      · left; rw [h]; simp
      · right; rw [h]; exact ⟨hf, _, rfl⟩

theorem insertF_cases (f : Option FaultAt) (db : Db) (now : Int) (s : Sess) (k : Kind) (c n : String) (v : Bytes)
    (t : Option (List Wql.Tag)) (e : Option Int) :
    CompleteOrFaulted f (insertF f db now s k c n v t e) (doInsert db now s k c n v t e) := by
  rw [doInsert_eq]
  exact CompleteOrFaulted.withExpiry (bodyF := insertCoreF f db s k c n v t) now e (insertCoreF_cases f db s k c n v t)

theorem replaceCoreF_cases (f : Option FaultAt) (db : Db) (s : Sess) (k : Kind) (c n : String) (v : Bytes)
    (t : Option (List Wql.Tag)) (exp : Option Int) :
    CompleteOrFaulted f (replaceCoreF f db s k c n v t exp) (replaceCore db s k c n v t exp) := by
  unfold replaceCoreF replaceCore
  cases hfind : db.items.find? (·.sameIdent s.pid s.key k c n) with
  | none => left; rw [any_of_find?_none hfind]; rfl
  | some old =>
    rw [any_of_find?_some hfind]
    dsimp only
    by_cases h1 : f = some .itemupd
    · right; exact ⟨by rw [h1]; nofun, _, if_pos h1⟩
    · by_cases h2 : (f = some .tagdel && !old.tags.isEmpty) = true
      · right; exact ⟨by rintro rfl; simp at h2, .backend, by rw [if_neg h1, if_pos h2]⟩
      · rw [if_neg h1, if_neg h2]
        rcases insertTagsF_cases f 0 [] (t.getD []) with h | ⟨hf, h⟩
        · left; rw [h]; simp
        · right; rw [h]; exact ⟨hf, _, rfl⟩

theorem replaceF_cases (f : Option FaultAt) (db : Db) (now : Int) (s : Sess) (k : Kind) (c n : String) (v : Bytes)
    (t : Option (List Wql.Tag)) (e : Option Int) :
    CompleteOrFaulted f (replaceF f db now s k c n v t e) (doReplace db now s k c n v t e) := by
  rw [doReplace_eq]
  exact CompleteOrFaulted.withExpiry (bodyF := replaceCoreF f db s k c n v t) now e (replaceCoreF_cases f db s k c n v t)

theorem removeF_cases (f : Option FaultAt) (db : Db) (s : Sess) (k : Kind) (c n : String) :
    CompleteOrFaulted f (removeF f db s k c n) (doRemove db s k c n) := by
  unfold removeF doRemove
  split
  · next hfind => left; rw [any_of_find?_none hfind]; rfl
  · next old hfind =>
    rw [any_of_find?_some hfind]
    split
    · next hf => right; exact ⟨by rintro rfl; simp at hf, _, rfl⟩
    · left; rfl

theorem removeAllF_cases (like : Bytes → Bytes → Bool) (f : Option FaultAt) (db : Db) (s : Sess) (k : Option Kind)
    (c : Option String) (q : Option (Wql.Query String)) :
    CompleteOrFaulted f (removeAllF like f db s k c q) (.ok (doRemoveAll like db s k c q)) := by
  unfold removeAllF doRemoveAll
  simp only []
  split
  · next hf => right; exact ⟨by rintro rfl; simp at hf, _, rfl⟩
  · left; rfl

/-! ### one call under a fault parameter: `stepF` against `step` -/

/-- how `step` and `stepF` report an insert, replace or remove (`step … (.insert …)` unfolds to `report db (doInsert …)` by
    `rfl`, and likewise `stepF`, which is how `all_or_nothing_strong` uses `report_cases`) -/
def report (db : Db) : Except Err Db → Db × Out
  | .ok db' => (db', .ok)
  | .error e => (db, .err e)

theorem report_cases {f : Option FaultAt} {db : Db} {rF r : Except Err Db} (h : CompleteOrFaulted f rF r) :
    report db rF = report db r ∨ (f ≠ none ∧ (report db rF).1 = db ∧ (report db rF).2.isErr = true) := by
  rcases h with h | ⟨hf, er, h⟩
  · left; rw [h]
  · right; rw [h]; exact ⟨hf, rfl, rfl⟩

theorem all_or_nothing_strong (like : Bytes → Bytes → Bool) (page : Nat) (now : Int) (f : Option FaultAt) (s : Sess)
    (db : Db) (op : Op) :
    stepF like page now f s db op = step like page now s db op ∨
    (f ≠ none ∧ (stepF like page now f s db op).1 = db ∧ (stepF like page now f s db op).2.isErr = true) := by
  cases op with
  | insert k c n v t e => exact report_cases (insertF_cases f db now s k c n v t e)
  | replace k c n v t e => exact report_cases (replaceF_cases f db now s k c n v t e)
  | remove k c n => exact report_cases (removeF_cases f db s k c n)
  | removeAll k c q =>
    rcases removeAllF_cases like f db s k c q with h | ⟨hf, er, h⟩
    · left; simp only [stepF, step, h]
    · right; rw [stepF, h]; exact ⟨hf, rfl, rfl⟩
  | fetch => left; rfl
  | fetchAll => left; rfl
  | count => left; rfl
  | scan => left; rfl

theorem no_fault_complete (like : Bytes → Bytes → Bool) (page : Nat) (now : Int) (s : Sess) (db : Db) (op : Op) :
    stepF like page now none s db op = step like page now s db op :=
  (all_or_nothing_strong like page now none s db op).resolve_right fun h => h.1 rfl

theorem all_or_nothing (like : Bytes → Bytes → Bool) (page : Nat) (now : Int) (f : Option FaultAt) (s : Sess) (db : Db) (op : Op) :
    stepF like page now f s db op = step like page now s db op ∨
    ((stepF like page now f s db op).1 = db ∧ (stepF like page now f s db op).2.isErr = true) :=
  (all_or_nothing_strong like page now f s db op).imp id And.right

theorem step_err_db (like : Bytes → Bytes → Bool) (page : Nat) (now : Int) (s : Sess) (db : Db) (op : Op)
    (h : (step like page now s db op).2.isErr = true) : (step like page now s db op).1 = db := by
  cases op with
  | insert k c n v t e => revert h; simp only [step]; split <;> simp [Out.isErr]
  | replace k c n v t e => revert h; simp only [step]; split <;> simp [Out.isErr]
  | remove k c n => revert h; simp only [step]; split <;> simp [Out.isErr]
  | removeAll k c q => revert h; simp [step, Out.isErr]
  | fetch => rfl
  | fetchAll => simp only [step]; split <;> rfl
  | count => rfl
  | scan => simp only [step]; split <;> rfl

theorem stmt_fault_atomic (like : Bytes → Bytes → Bool) (page : Nat) (now : Int) (f : Option FaultAt) (s : Sess) (db : Db) (op : Op)
    (h : (stepF like page now f s db op).2.isErr = true) : (stepF like page now f s db op).1 = db := by
  rcases all_or_nothing like page now f s db op with heq | ⟨h1, _⟩
  · rw [heq] at h ⊢; exact step_err_db like page now s db op h
  · exact h1

end Lemmas
end Askar.Store
