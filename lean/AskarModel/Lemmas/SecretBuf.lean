/- Lemmas for C20 Model A (Model/SecretBuf.lean: SecretBytes over an explicit heap).

Every operation only APPENDS events to the allocator's log, and each event it appends is acceptable (`Ext`); that the log of a
whole program is good, that it is good at every prefix, and that nothing logged is ever lost are corollaries.  What an operation
does to the buffer (bytes, capacity) is stated next to it and needs no hypothesis on the heap. -/
import AskarModel.Model.SecretBuf

namespace Askar.SecretBuf
namespace Lemmas

/-- every event so far is acceptable in the strict sense (freed blocks clean, no realloc) -/
def Good (h : Heap) : Prop := ∀ e ∈ h.log, e.Strict

/-- the log of `h'` is that of `h` with further events in front, all of them acceptable in the strict sense -/
def Ext (h h' : Heap) : Prop := ∃ es, h'.log = es ++ h.log ∧ ∀ e ∈ es, e.Strict

theorem Ext.refl (h : Heap) : Ext h h := ⟨[], rfl, nofun⟩

theorem Ext.of_eq {h h' : Heap} (e : h' = h) : Ext h h' := e ▸ .refl h

theorem Ext.trans {h₁ h₂ h₃ : Heap} (h₁₂ : Ext h₁ h₂) (h₂₃ : Ext h₂ h₃) : Ext h₁ h₃ := by
  obtain ⟨es, hl, hs⟩ := h₁₂
  obtain ⟨es', hl', hs'⟩ := h₂₃
  refine ⟨es' ++ es, by rw [hl', hl, List.append_assoc], fun e he => ?_⟩
  rcases List.mem_append.mp he with he | he
  · exact hs' e he
  · exact hs e he

theorem Ext.cons {h h' : Heap} {e : Event} (hl : h'.log = e :: h.log) (he : e.Strict) : Ext h h' :=
  ⟨[e], hl, List.forall_mem_singleton.mpr he⟩

theorem Ext.good {h h' : Heap} (hx : Ext h h') (hg : Good h) : Good h' := by
  obtain ⟨es, hl, hs⟩ := hx
  intro e he
  rw [hl] at he
  rcases List.mem_append.mp he with he | he
  · exact hs e he
  · exact hg e he

theorem Ext.mem {h h' : Heap} (hx : Ext h h') : ∀ e ∈ h.log, e ∈ h'.log := by
  obtain ⟨es, hl, _⟩ := hx
  intro e he
  rw [hl]
  exact List.mem_append_right _ he

theorem good_init : Good Heap.init := nofun

theorem strict_clean {e : Event} (he : e.Strict) : e.Clean ∧ e.isRealloc = false := by
  cases e with
  | realloc _ _ _ => cases he
  | alloc _ _ | escape _ _ => exact ⟨trivial, rfl⟩
  | free _ _ => exact ⟨he, rfl⟩

theorem good_clean {h : Heap} (hg : Good h) : ∀ e ∈ h.log, e.Clean ∧ e.isRealloc = false :=
  fun e he => strict_clean (hg e he)

theorem clean_replicate (n : Nat) : clean (List.replicate n (none : Cell)) := by
  intro c hc; exact (List.mem_replicate.mp hc).2

/-! ### primitives -/

theorem cells_length (v : RVec) : v.cells.length = v.cap := by
  simp [RVec.cells, RVec.cap]

theorem alloc_data (n : Nat) (h : Heap) : (alloc n h).1.data = [] := by
  unfold alloc; split <;> rfl

theorem alloc_spare (n : Nat) (h : Heap) : (alloc n h).1.spare = List.replicate n none := by
  unfold alloc; split
  · next hn => subst hn; rfl
  · rfl

theorem alloc_cap (n : Nat) (h : Heap) : (alloc n h).1.cap = n := by
  simp [RVec.cap, alloc_data, alloc_spare]

theorem alloc_ext (n : Nat) (h : Heap) : Ext h (alloc n h).2 := by
  unfold alloc; split
  · exact .refl h
  · exact .cons rfl trivial

theorem vecReserve_fit (P : Params) (v : RVec) (extra : Nat) (h : Heap) (hf : extra ≤ v.spare.length) :
    vecReserve P v extra h = (v, h) := by
  simp [vecReserve, hf]

theorem vecExtend_fit (P : Params) (v : RVec) (d : List UInt8) (h : Heap) (hf : d.length ≤ v.spare.length) :
    vecExtend P v d h = (pushBytes v d, h) := by
  simp [vecExtend, vecReserve_fit P v d.length h hf]

theorem pushBytes_data (v : RVec) (d : List UInt8) : (pushBytes v d).data = v.data ++ d := rfl

theorem pushBytes_cap (v : RVec) (d : List UInt8) (hf : d.length ≤ v.spare.length) : (pushBytes v d).cap = v.cap := by
  simp only [pushBytes, RVec.cap, List.length_append, List.length_drop]; omega

/-! `with_capacity n` followed by `extend_from_slice d` with `d.length ≤ n` (the copy into a fresh block made by `ensure_capacity`,
    `shrink_to_fit`, `clone`, `from_slice`): one allocation, no growth; the block holds `d` and has capacity `n`. -/

theorem alloc_extend (P : Params) (n : Nat) (d : List UInt8) (h : Heap) (hf : d.length ≤ n) :
    vecExtend P (alloc n h).1 d (alloc n h).2 = (pushBytes (alloc n h).1 d, (alloc n h).2) :=
  vecExtend_fit P _ d _ (by rw [alloc_spare, List.length_replicate]; exact hf)

theorem copy_data (n : Nat) (d : List UInt8) (h : Heap) : (pushBytes (alloc n h).1 d).data = d := by
  rw [pushBytes_data, alloc_data, List.nil_append]

theorem copy_cap (n : Nat) (d : List UInt8) (h : Heap) (hf : d.length ≤ n) : (pushBytes (alloc n h).1 d).cap = n := by
  rw [pushBytes_cap _ _ (by rw [alloc_spare, List.length_replicate]; exact hf), alloc_cap]

/-- growing from capacity 0 is a plain allocation -/
theorem vecReserve_cap0 (P : Params) (hP : P.Sound) (v : RVec) (extra : Nat) (h : Heap) (hc : v.cap = 0) :
    Ext h (vecReserve P v extra h).2 ∧ (vecReserve P v extra h).1.data = v.data ∧ extra ≤ (vecReserve P v extra h).1.cap := by
  have hd : v.data = [] := by
    simp only [RVec.cap] at hc; exact List.length_eq_zero_iff.mp (by omega)
  unfold vecReserve
  split
  · next hle => exact ⟨.refl h, rfl, by simp only [RVec.cap]; omega⟩
  · simp only [vecGrowTo, hc, if_true]
    refine ⟨alloc_ext _ h, by rw [alloc_data, hd], ?_⟩
    rw [alloc_cap]
    exact Nat.le_trans (Nat.le_add_left _ _) (hP.2 0 (v.len + extra))

theorem vecZeroize_cells (s : RVec) : (vecZeroize s).cells = List.replicate s.cap none := by
  simp [vecZeroize, RVec.cells]

theorem vecZeroize_cap (s : RVec) : (vecZeroize s).cap = s.cap := by
  simp [vecZeroize, RVec.cap]

theorem dropSecret_ext (s : RVec) (h : Heap) : Ext h (dropSecret s h) := by
  unfold dropSecret vecDrop
  split
  · exact .refl h
  · exact .cons rfl (by rw [vecZeroize_cells]; exact clean_replicate _)

/-! ### `ensure_capacity`: the lemma that excludes hidden reallocation -/

/-- the copy made by `ensure_capacity` fits the new block: len ≤ cap ≤ min_cap ≤ grow cap min_cap -/
theorem grow_fits {P : Params} (hP : P.Sound) (s : RVec) {m : Nat} (hm : m ≥ s.cap) : s.data.length ≤ P.grow s.cap m :=
  Nat.le_trans (Nat.le_trans (Nat.le_add_right _ _) hm) (hP.1 s.cap m)

theorem ensureCapacity_spec (P : Params) (hP : P.Sound) (s : RVec) (m : Nat) (h : Heap) :
    Ext h (ensureCapacity P s m h).2 ∧ (ensureCapacity P s m h).1.data = s.data ∧ m ≤ (ensureCapacity P s m h).1.cap := by
  unfold ensureCapacity
  split
  · next hc => exact vecReserve_cap0 P hP s m h hc
  · split
    · next hc hm =>
      simp only [alloc_extend P _ s.data h (grow_fits hP s hm)]
      exact ⟨(alloc_ext _ h).trans (dropSecret_ext s _), copy_data _ _ h,
        by rw [copy_cap _ _ h (grow_fits hP s hm)]; exact hP.1 s.cap m⟩
    · next hc hm => exact ⟨.refl h, rfl, Nat.le_of_lt (Nat.lt_of_not_le hm)⟩

theorem ensureCapacity_cap (P : Params) (hP : P.Sound) (s : RVec) (m : Nat) (h : Heap) (hc : 0 < s.cap) :
    (ensureCapacity P s m h).1.cap = if m ≥ s.cap then P.grow s.cap m else s.cap := by
  unfold ensureCapacity
  simp only [Nat.ne_of_gt hc, if_false]
  split
  · next hm =>
    simp only [alloc_extend P _ s.data h (grow_fits hP s hm)]
    exact copy_cap _ _ h (grow_fits hP s hm)
  · rfl

theorem reserve_spec (P : Params) (hP : P.Sound) (s : RVec) (extra : Nat) (h : Heap) :
    Ext h (reserve P s extra h).2 ∧ (reserve P s extra h).1.data = s.data ∧ extra ≤ (reserve P s extra h).1.spare.length := by
  obtain ⟨h1, h2, h3⟩ := ensureCapacity_spec P hP s (s.len + extra) h
  unfold reserve
  generalize ensureCapacity P s (s.len + extra) h = r at *
  refine ⟨h1, h2, ?_⟩
  simp only [RVec.cap, RVec.len, h2] at h3
  omega

theorem extendFromSlice_spec (P : Params) (hP : P.Sound) (s : RVec) (d : List UInt8) (h : Heap) :
    Ext h (extendFromSlice P s d h).2 ∧ (extendFromSlice P s d h).1.data = s.data ++ d := by
  have hr := reserve_spec P hP s d.length h
  unfold extendFromSlice
  simp only [vecExtend_fit P _ d _ hr.2.2]
  exact ⟨hr.1, by rw [pushBytes_data, hr.2.1]⟩

theorem shrinkToFit_spec (P : Params) (s : RVec) (h : Heap) :
    Ext h (shrinkToFit P s h).2 ∧ (shrinkToFit P s h).1.data = s.data ∧ (shrinkToFit P s h).1.spare.length = 0 := by
  unfold shrinkToFit
  split
  · simp only [alloc_extend P s.len s.data h (Nat.le_refl _)]
    refine ⟨(alloc_ext _ h).trans (dropSecret_ext s _), copy_data _ _ h, ?_⟩
    simp [pushBytes, alloc_spare, RVec.len]
  · next hc =>
    refine ⟨.refl h, rfl, ?_⟩
    show s.spare.length = 0
    simp only [RVec.cap, RVec.len] at hc; omega

theorem respan_data (v : RVec) (nd : List UInt8) : (respan v nd).data = nd := rfl

theorem vecResize_fit (P : Params) (v : RVec) (n : Nat) (h : Heap) (hf : n ≤ v.cap) :
    (vecResize P v n h).2 = h ∧
    (vecResize P v n h).1.data = (if n ≤ v.data.length then v.data.take n else v.data ++ List.replicate (n - v.data.length) 0) := by
  unfold vecResize
  simp only [RVec.len]
  by_cases hn : n ≤ v.data.length
  · simp [hn, respan]
  · have hfit : (List.replicate (n - v.data.length) (0 : UInt8)).length ≤ v.spare.length := by
      simp only [List.length_replicate, RVec.cap] at hf ⊢; omega
    simp [hn, vecExtend_fit P _ _ _ hfit, pushBytes]

theorem bufferResize_spec (P : Params) (hP : P.Sound) (s : RVec) (n : Nat) (h : Heap) :
    Ext h (bufferResize P s n h).2 ∧
    (bufferResize P s n h).1.data = (if n ≤ s.data.length then s.data.take n else s.data ++ List.replicate (n - s.data.length) 0) := by
  obtain ⟨hx, hd, hcap⟩ := ensureCapacity_spec P hP s n h
  obtain ⟨hh, hr⟩ := vecResize_fit P _ n _ hcap
  unfold bufferResize
  exact ⟨hx.trans (.of_eq hh), by rw [hr, hd]⟩

theorem bufferExtend_spec (P : Params) (hP : P.Sound) (s : RVec) (d : List UInt8) (h : Heap) :
    Ext h (bufferExtend P s d h).2 ∧ (bufferExtend P s d h).1.data = s.data ++ d := by
  obtain ⟨hx, hr⟩ := bufferResize_spec P hP s (s.len + d.length) h
  unfold bufferExtend
  refine ⟨hx, ?_⟩
  dsimp only
  rw [hr]
  -- the first `len` bytes of the resized buffer are the old bytes, whether or not `d` is empty
  simp only [RVec.len]
  by_cases hk : s.data.length + d.length ≤ s.data.length <;> simp [hk, List.take_take, Nat.min_eq_left]

theorem vecSplice_fit (P : Params) (v : RVec) (a b : Nat) (d : List UInt8) (h : Heap)
    (hf : d.length - (b - a) ≤ v.spare.length) :
    (vecSplice P v a b d h).1.2 = h ∧
    ((vecSplice P v a b d h).1.1.data, (vecSplice P v a b d h).2) =
      (if a > b ∨ b > v.data.length then (v.data, true) else (v.data.take a ++ d ++ v.data.drop b, false)) := by
  unfold vecSplice
  simp only [RVec.len]
  by_cases hc : a > b ∨ b > v.data.length
  · simp [hc]
  · simp [hc, vecReserve_fit P v _ h hf, respan]

theorem splice_spec (P : Params) (hP : P.Sound) (s : RVec) (a b : Nat) (d : List UInt8) (h : Heap) :
    Ext h (splice P s a b d h).1.2 ∧
    ((splice P s a b d h).1.1.data, (splice P s a b d h).2) = (BufOp.splice a b d).spec s.data := by
  unfold splice
  simp only [BufOp.spec]
  split
  · next hlt => simp [hlt, Ext.refl]
  · next hlt =>
    split
    · next hgt =>
      obtain ⟨hx, hd, hroom⟩ := reserve_spec P hP s (d.length - (b - a)) h
      obtain ⟨hh, hs⟩ := vecSplice_fit P _ a b d _ hroom
      exact ⟨hx.trans (.of_eq hh), by rw [hs, hd]⟩
    · next hgt =>
      obtain ⟨hh, hs⟩ := vecSplice_fit P s a b d h (by omega)
      exact ⟨.of_eq hh, hs⟩

theorem vecDrain_spec (s : RVec) (a b : Nat) (h : Heap) :
    (vecDrain s a b h).1.2 = h ∧ ((vecDrain s a b h).1.1.data, (vecDrain s a b h).2) = (BufOp.remove a b).spec s.data := by
  unfold vecDrain
  simp only [BufOp.spec, RVec.len]
  by_cases hc : a > b ∨ b > s.data.length
  · simp [hc]
  · simp [hc, respan]

/-! ### every buffer operation: only acceptable events are logged, visible bytes follow the list semantics -/

theorem apply_spec (P : Params) (hP : P.Sound) (b : BufOp) (s : RVec) (h : Heap) :
    Ext h (b.apply P s h).1.2 ∧ ((b.apply P s h).1.1.data, (b.apply P s h).2) = b.spec s.data := by
  cases b with
  | ensureCapacity n =>
    obtain ⟨hx, hd, _⟩ := ensureCapacity_spec P hP s n h
    exact ⟨hx, congrArg (·, false) hd⟩
  | reserve n =>
    obtain ⟨hx, hd, _⟩ := reserve_spec P hP s n h
    exact ⟨hx, congrArg (·, false) hd⟩
  | extend d =>
    obtain ⟨hx, hd⟩ := extendFromSlice_spec P hP s d h
    exact ⟨hx, congrArg (·, false) hd⟩
  | insert pos d =>
    obtain ⟨hx, hd⟩ := splice_spec P hP s pos pos d h
    refine ⟨hx, hd.trans ?_⟩
    simp [BufOp.spec]
  | splice a c d => exact splice_spec P hP s a c d h
  | remove a c => exact ⟨.of_eq (vecDrain_spec s a c h).1, (vecDrain_spec s a c h).2⟩
  | resize n =>
    obtain ⟨hx, hd⟩ := bufferResize_spec P hP s n h
    exact ⟨hx, congrArg (·, false) hd⟩
  | bextend d =>
    obtain ⟨hx, hd⟩ := bufferExtend_spec P hP s d h
    exact ⟨hx, congrArg (·, false) hd⟩
  | shrink =>
    obtain ⟨hx, hd, _⟩ := shrinkToFit_spec P s h
    exact ⟨hx, congrArg (·, false) hd⟩
  | clear | zeroize => exact ⟨.refl h, rfl⟩

theorem ctor_spec (P : Params) (c : Ctor) (h : Heap) :
    Ext h (c.apply P h).2 ∧ (c.apply P h).1.data = c.spec := by
  cases c with
  | withCapacity n => exact ⟨alloc_ext n h, alloc_data n h⟩
  | fromSlice d extra =>
    simp only [Ctor.apply, Ctor.spec, alloc_extend P _ d h (Nat.le_add_right _ _)]
    exact ⟨alloc_ext _ h, copy_data _ _ h⟩
  | newWith d =>
    have hr := vecResize_fit P (alloc d.length h).1 d.length (alloc d.length h).2 (by rw [alloc_cap]; exact Nat.le_refl _)
    exact ⟨(alloc_ext _ h).trans (.of_eq hr.1), rfl⟩
  | default => exact ⟨.refl h, rfl⟩

theorem cloneBuf_spec (P : Params) (s : RVec) (h : Heap) :
    Ext h (cloneBuf P s h).2 ∧ (cloneBuf P s h).1.data = s.data := by
  simp only [cloneBuf, alloc_extend P s.len s.data h (Nat.le_refl _)]
  exact ⟨alloc_ext _ h, copy_data _ _ h⟩

theorem intoVec_ext (s : RVec) (h : Heap) : Ext h (intoVec s h) := by
  unfold intoVec
  refine Ext.trans ?_ (dropSecret_ext _ _)
  split
  · exact .refl h
  · exact .cons rfl trivial

theorem intoBoxed_ext (P : Params) (s : RVec) (h : Heap) : Ext h (intoBoxed P s h) := by
  have hs := shrinkToFit_spec P s h
  unfold intoBoxed
  -- after `shrink_to_fit` there is no spare capacity, so `Vec::into_boxed_slice` has nothing to shrink
  have h0 : vecShrinkRaw (shrinkToFit P s h).1 (dropSecret RVec.empty (shrinkToFit P s h).2) =
      ((shrinkToFit P s h).1, dropSecret RVec.empty (shrinkToFit P s h).2) := by
    simp [vecShrinkRaw, hs.2.2]
  simp only [h0]
  have hd := hs.1.trans (dropSecret_ext RVec.empty _)
  split
  · exact hd
  · exact hd.trans (.cons rfl trivial)

/-! ### the C boundary (`src/ffi/secret.rs`) -/

theorem ffiFromSecret_spec (P : Params) (s : RVec) (h : Heap) :
    Ext h (ffiFromSecret P s h).2 ∧ (ffiFromSecret P s h).1.len = s.data.length ∧
    ∃ v, (ffiFromSecret P s h).1.block = some v ∧ v.data = s.data ∧ v.spare = [] ∧ v.cap = (ffiFromSecret P s h).1.len := by
  have hs := shrinkToFit_spec P s h
  have hsp : (shrinkToFit P s h).1.spare = [] := List.length_eq_zero_iff.mp hs.2.2
  unfold ffiFromSecret
  dsimp only
  refine ⟨hs.1.trans (intoVec_ext _ _), congrArg List.length hs.2.1, _, rfl, hs.2.1, hsp, ?_⟩
  simp only [RVec.cap, RVec.len, hsp, List.length_nil, Nat.add_zero]

/-- the `Vec::from_raw_parts(data, len, len)` of `askar_buffer_free` describes the real block -/
theorem ffiFromSecret_cap (P : Params) (s : RVec) (h : Heap) :
    ∀ v, (ffiFromSecret P s h).1.block = some v → v.cap = (ffiFromSecret P s h).1.len := by
  obtain ⟨_, _, v, hv, _, _, hc⟩ := ffiFromSecret_spec P s h
  intro w hw
  cases hv.symm.trans hw
  exact hc

theorem ffiBufferFree_ext (b : FfiBuf) (h : Heap) (hb : ∀ v, b.block = some v → v.cap = b.len) :
    Ext h (ffiBufferFree b h) := by
  unfold ffiBufferFree
  split
  · exact .refl h
  · next v hv =>
    split
    · exact .refl h
    · refine .cons rfl ?_
      have : List.drop b.len v.cells = [] := List.drop_eq_nil_of_le (by rw [cells_length, hb v hv]; exact Nat.le_refl _)
      simp only [Event.Strict, this, List.append_nil]
      exact clean_replicate _

theorem overwrite_cap (b : FfiBuf) (d : List UInt8) (hb : ∀ v, b.block = some v → v.cap = b.len) :
    ∀ v, (b.overwrite d).block = some v → v.cap = (b.overwrite d).len := by
  unfold FfiBuf.overwrite
  split
  · next w hw =>
    split
    · next hd =>
      -- the block is `w` with `d` for data: same length, same capacity
      intro v hv
      cases hv
      have := hb w hw
      simp only [RVec.cap, hd] at this ⊢
      exact this
    · exact hb
  · exact hb

theorem ffiRoundTrip_ext (P : Params) (s : RVec) (h : Heap) : Ext h (ffiRoundTrip P s h) :=
  (ffiFromSecret_spec P s h).1.trans (ffiBufferFree_ext _ _ (ffiFromSecret_cap P s h))

theorem ffiRoundTrip_frees (P : Params) (s : RVec) (h : Heap) (hs : s.data ≠ []) :
    ∃ id, Event.free id (List.replicate s.data.length none) ∈ (ffiRoundTrip P s h).log := by
  obtain ⟨_, hl, v, hv, hd, hsp, _⟩ := ffiFromSecret_spec P s h
  have hlen : s.data.length ≠ 0 := fun h0 => hs (List.length_eq_zero_iff.mp h0)
  refine ⟨v.id, ?_⟩
  unfold ffiRoundTrip ffiBufferFree
  generalize ffiFromSecret P s h = r at hl hv
  have hdrop : List.drop s.data.length v.cells = [] :=
    List.drop_eq_nil_of_le (by simp [RVec.cells, hd, hsp])
  simp only [hv, hl, hlen, if_false, Heap.push, hdrop, List.append_nil, List.mem_cons, true_or]

/-! ### runs -/

theorem map_eraseIdx {α β : Type} (f : α → β) (l : List α) (i : Nat) : (l.eraseIdx i).map f = (l.map f).eraseIdx i := by
  induction l generalizing i with
  | nil => rfl
  | cons a l ih =>
    cases i with
    | zero => rfl
    | succ i => simp [List.eraseIdx, ih]

/-- the four operations that end the life of the buffer in slot `i` differ only in what they do to the heap (`r` with `hr`
    and not the `match` itself in the conclusion, so that `rfl` identifies each of the four branches of `step` with it) -/
theorem endOfLife_spec (st : St) (i : Nat) (f : RVec → Heap → Heap) (hf : ∀ s h, Ext h (f s h)) (r : St × Res)
    (hr : r = match st.slots[i]? with
      | none => (st, .skip)
      | some s => (⟨st.slots.eraseIdx i, f s st.heap⟩, .ok)) :
    Ext st.heap r.1.heap ∧ (r.1.slots.map (·.data), r.2) = specStep (st.slots.map (·.data)) (.drop i) := by
  subst hr
  simp only [specStep, List.getElem?_map]
  cases st.slots[i]? with
  | none => exact ⟨.refl _, rfl⟩
  | some s => exact ⟨hf s _, congrArg (·, Res.ok) (map_eraseIdx ..)⟩

theorem step_spec (P : Params) (hP : P.Sound) (st : St) (op : Op) :
    Ext st.heap (step P st op).1.heap ∧
    ((step P st op).1.slots.map (·.data), (step P st op).2) = specStep (st.slots.map (·.data)) op := by
  cases op with
  | new c => exact ⟨(ctor_spec P c st.heap).1, by simp [step, specStep, (ctor_spec P c st.heap).2]⟩
  | buf i b =>
    simp only [step, specStep, List.getElem?_map]
    cases st.slots[i]? with
    | none => exact ⟨.refl _, rfl⟩
    | some s =>
      obtain ⟨hx, hd⟩ := apply_spec P hP b s st.heap
      refine ⟨hx, ?_⟩
      simp only [Option.map_some, ← hd, List.map_set]
  | clone i =>
    simp only [step, specStep, List.getElem?_map]
    cases st.slots[i]? with
    | none => exact ⟨.refl _, rfl⟩
    | some s => exact ⟨(cloneBuf_spec P s st.heap).1, by simp [(cloneBuf_spec P s st.heap).2]⟩
  | drop i => exact endOfLife_spec st i dropSecret dropSecret_ext _ rfl
  | intoVec i => exact endOfLife_spec st i intoVec intoVec_ext _ rfl
  | intoBoxed i => exact endOfLife_spec st i (intoBoxed P) (intoBoxed_ext P) _ rfl
  | ffiFree i => exact endOfLife_spec st i (ffiRoundTrip P) (ffiRoundTrip_ext P) _ rfl

theorem run_ext (P : Params) (hP : P.Sound) (ops : List Op) (st : St) : Ext st.heap (run P st ops).heap := by
  induction ops generalizing st with
  | nil => exact .refl _
  | cons op ops ih => exact (step_spec P hP st op).1.trans (ih _)

theorem dropAll_ext (ss : List RVec) (h : Heap) : Ext h (dropAll ss h) := by
  induction ss generalizing h with
  | nil => exact .refl h
  | cons s ss ih => exact (dropSecret_ext s h).trans (ih _)

theorem runAll_good (P : Params) (hP : P.Sound) (ops : List Op) : Good (runAll P ops) :=
  ((run_ext P hP ops St.init).trans (dropAll_ext _ _)).good good_init

theorem log_mono_dropAll (ss : List RVec) (h : Heap) : ∀ e ∈ h.log, e ∈ (dropAll ss h).log :=
  (dropAll_ext ss h).mem

theorem run_data (P : Params) (hP : P.Sound) (ops : List Op) (st : St) :
    (run P st ops).slots.map (·.data) = specRun (st.slots.map (·.data)) ops := by
  induction ops generalizing st with
  | nil => rfl
  | cons op ops ih =>
    simp only [run, specRun]
    rw [ih, ← (step_spec P hP st op).2]

end Lemmas
end Askar.SecretBuf
