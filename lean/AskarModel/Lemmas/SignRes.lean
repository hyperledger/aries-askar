/-
Facts about the result type `Res` of `Model/Sign.lean` alone, shared by `Lemmas/Sign.lean` and `Lemmas/Seed.lean`.
-/
import AskarModel.Model.Sign

namespace Askar.Sign

theorem Res.mapErr_eq_ok {ε ε' α : Type} (f : ε → ε') (r : Res ε α) (a : α) : r.mapErr f = .ok a ↔ r = .ok a := by
  cases r <;> simp [Res.mapErr]

theorem Res.isPanic_mapErr {ε ε' α : Type} (f : ε → ε') (r : Res ε α) : (r.mapErr f).isPanic = r.isPanic := by
  cases r <;> rfl

theorem Res.bind_ok_eq_ok {ε α β : Type} (r : Res ε α) (f : α → β) (b : β) :
    (r.bind fun a => .ok (f a)) = .ok b ↔ ∃ a, r = .ok a ∧ b = f a := by
  cases r <;> simp [Res.bind, eq_comm]

end Askar.Sign
