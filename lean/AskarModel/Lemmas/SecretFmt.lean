/- Lemmas for C20 Model B (Model/SecretFmt.lean: formatting / logging non-interference). -/
import AskarModel.Model.SecretFmt

namespace Askar.SecretFmt
namespace Lemmas

/-! ### templates: the output depends on the secret exactly when a piece mentions it -/

theorem piece_render_ignores_secret (p : Piece) (hp : p.usesSecret = false) (pub : String) (s₁ s₂ : List UInt8) :
    p.render ⟨pub, s₁⟩ = p.render ⟨pub, s₂⟩ := by
  cases p with
  | lit _ | pub => rfl
  | secHex | secDecList | secText => cases hp

theorem piece_render_depends_on_secret (p : Piece) (hp : p.usesSecret = true) (pub : String) (s₁ s₂ : List UInt8)
    (hs : s₁ ≠ s₂) : p.render ⟨pub, s₁⟩ ≠ p.render ⟨pub, s₂⟩ := by
  cases p with
  | lit _ | pub => cases hp
  | secHex | secDecList | secText => exact fun h => hs (by injection h)

theorem render_ignores_secret (ps : List Piece) (h : ps.any Piece.usesSecret = false) (pub : String) (s₁ s₂ : List UInt8) :
    render ps ⟨pub, s₁⟩ = render ps ⟨pub, s₂⟩ :=
  List.map_inj_left.mpr fun p hp =>
    piece_render_ignores_secret p (eq_false_of_ne_true (List.any_eq_false.mp h p hp)) pub s₁ s₂

theorem render_depends_on_secret (ps : List Piece) (h : ps.any Piece.usesSecret = true) (pub : String) (s₁ s₂ : List UInt8)
    (hs : s₁ ≠ s₂) : render ps ⟨pub, s₁⟩ ≠ render ps ⟨pub, s₂⟩ := by
  obtain ⟨p, hp, hu⟩ := List.any_eq_true.mp h
  exact fun heq => piece_render_depends_on_secret p hu pub s₁ s₂ hs (List.map_inj_left.mp heq p hp)

/-! ### the classification in terms of the configuration -/

/-- the flag on which the `Debug` text of `t` depends: that of its own `impl Debug` for five of the types, `BlsSecretKey`'s for a
    BLS key pair in any of its three wrappings; `true` for the types whose `Debug` never prints the secret -/
def redacts (c : FmtCfg) : Ty → Bool
  | .options _ => c.optionsRedacts
  | .pgOptions _ => c.pgOptionsRedacts
  | .argon2 => c.argon2Redacts
  | .blsKeyGen => c.blsKeyGenRedacts
  | .jwkParts _ => c.jwkPartsRedacts
  | .key a | .anyKey a | .localKey a => !a.isBls || c.blsSecretRedacts
  | _ => true

theorem keyFmt_any (c : FmtCfg) (a : Alg) :
    (keyFmt c a).any Piece.usesSecret = !(!a.isBls || c.blsSecretRedacts) := by
  unfold keyFmt
  cases a.isBls <;> cases c.blsSecretRedacts <;> rfl

/-- constant text around a template (`KeyT(…)`, `LocalKey { inner: …, ephemeral: false }`) changes nothing -/
theorem any_wrap (l r : String) (ps : List Piece) :
    ([Piece.lit l] ++ ps ++ [Piece.lit r]).any Piece.usesSecret = ps.any Piece.usesSecret := by
  simp [Piece.usesSecret]

theorem leaky_eq (c : FmtCfg) (t : Ty) : leaky c t = !redacts c t := by
  obtain ⟨o, b, g, r, p, j⟩ := c
  cases t with
  | options q => cases q <;> cases o <;> rfl
  | pgOptions q => cases q <;> cases p <;> rfl
  | argon2 => cases r <;> rfl
  | blsKeyGen => cases g <;> rfl
  | jwkParts a => cases j <;> rfl
  | key a => exact keyFmt_any _ a
  | anyKey a => exact (any_wrap ..).trans (keyFmt_any _ a)
  | localKey a => exact (any_wrap ..).trans (keyFmt_any _ a)
  | _ => rfl

theorem redacts_of_allRedact {c : FmtCfg} (h : c.allRedact = true) (t : Ty) : redacts c t = true := by
  simp only [FmtCfg.allRedact, Bool.and_eq_true] at h
  obtain ⟨⟨⟨⟨⟨ho, hb⟩, hg⟩, hr⟩, hp⟩, hj⟩ := h
  cases t <;> simp [redacts, *]

/-- each of the six flags is `redacts` of one type -/
theorem no_leaky_iff (c : FmtCfg) : (∀ t, leaky c t = false) ↔ c.allRedact = true := by
  simp only [leaky_eq, Bool.not_eq_false']
  constructor
  · intro h
    simp only [FmtCfg.allRedact, Bool.and_eq_true]
    exact ⟨⟨⟨⟨⟨h (.options false), h (.key .bls12381g1)⟩, h .blsKeyGen⟩, h .argon2⟩, h (.pgOptions false)⟩, h (.jwkParts .ed25519)⟩
  · exact redacts_of_allRedact

/-! ### error text -/

/-- every token of `t` that carries secret bytes occurs in `m` -/
def SecretsFrom (t m : List Tok) : Prop := ∀ tok ∈ t, tok.isSecret = true → tok ∈ m

theorem SecretsFrom.text (s : String) (m : List Tok) : SecretsFrom [.text s] m := by
  intro tok ht hs
  cases List.mem_singleton.mp ht
  cases hs

theorem SecretsFrom.append {t₁ t₂ m : List Tok} (h₁ : SecretsFrom t₁ m) (h₂ : SecretsFrom t₂ m) : SecretsFrom (t₁ ++ t₂) m := by
  intro tok ht hs
  rcases List.mem_append.mp ht with ht | ht
  · exact h₁ tok ht hs
  · exact h₂ tok ht hs

theorem SecretsFrom.mono {t m m' : List Tok} (h : SecretsFrom t m) (hm : ∀ tok ∈ m, tok ∈ m') : SecretsFrom t m' :=
  fun tok ht hs => hm tok (h tok ht hs)

/-- a message, or a label in its place -/
theorem SecretsFrom.getD (o : Option (List Tok)) (s : String) : SecretsFrom (o.getD [.text s]) (o.getD []) := by
  cases o with
  | none => exact .text s _
  | some m => exact fun _ ht _ => ht

theorem mem_getD_nil {α : Type} {o : Option (List α)} {x : α} (h : x ∈ o.getD []) : ∃ m, o = some m ∧ x ∈ m := by
  cases o with
  | none => cases h
  | some m => exact ⟨m, rfl, h⟩

theorem chainMessages_head (l : ErrLink) (c : List ErrLink) : ∀ tok ∈ l.message.getD [], tok ∈ chainMessages (l :: c) :=
  fun _ h => List.mem_append_left _ h

theorem chainMessages_tail (l : ErrLink) (c : List ErrLink) : ∀ tok ∈ chainMessages c, tok ∈ chainMessages (l :: c) :=
  fun _ h => List.mem_append_right _ h

theorem errDisplay_secret (c : List ErrLink) : SecretsFrom (errDisplay c) (chainMessages c) := by
  induction c with
  | nil => nofun
  | cons l rest ih =>
    have hl := (SecretsFrom.getD l.message l.kind).mono (chainMessages_head l rest)
    cases rest with
    | nil => exact hl
    | cons l' rest' => exact (hl.append (.text _ _)).append (ih.mono (chainMessages_tail l _))

theorem errDebug_secret (c : List ErrLink) : SecretsFrom (errDebug c) (chainMessages c) := by
  induction c with
  | nil => exact .text _ _
  | cons l rest ih =>
    exact ((((SecretsFrom.text _ _).append (ih.mono (chainMessages_tail l rest))).append (.text _ _)).append
      ((SecretsFrom.getD l.message "None").mono (chainMessages_head l rest))).append (.text _ _)

theorem errTexts_secret (c : List ErrLink) (t : List Tok) (hT : t ∈ errTexts c) : SecretsFrom t (chainMessages c) := by
  induction c with
  | nil => cases hT
  | cons l rest ih =>
    simp only [errTexts, List.mem_cons] at hT
    rcases hT with rfl | rfl | hT
    · exact errDisplay_secret _
    · exact errDebug_secret _
    · exact (ih hT).mono (chainMessages_tail l rest)

theorem errJson_secret (c : List ErrLink) : SecretsFrom (errJson c) (chainMessages c) :=
  ((SecretsFrom.text _ _).append (errDisplay_secret c)).append (.text _ _)

end Lemmas
end Askar.SecretFmt
