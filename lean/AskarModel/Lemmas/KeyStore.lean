/-
Lemmas for C11 (Props/C11.lean).  For `fetch_all_keys`: `liftTags_eq` puts what `from_entry` makes of a row's tags in closed
form; `keyFilter_holds` gives the meaning of the combined filter on one row (the user part by `holdsP_rename` with
`NameRel`); C04's `encode_correct` enters through `filterExact_of_c04` / `keyFilter_inDomain`.  `KeyInv` is the invariant of
the key API that supplies the hypotheses.
-/
import AskarModel.Model.KeyStore
import AskarModel.Lemmas.Wql
import AskarModel.Lemmas.Store
import AskarModel.Lemmas.Refine

namespace Askar.KeyStore.Lemmas
open Askar.Wql Askar.Store Askar.KeyStore

theorem addUser_toList (k : String) : (addUser k).toList = 'u' :: 's' :: 'e' :: 'r' :: ':' :: k.toList := by
  simp [addUser]

theorem stripUser_eq_some_iff {n m : String} : stripUser n = some m ↔ n = addUser m := by
  constructor
  · intro h
    unfold stripUser at h
    split at h
    · rename_i rest heq
      injection h with h
      subst h
      apply String.toList_inj.mp
      rw [addUser_toList, heq, String.toList_ofList]
    · cases h
  · rintro rfl
    simp [stripUser, addUser_toList]

theorem stripUser_addUser (k : String) : stripUser (addUser k) = some k := stripUser_eq_some_iff.mpr rfl

theorem addUser_inj {a b : String} (h : addUser a = addUser b) : a = b :=
  Option.some.inj ((stripUser_addUser a).symm.trans (stripUser_eq_some_iff.mpr h))

theorem stripUser_alg : stripUser "alg" = none := by decide +kernel
theorem stripUser_thumb : stripUser "thumb" = none := by decide +kernel

theorem ne_addUser_of_strip {c : String} (h : stripUser c = none) (k : String) : c ≠ addUser k := fun e => by
  rw [e, stripUser_addUser] at h
  cases h

theorem addUser_ne_alg (k : String) : addUser k ≠ "alg" := (ne_addUser_of_strip stripUser_alg k).symm

theorem addUser_ne_thumb (k : String) : addUser k ≠ "thumb" := (ne_addUser_of_strip stripUser_thumb k).symm

theorem alg_ne_thumb : ("alg" : String) ≠ "thumb" := by decide

theorem userTag_strip (t : Tag) : { userTag t with name := t.name } = t := by
  cases t; rfl

/-- A `user:` name is neither `alg` nor `thumb`, so the order of the tests in the loop does not matter. -/
theorem liftTags_eq (ts : List Tag) : liftTags ts =
    (((ts.filter (·.name == "alg")).map (·.value)).getLast?,
     (ts.filter (·.name == "thumb")).map (·.value),
     ts.filterMap fun t => (stripUser t.name).map fun n => { t with name := n }) := by
  induction ts with
  | nil => rfl
  | cons t ts ih =>
    rw [liftTags, ih, List.filter_cons, List.filter_cons, List.filterMap_cons]
    cases hs : stripUser t.name with
    | some n =>
      rw [stripUser_eq_some_iff.mp hs]
      simp only [beq_eq_false_iff_ne.mpr (addUser_ne_alg n), beq_eq_false_iff_ne.mpr (addUser_ne_thumb n), Bool.false_eq_true,
        if_false, Option.map_some]
    | none =>
      simp only [Option.map_none]
      by_cases ha : t.name = "alg"
      · have : (("alg" : String) == "thumb") = false := beq_eq_false_iff_ne.mpr alg_ne_thumb
        simp only [ha, this, beq_self_eq_true, if_true, List.map_cons, List.getLast?_cons, Bool.false_eq_true, if_false]
        cases ((ts.filter (·.name == "alg")).map (·.value)).getLast? <;> rfl
      · by_cases ht : t.name = "thumb"
        · have : (("thumb" : String) == "alg") = false := beq_eq_false_iff_ne.mpr alg_ne_thumb.symm
          simp only [ht, this, beq_self_eq_true, if_true, List.map_cons, Bool.false_eq_true, if_false]
        · simp only [beq_eq_false_iff_ne.mpr ha, beq_eq_false_iff_ne.mpr ht, Bool.false_eq_true, if_false]

theorem liftTags_append (l l' : List Tag) : liftTags (l ++ l') =
    ((liftTags l').1.or (liftTags l).1, (liftTags l).2.1 ++ (liftTags l').2.1, (liftTags l).2.2 ++ (liftTags l').2.2) := by
  simp only [liftTags_eq, List.filter_append, List.map_append, List.getLast?_append, List.filterMap_append]

theorem liftTags_userTags (us : List Tag) : liftTags (us.map userTag) = (none, [], us) := by
  induction us with
  | nil => rfl
  | cons u us ih =>
    rw [List.map_cons, liftTags, ih, show (userTag u).name = addUser u.name from rfl, stripUser_addUser]
    exact congrArg (fun t => (none, [], t :: us)) (userTag_strip u)

theorem liftTags_thumbTags (ths : List String) : liftTags (ths.map thumbTag) = (none, ths, []) := by
  induction ths with
  | nil => rfl
  | cons x ths ih =>
    have hna : (("thumb" : String) == "alg") = false := beq_eq_false_iff_ne.mpr alg_ne_thumb.symm
    simp only [List.map_cons, liftTags, ih, thumbTag, stripUser_thumb, hna, beq_self_eq_true, Bool.false_eq_true, if_false,
      if_true]

def algOpt (a : String) : Option String := if a.isEmpty then none else some a

theorem liftTags_algTags (a : String) : liftTags (algTags a) = (algOpt a, [], []) := by
  unfold algTags algOpt
  split
  · rfl
  · simp only [liftTags, stripUser_alg]; rfl

theorem liftTags_keyTags (a : String) (ths : List String) (us : List Tag) :
    liftTags (keyTags a ths us) = (algOpt a, ths, us) := by
  simp [keyTags, liftTags_append, liftTags_userTags, liftTags_thumbTags, liftTags_algTags]

theorem liftTags_filter_system (ts : List Tag) :
    liftTags (ts.filter isSystemTag) = ((liftTags ts).1, (liftTags ts).2.1, []) := by
  have hsys : ∀ (c : String), stripUser c = none → ∀ t : Tag, (t.name == c) = true → isSystemTag t = true := by
    intro c hc t ht
    rw [isSystemTag, beq_iff_eq.mp ht, hc]; rfl
  simp only [liftTags_eq, List.filter_filter]
  refine Prod.ext ?_ (Prod.ext ?_ ?_)
  · simp only
    congr 2
    exact List.filter_congr fun t _ => by
      cases h : t.name == "alg"
      · rfl
      · simp [hsys _ stripUser_alg t h]
  · simp only
    congr 1
    exact List.filter_congr fun t _ => by
      cases h : t.name == "thumb"
      · rfl
      · simp [hsys _ stripUser_thumb t h]
  · simp only [List.filterMap_filter, List.filterMap_eq_nil_iff]
    intro t _
    cases h : stripUser t.name <;> simp [isSystemTag, h]

theorem doFetch_some {db : Db} {now : Int} {s : Sess} {k : Kind} {c n : String} {row : Entry}
    (h : doFetch db now s k c n = some row) :
    ∃ it, db.items.find? (fun it => it.sameIdent s.pid s.key k c n && live now it) = some it ∧
      (it.pid = s.pid ∧ it.key = s.key ∧ it.kind = k ∧ it.cat = c ∧ it.name = n) ∧ row = ⟨k, c, n, it.value, it.tags⟩ := by
  unfold doFetch at h
  split at h
  · cases h
  · rename_i it hfind
    have hp := List.find?_some hfind
    rw [Bool.and_eq_true, Askar.Store.Lemmas.sameIdent_iff] at hp
    refine ⟨it, hfind, hp.1, ?_⟩
    rw [← Option.some.inj h, hp.1.2.2.1, hp.1.2.2.2.1, hp.1.2.2.2.2]

theorem doFetch_after_doInsert {db db' : Db} {now : Int} {s : Sess} {k : Kind} {c n : String} {v : Bytes} {t : Option (List Tag)}
    (h : doInsert db now s k c n v t none = .ok db') :
    doFetch db' now s k c n = some ⟨k, c, n, v, t.getD []⟩ := by
  obtain ⟨hany, rfl⟩ := Askar.Store.Lemmas.doInsert_inv h
  -- no old row has the identity, so the first hit is the new row, which is live
  have hold : db.items.find? (fun it => it.sameIdent s.pid s.key k c n && live now it) = none :=
    List.find?_eq_none.mpr fun it hit => by simp [List.any_eq_false.mp hany it hit]
  rw [doFetch, List.find?_append, hold]
  simp [Item.sameIdent, live]

theorem fromEntry_written (C : Cbor) (hC : C.Lawful) (name : String) (p : KeyParams) (a : String) (ths : List String) (us : List Tag) :
    fromEntry C ⟨kmsKind, cryptoKey, name, C.enc p, keyTags a ths us⟩
      = .ok ⟨name, p, algOpt a, sortStrs ths, sortTags us⟩ := by
  simp [fromEntry, hC p, liftTags_keyTags]

theorem fetch_key_after_insert {K : Type} (C : Cbor) (hC : C.Lawful) (O : KeyOps K) (db db' : Db) (now : Int) (s : Sess)
    (name : String) (k : K) («meta» : Option String) (ref : Option KeyRef) (tags : Option (List Tag))
    (h : insertKey C O db now s name k «meta» ref tags none = .ok db') :
    ∃ data ths, O.encode k = .ok data ∧ O.thumbs k = .ok ths ∧
      fetchKey C db' now s name =
        .ok (some ⟨name, ⟨«meta», ref, some data⟩, algOpt (O.alg k), sortStrs ths, sortTags (tags.getD [])⟩) := by
  unfold insertKey at h
  split at h
  · cases h
  · rename_i data hdata
    split at h
    · cases h
    · rename_i ths hths
      refine ⟨data, ths, hdata, hths, ?_⟩
      simp only [fetchKey, doFetch_after_doInsert h, Option.getD_some]
      rw [fromEntry_written C hC]

/-- the loaded key is the inserted key whenever `from_jwk_any` can dispatch its algorithm -/
theorem load_after_insert {K : Type} (sym : Bool) (O : KeyOps K) (hO : O.Lawful sym) (k : K) (data : Bytes)
    (hdata : O.encode k = .ok data) (himp : jwkImportable sym (O.alg k) = true)
    (name : String) («meta» : Option String) (ref : Option KeyRef) (href : ref ≠ some .mobileSecureElement)
    (alg : Option String) (ths : List String) (tags : List Tag) :
    loadLocalKey O ⟨name, ⟨«meta», ref, some data⟩, alg, ths, tags⟩ = .ok k := by
  unfold loadLocalKey
  simp only
  cases ref with
  | none => exact hO.decode_encode k data hdata himp
  | some r =>
    cases r with
    | mobileSecureElement => exact absurd rfl href
    | any s => exact hO.decode_encode k data hdata himp

/-- the unique index `(profile_id, kind, category, name)` on the stored columns (`Inv.unique`) -/
def UniqueIdent (db : Db) : Prop :=
  db.items.Pairwise fun a b => ¬(a.pid = b.pid ∧ a.key = b.key ∧ a.kind = b.kind ∧ a.cat = b.cat ∧ a.name = b.name)

/-- `replace` rewrites every row of the identity, so the first live one afterwards carries the new value and tags
    (whether or not the identity was unique) -/
theorem doFetch_after_doReplace {db db' : Db} {now : Int} {s : Sess} {k : Kind} {c n : String} {v : Bytes} {t : Option (List Tag)}
    (h : doReplace db now s k c n v t none = .ok db') :
    doFetch db' now s k c n = some ⟨k, c, n, v, t.getD []⟩ := by
  rw [Askar.Store.Lemmas.doReplace_none] at h
  split at h
  · rename_i hany
    injection h with h
    subst h
    -- on the rewritten rows "same identity and live" is "same identity" of the row before
    have hp : ((fun it : Item => it.sameIdent s.pid s.key k c n && live now it) ∘ fun it : Item =>
        if it.sameIdent s.pid s.key k c n then { it with value := v, tags := t.getD [], expiry := none } else it)
        = fun it => it.sameIdent s.pid s.key k c n := by
      funext it
      cases hs : it.sameIdent s.pid s.key k c n
      · simp only [Function.comp, hs, Bool.false_eq_true, if_false, Bool.false_and]
      · have : ({ it with value := v, tags := t.getD [], expiry := none } : Item).sameIdent s.pid s.key k c n = true := hs
        simp only [Function.comp, hs, if_true, this, live, Bool.true_and]
    obtain ⟨it, hit, hs⟩ := List.any_eq_true.mp hany
    simp only [doFetch, List.find?_map, hp]
    cases hf : db.items.find? (fun it => it.sameIdent s.pid s.key k c n) with
    | none => exact absurd hs (by simpa using List.find?_eq_none.mp hf it hit)
    | some it0 =>
      have hs0 : it0.sameIdent s.pid s.key k c n = true := List.find?_some (p := fun it : Item => it.sameIdent s.pid s.key k c n) hf
      have hid := (Askar.Store.Lemmas.sameIdent_iff it0 _ _ _ _ _).mp hs0
      simp only [Option.map_some, hs0, if_true, hid.2.2.1, hid.2.2.2.1, hid.2.2.2.2]
  · cases h

theorem update_key_preserves (C : Cbor) (hC : C.Lawful) (db db' : Db) (now : Int) (s : Sess) (name : String)
    («meta» : Option String) (tags : Option (List Tag)) (e : KeyEntry)
    (hU : UniqueIdent db)
    (h0 : fetchKey C db now s name = .ok (some e))
    (h : updateKey C db now s name «meta» tags none = .ok db') :
    fetchKey C db' now s name =
      .ok (some { e with params := { e.params with «meta» := «meta» }, tags := sortTags (tags.getD []) }) := by
  -- `hU` is not needed: `replace` rewrites every row of the identity (`doFetch_after_doReplace`)
  unfold fetchKey at h0
  unfold updateKey at h
  cases hf : doFetch db now s kmsKind cryptoKey name with
  | none => simp [hf] at h0
  | some row =>
    obtain ⟨it, _, _, hrow⟩ := doFetch_some hf
    simp only [hf] at h0 h
    cases hd : C.dec row.value with
    | none => simp [fromEntry, hd] at h0
    | some p =>
      simp only [hd] at h
      simp only [fromEntry, hd, Except.ok.injEq, Option.some.injEq] at h0
      subst h0 hrow
      simp only [fetchKey, doFetch_after_doReplace h, fromEntry, hC _, Option.getD_some, liftTags_append,
        liftTags_userTags, liftTags_filter_system, Option.or_none, List.nil_append, List.append_nil]

/-! ### The list companions of the mutual definitions over `Query` are `map` / `all` / `any` -/

theorem mapNamesList_eq_map {N M : Type} (f : N → M) (qs : List (Query N)) : mapNamesList f qs = qs.map (Query.mapNames f) := by
  induction qs with
  | nil => rfl
  | cons q qs ih => rw [mapNamesList, ih, List.map_cons]

theorem holdsAll_eq_all (like : Bytes → Bytes → Bool) (tags : List Tag) (neg : Bool) (qs : List (Query TagName)) :
    holdsAll like tags neg qs = qs.all (holdsP like tags neg) := by
  induction qs with
  | nil => rfl
  | cons q qs ih => rw [holdsAll, ih, List.all_cons]

theorem holdsAny_eq_any (like : Bytes → Bytes → Bool) (tags : List Tag) (neg : Bool) (qs : List (Query TagName)) :
    holdsAny like tags neg qs = qs.any (holdsP like tags neg) := by
  induction qs with
  | nil => rfl
  | cons q qs ih => rw [holdsAny, ih, List.any_cons]

theorem allNamesList_eq_all {N : Type} (p : N → Bool) (qs : List (Query N)) : allNamesList p qs = qs.all (allNames p) := by
  induction qs with
  | nil => rfl
  | cons q qs ih => rw [allNamesList, ih, List.all_cons]

theorem allNames_true {N : Type} (p : N → Bool) (hp : ∀ n, p n = true) (q : Query N) : allNames p q = true := by
  induction q using Askar.Wql.Lemmas.Query.induct' with
  | and qs ih | or qs ih => simp only [allNames, allNamesList_eq_all, List.all_eq_true]; exact ih
  | not q ih => simpa only [allNames] using ih
  | cmp _ n _ | isIn n _ => simp only [allNames, hp]
  | exist ns => simp [allNames, hp]

theorem allNames_mono {N : Type} (p p' : N → Bool) (hp : ∀ n, p n = true → p' n = true) (q : Query N) :
    allNames p q = true → allNames p' q = true := by
  induction q using Askar.Wql.Lemmas.Query.induct' with
  | and qs ih | or qs ih => simp only [allNames, allNamesList_eq_all, List.all_eq_true]; exact fun h q hq => ih q hq (h q hq)
  | not q ih => simpa only [allNames] using ih
  | cmp _ n _ | isIn n _ => simpa only [allNames] using hp n
  | exist ns =>
    simp only [allNames, List.all_eq_true]
    exact fun h n hn => hp n (h n hn)

theorem solidList_eq_all (qs : List (Query TagName)) : solidList qs = qs.all Query.solid := by
  induction qs with
  | nil => rfl
  | cons q qs ih => rw [solidList, ih, List.all_cons]

/-! ### The filter handed to the backend by `fetch_all_keys`, against the reference semantics -/

/-- Two tag names select the same thing in two tag lists, for every predicate `P` on the value.  `cmp`, `in` and `exist`
    atoms are `any (named a && P value)` for three choices of `P`, so this one relation serves all atoms. -/
def NameRel (tags utags : List Tag) (a b : TagName) : Prop :=
  ∀ P : String → Bool, (tags.any fun t => t.named a && P t.value) = (utags.any fun t => t.named b && P t.value)

section Rename
variable (like : Bytes → Bytes → Bool) {N : Type} (tags utags : List Tag) (g h : N → TagName) (good : N → Bool)
  (hrel : ∀ n, good n = true → NameRel tags utags (g n) (h n))
include hrel

theorem holdsP_rename (q : Query N) : allNames good q = true →
    ∀ neg, holdsP like tags neg (q.mapNames g) = holdsP like utags neg (q.mapNames h) := by
  have conn : ∀ qs : List (Query N),
      (∀ q ∈ qs, allNames good q = true → ∀ neg, holdsP like tags neg (q.mapNames g) = holdsP like utags neg (q.mapNames h)) →
      allNamesList good qs = true → ∀ neg,
        holdsAll like tags neg (mapNamesList g qs) = holdsAll like utags neg (mapNamesList h qs) ∧
        holdsAny like tags neg (mapNamesList g qs) = holdsAny like utags neg (mapNamesList h qs) := by
    intro qs ih hall neg
    rw [allNamesList_eq_all, List.all_eq_true] at hall
    simp only [mapNamesList_eq_map, holdsAll_eq_all, holdsAny_eq_any, List.all_map, List.any_map]
    exact ⟨List.all_congr_mem fun q hq => ih q hq (hall q hq) neg, List.any_congr_mem fun q hq => ih q hq (hall q hq) neg⟩
  induction q using Askar.Wql.Lemmas.Query.induct' with
  | and qs ih =>
    intro hall neg
    have := conn qs ih hall
    simp only [Query.mapNames, holdsP]
    split
    · exact (this true).2
    · exact (this false).1
  | or qs ih =>
    intro hall neg
    have := conn qs ih hall
    simp only [Query.mapNames, holdsP]
    split
    · exact (this true).1
    · exact (this false).2
  | not q ih => exact fun hall neg => ih hall _
  | cmp op n v =>
    intro hall neg
    simp only [Query.mapNames, holdsP, atomCmp]
    rw [hrel n hall (fun x => cmpBytes like op (utf8 x) (utf8 v))]
  | isIn n vs =>
    intro hall neg
    simp only [Query.mapNames, holdsP, atomIn]
    rw [hrel n hall (fun x => vs.contains x)]
  | exist ns =>
    intro hall neg
    simp only [allNames, List.all_eq_true] at hall
    simp only [Query.mapNames, holdsP, List.all_map]
    refine List.all_congr_mem fun n hn => ?_
    have := hrel n (hall n hn) (fun _ => true)
    simp only [Bool.and_true] at this
    simp only [Function.comp, atomExist, this]

end Rename

theorem mapNames_comp {N M L : Type} (g : N → M) (k : M → L) (q : Query N) :
    (q.mapNames g).mapNames k = q.mapNames (k ∘ g) := by
  have conn : ∀ qs : List (Query N), (∀ q ∈ qs, (q.mapNames g).mapNames k = q.mapNames (k ∘ g)) →
      mapNamesList k (mapNamesList g qs) = mapNamesList (k ∘ g) qs := by
    intro qs ih
    simp only [mapNamesList_eq_map, List.map_map]
    exact List.map_congr_left ih
  induction q using Askar.Wql.Lemmas.Query.induct' with
  | and qs ih | or qs ih => simp only [Query.mapNames, conn qs ih]
  | not q ih => simp only [Query.mapNames, ih]
  | cmp _ _ _ | isIn _ _ => rfl
  | exist ns => simp only [Query.mapNames, List.map_map]

theorem any_lift (tags : List Tag) (pl : Bool) (m : String) (P : String → Bool) :
    (tags.any fun t => (t.plain == pl && t.name == addUser m) && P t.value)
      = ((liftTags tags).2.2.any fun t => (t.plain == pl && t.name == m) && P t.value) := by
  simp only [liftTags_eq, List.any_filterMap]
  congr 1
  funext t
  cases hs : stripUser t.name with
  | some n =>
    have : (t.name == addUser m) = (n == m) := by
      rw [stripUser_eq_some_iff.mp hs, Bool.eq_iff_iff, beq_iff_eq, beq_iff_eq]
      exact ⟨addUser_inj, congrArg addUser⟩
    simp only [this, Option.map_some]
  | none =>
    have : (t.name == addUser m) = false := beq_eq_false_iff_ne.mpr (ne_addUser_of_strip hs m)
    simp only [this, Bool.and_false, Bool.false_and, Option.map_none]

theorem getLast?_beq_of_const {α} [BEq α] [LawfulBEq α] (l : List α) (h : ∀ x ∈ l, ∀ y ∈ l, x = y) (a : α) :
    (l.getLast? == some a) = l.contains a := by
  cases hl : l.getLast? with
  | none => rw [List.getLast?_eq_none_iff.mp hl]; rfl
  | some b =>
    have hb : b ∈ l := List.mem_of_getLast? hl
    rw [Bool.eq_iff_iff, beq_iff_eq, List.contains_iff_mem]
    constructor
    · intro e; cases e; exact hb
    · intro ha; rw [h a ha b hb]

theorem alg_atom (tags : List Tag) (hw : SysTagsWF tags) (a : String) :
    (tags.any fun t => (t.plain == false && t.name == "alg") && (t.value == a)) = ((liftTags tags).1 == some a) := by
  rw [liftTags_eq, getLast?_beq_of_const _ (fun x hx y hy => by
    simp only [List.mem_map, List.mem_filter, beq_iff_eq] at hx hy
    obtain ⟨t1, ⟨h1, n1⟩, rfl⟩ := hx
    obtain ⟨t2, ⟨h2, n2⟩, rfl⟩ := hy
    exact hw.oneAlg t1 h1 t2 h2 n1 n2)]
  simp only [List.contains_eq_any_beq, List.any_map, List.any_filter, Function.comp_def]
  refine List.any_congr_mem fun t ht => ?_
  cases hn : t.name == "alg"
  · simp only [Bool.and_false, Bool.false_and]
  · simp only [hw.algEnc t ht (beq_iff_eq.mp hn), BEq.comm (a := a), beq_self_eq_true, Bool.and_self, Bool.true_and]

theorem thumb_atom (tags : List Tag) (hw : SysTagsWF tags) (x : String) :
    (tags.any fun t => (t.plain == false && t.name == "thumb") && (t.value == x)) = (liftTags tags).2.1.contains x := by
  simp only [liftTags_eq, List.contains_eq_any_beq, List.any_map, List.any_filter, Function.comp_def]
  refine List.any_congr_mem fun t ht => ?_
  cases hn : t.name == "thumb"
  · simp only [Bool.and_false, Bool.false_and]
  · simp only [hw.thumbEnc t ht (beq_iff_eq.mp hn), BEq.comm (a := x), beq_self_eq_true, Bool.and_self, Bool.true_and]

/-- which filter names `fetch_all_keys` maps correctly -/
def goodName (fixed : Bool) (n : String) : Bool := fixed || encName n

theorem splitName_addUser (k : String) : splitName (addUser k) = .enc (addUser k) := by
  simp [splitName, addUser_toList]

theorem split_map (fixed : Bool) (n : String) (hg : goodName fixed n = true) :
    (∃ m, splitName (mapFilterName fixed n) = .enc (addUser m) ∧ splitName n = .enc m) ∨
    (∃ m, splitName (mapFilterName fixed n) = .plain (addUser m) ∧ splitName n = .plain m) := by
  by_cases ht : ∃ rest, n.toList = '~' :: rest
  · -- a marked name is good only for the mapping that puts the prefix behind the marker
    obtain ⟨rest, hl⟩ := ht
    have hfix : fixed = true := by simpa [goodName, encName, hl] using hg
    subst hfix
    exact .inr ⟨String.ofList rest, by simp [mapFilterName, splitName, hl, addUser], by simp [splitName, hl]⟩
  · -- an unmarked name is prefixed as a whole by either mapping and stays an encrypted name
    have h1 : splitName n = .enc n := by
      unfold splitName; split
      · exact absurd ⟨_, ‹_›⟩ ht
      · rfl
    have h2 : mapFilterName fixed n = addUser n := by
      unfold mapFilterName; split
      · split
        · exact absurd ⟨_, ‹_›⟩ ht
        · rfl
      · rfl
    exact .inl ⟨n, by rw [h2, splitName_addUser], h1⟩

theorem nameRel_user (fixed : Bool) (tags : List Tag) (n : String) (hg : goodName fixed n = true) :
    NameRel tags (liftTags tags).2.2 (splitName (mapFilterName fixed n)) (splitName n) := by
  intro P
  rcases split_map fixed n hg with ⟨m, h1, h2⟩ | ⟨m, h1, h2⟩
  · rw [h1, h2]; exact any_lift tags false m P
  · rw [h1, h2]; exact any_lift tags true m P

theorem plain_preserved (fixed : Bool) (n : String) (hg : goodName fixed n = true) :
    (splitName (mapFilterName fixed n)).isPlain = (splitName n).isPlain := by
  rcases split_map fixed n hg with ⟨m, h1, h2⟩ | ⟨m, h1, h2⟩ <;> rw [h1, h2] <;> rfl

theorem solid_rename {N : Type} (g h : N → TagName) (good : N → Bool)
    (hp : ∀ n, good n = true → (g n).isPlain = (h n).isPlain) (q : Query N) :
    allNames good q = true → (q.mapNames g).solid = (q.mapNames h).solid := by
  have conn : ∀ qs : List (Query N),
      (∀ q ∈ qs, allNames good q = true → (q.mapNames g).solid = (q.mapNames h).solid) →
      allNamesList good qs = true →
        (!(mapNamesList g qs).isEmpty && solidList (mapNamesList g qs)) = (!(mapNamesList h qs).isEmpty && solidList (mapNamesList h qs)) := by
    intro qs ih hall
    rw [allNamesList_eq_all, List.all_eq_true] at hall
    simp only [mapNamesList_eq_map, solidList_eq_all, List.all_map, List.isEmpty_map]
    congr 1
    exact List.all_congr_mem fun q hq => ih q hq (hall q hq)
  induction q using Askar.Wql.Lemmas.Query.induct' with
  | and qs ih | or qs ih => exact fun hall => by simpa only [Query.mapNames, Query.solid] using conn qs ih hall
  | not q ih => exact fun hall => ih hall
  | cmp op n v =>
    intro hall
    simp only [allNames] at hall
    simp only [Query.mapNames, Query.solid, hp n hall]
  | isIn n vs => intro _; rfl
  | exist ns => intro _; simp only [Query.mapNames, Query.solid, List.isEmpty_map]

theorem holds_eq_atom (like : Bytes → Bytes → Bool) (tags : List Tag) (name a : String) (hn : splitName name = .enc name) :
    holds like tags (tagQuery (.cmp .eq name a))
      = tags.any fun t => (t.plain == false && t.name == name) && (t.value == a) := by
  simp only [tagQuery, Query.mapNames, hn, holds, holdsP, atomCmp, Tag.named, TagName.isPlain, TagName.str, cmpBytes,
    Askar.Wql.Lemmas.utf8_beq, Bool.false_bne]

theorem splitName_alg : splitName "alg" = .enc "alg" := by decide +kernel
theorem splitName_thumb : splitName "thumb" = .enc "thumb" := by decide +kernel

def keyParts (fixed : Bool) (alg thumb : Option String) (f : Option (Query String)) : List (Query String) :=
  (match f with | some q => [q.mapNames (mapFilterName fixed)] | none => []) ++
  (match alg with | some a => [Query.cmp .eq "alg" a] | none => []) ++
  (match thumb with | some t => [Query.cmp .eq "thumb" t] | none => [])

theorem keyFilter_eq (fixed : Bool) (alg thumb : Option String) (f : Option (Query String)) :
    keyFilter fixed alg thumb f =
      if (keyParts fixed alg thumb f).isEmpty then none else some (.and (keyParts fixed alg thumb f)) := rfl

theorem holds_and (like : Bytes → Bytes → Bool) (tags : List Tag) (qs : List (Query String)) :
    holds like tags (tagQuery (.and qs)) = qs.all fun q => holds like tags (tagQuery q) := by
  simp only [tagQuery, Query.mapNames, holds, holdsP, Bool.false_eq_true, if_false, mapNamesList_eq_map, holdsAll_eq_all,
    List.all_map]
  rfl

theorem keyFilter_holds (like : Bytes → Bytes → Bool) (fixed : Bool) (alg thumb : Option String) (f : Option (Query String))
    (tags : List Tag) (hw : SysTagsWF tags) (hgood : ∀ q, f = some q → allNames (goodName fixed) q = true) :
    (match keyFilter fixed alg thumb f with | none => true | some q => holds like tags (tagQuery q))
      = ((match alg with | some a => (liftTags tags).1 == some a | none => true) &&
         (match thumb with | some t => (liftTags tags).2.1.contains t | none => true) &&
         (match f with | some q => holds like (liftTags tags).2.2 (tagQuery q) | none => true)) := by
  have hparts : (match keyFilter fixed alg thumb f with | none => true | some q => holds like tags (tagQuery q))
      = (keyParts fixed alg thumb f).all fun q => holds like tags (tagQuery q) := by
    rw [keyFilter_eq]
    by_cases he : (keyParts fixed alg thumb f).isEmpty = true
    · rw [if_pos he, List.isEmpty_iff.mp he]; rfl
    · rw [if_neg he]; exact holds_and like tags _
  rw [hparts]
  unfold keyParts
  rw [List.all_append, List.all_append, Bool.and_assoc, Bool.and_comm]
  have one : ∀ q : Query String, ([q].all fun q => holds like tags (tagQuery q)) = holds like tags (tagQuery q) := fun q => by
    rw [List.all_cons, List.all_nil, Bool.and_true]
  congr 1
  · congr 1
    · cases alg with
      | none => rfl
      | some a => exact (one _).trans ((holds_eq_atom like tags "alg" a splitName_alg).trans (alg_atom tags hw a))
    · cases thumb with
      | none => rfl
      | some t => exact (one _).trans ((holds_eq_atom like tags "thumb" t splitName_thumb).trans (thumb_atom tags hw t))
  · cases f with
    | none => rfl
    | some q =>
      rw [one]
      simp only [tagQuery, holds]
      rw [mapNames_comp]
      exact holdsP_rename like tags (liftTags tags).2.2 (splitName ∘ mapFilterName fixed) splitName (goodName fixed)
        (nameRel_user fixed tags) q (hgood q rfl) false

theorem any_insertSorted {α} (le : α → α → Bool) (x : α) (l : List α) (P : α → Bool) :
    (insertSorted le x l).any P = (P x || l.any P) := by
  induction l with
  | nil => simp [insertSorted]
  | cons y ys ih =>
    simp only [insertSorted]
    split
    · simp
    · simp only [List.any_cons, ih]
      cases P x <;> cases P y <;> simp

theorem any_sortBy {α} (le : α → α → Bool) (l : List α) (P : α → Bool) : (sortBy le l).any P = l.any P := by
  induction l with
  | nil => rfl
  | cons x l ih =>
    have : sortBy le (x :: l) = insertSorted le x (sortBy le l) := rfl
    rw [this, any_insertSorted, ih, List.any_cons]

theorem holds_sortTags (like : Bytes → Bytes → Bool) (us : List Tag) (q : Query String) :
    holds like (sortTags us) (tagQuery q) = holds like us (tagQuery q) := by
  unfold holds tagQuery
  exact holdsP_rename like (sortTags us) us splitName splitName (fun _ => true)
    (fun n _ P => any_sortBy tagLe us _) q (allNames_true _ (fun _ => rfl) q) false

theorem contains_sortStrs (l : List String) (x : String) : (sortStrs l).contains x = l.contains x := by
  simp only [List.contains_eq_any_beq, sortStrs, any_sortBy]

/-- what `from_entry` makes of a stored row whose value decodes -/
def entryOf (C : Cbor) (it : Item) : KeyEntry :=
  ⟨it.name, (C.dec it.value).getD default, (liftTags it.tags).1, sortStrs (liftTags it.tags).2.1, sortTags (liftTags it.tags).2.2⟩

theorem fromEntry_entryOf (C : Cbor) (it : Item) (h : ∃ p, C.dec it.value = some p) :
    fromEntry C (toEntry it) = .ok (entryOf C it) := by
  obtain ⟨p, hp⟩ := h
  simp [fromEntry, toEntry, entryOf, hp]

theorem fromEntries_ok (C : Cbor) (l : List Item) (h : ∀ it ∈ l, ∃ p, C.dec it.value = some p) :
    fromEntries C (l.map toEntry) = .ok (l.map (entryOf C)) := by
  induction l with
  | nil => rfl
  | cons x l ih =>
    simp only [List.map_cons, fromEntries, fromEntry_entryOf C x (h x (by simp)), ih (fun it hit => h it (by simp [hit]))]

theorem filterMap_eq_map_of {α β} (f : α → Option β) (g : α → β) (l : List α) (h : ∀ x ∈ l, f x = some (g x)) :
    l.filterMap f = l.map g := by
  induction l with
  | nil => rfl
  | cons x l ih =>
    simp only [List.filterMap_cons, h x (by simp), List.map_cons, ih (fun y hy => h y (by simp [hy]))]

/-- "the encoder of C04 is exact for this filter on these rows" (supplied by `Wql.encode_correct`) -/
def FilterExact (like : Bytes → Bytes → Bool) (F : Option (Query String)) (db : Db) : Prop :=
  ∀ it ∈ db.items, matchTags like F it.tags = (match F with | none => true | some q => holds like it.tags (tagQuery q))

theorem row_exact (like : Bytes → Bytes → Bool) (C : Cbor) (fixed : Bool) (alg thumb : Option String) (f : Option (Query String))
    (it : Item) (hw : SysTagsWF it.tags) (hgood : ∀ q, f = some q → allNames (goodName fixed) q = true)
    (hx : matchTags like (keyFilter fixed alg thumb f) it.tags =
      (match keyFilter fixed alg thumb f with | none => true | some q => holds like it.tags (tagQuery q))) :
    matchFilter like (keyFilter fixed alg thumb f) it = refMatch like alg thumb f (entryOf C it) := by
  unfold matchFilter
  rw [hx, keyFilter_holds like fixed alg thumb f it.tags hw hgood]
  unfold refMatch entryOf
  simp only
  congr 1
  · congr 1
    cases thumb with
    | none => rfl
    | some t => simp only [contains_sortStrs]
  · cases f with
    | none => rfl
    | some q => simp only [holds_sortTags]

theorem fetchAllKeys_exact_of_filterExact (like : Bytes → Bytes → Bool) (C : Cbor) (fixed : Bool) (db : Db) (now : Int) (s : Sess)
    (alg thumb : Option String) (f : Option (Query String)) (lim : Option Int)
    (hS : Sorted db) (hW : KeysWF C s db)
    (hgood : ∀ q, f = some q → allNames (goodName fixed) q = true)
    (hX : FilterExact like (keyFilter fixed alg thumb f) db) :
    fetchAllKeys C like fixed db now s alg thumb f lim
      = .ok (window none lim ((keyEntries C db now s).filter (refMatch like alg thumb f))) := by
  let Q : Item → Bool := fun it => it.inScope s.pid s.key (some kmsKind) (some cryptoKey) && live now it
  have hQ : ∀ it ∈ db.items, Q it = true → it.key = s.key ∧ SysTagsWF it.tags ∧ ∃ p, C.dec it.value = some p := by
    intro it hit hq
    simp only [Q, Item.inScope, Bool.and_eq_true, beq_iff_eq] at hq
    exact ⟨hq.1.2.1, hW it hit hq.1.1.1 hq.1.1.2 hq.1.2.2⟩
  have hkeys : keyEntries C db now s = (db.items.filter Q).map (entryOf C) := by
    unfold keyEntries
    apply filterMap_eq_map_of
    intro it hit
    simp only [List.mem_filter] at hit
    rw [fromEntry_entryOf C it (hQ it hit.1 hit.2).2.2]
  have hsel : selectRows like db now s.pid s.key (some kmsKind) (some cryptoKey) (keyFilter fixed alg thumb f) none lim false
      = window none lim ((db.items.filter Q).filter fun it => refMatch like alg thumb f (entryOf C it)) := by
    unfold selectRows
    simp only [Bool.false_eq_true, if_false]
    rw [sortById_filter hS]
    congr 1
    rw [List.filter_filter]
    apply List.filter_congr
    intro it hit
    show (Q it && matchFilter like _ it) = (refMatch like alg thumb f (entryOf C it) && Q it)
    cases hq : Q it with
    | false => exact (Bool.and_false _).symm
    | true => exact (row_exact like C fixed alg thumb f it (hQ it hit hq).2.1 hgood (hX it hit)).trans (Bool.and_true _).symm
  unfold fetchAllKeys doFetchAll
  rw [hsel]
  have hrows : ∀ it ∈ window none lim ((db.items.filter Q).filter fun it => refMatch like alg thumb f (entryOf C it)),
      it.key = s.key ∧ SysTagsWF it.tags ∧ ∃ p, C.dec it.value = some p := fun it hit =>
    have hm := List.mem_filter.mp (List.mem_filter.mp (Askar.Store.Lemmas.mem_of_mem_window _ _ _ _ hit)).1
    hQ it hm.1 hm.2
  rw [Askar.Store.Lemmas.decryptRows_ok _ _ fun it hit => (hrows it hit).1]
  simp only
  rw [fromEntries_ok C _ fun it hit => (hrows it hit).2.2]
  rw [hkeys, ← Askar.Store.Lemmas.window_map, List.filter_map]
  rfl

/-! ### Bridge to C04 (`Wql.encode_correct`) -/

theorem filterExact_of_c04 (like : Bytes → Bytes → Bool) (F : Option (Query String)) (db : Db)
    (hD : ∀ q, F = some q → (tagQuery q).InDomain)
    (hP : ∀ q, F = some q → ∀ it ∈ db.items, TagCrypto.toy.NoPrefixCollision ((tagQuery q).values ++ it.tags.map (·.value))) :
    FilterExact like F db := by
  intro it hit
  cases F with
  | none => rfl
  | some q =>
    simp only [matchTags]
    exact Askar.Wql.Lemmas.encode_correct like TagCrypto.toy Askar.Wql.Lemmas.toy_inj (tagQuery q) (hD q rfl) it.tags (hP q rfl it hit)

theorem solid_eq_atom (name a : String) (hn : splitName name = .enc name) : (tagQuery (.cmp .eq name a)).solid = true := by
  simp [tagQuery, Query.mapNames, hn, Query.solid, CmpOp.equality]

theorem inDomain_and (qs : List (Query String)) (hne : qs ≠ []) (h : ∀ q ∈ qs, (tagQuery q).solid = true) :
    (tagQuery (.and qs)).InDomain := by
  have hl : solidList (mapNamesList splitName qs) = true := by
    rw [mapNamesList_eq_map, solidList_eq_all, List.all_map, List.all_eq_true]
    exact h
  cases qs with
  | nil => exact absurd rfl hne
  | cons q qs =>
    simp only [mapNamesList] at hl
    simp [Query.InDomain, tagQuery, Query.mapNames, mapNamesList, Query.inDomain, Query.solid, hl]

/-- the combined filter is in C04's domain when the caller's filter is (non-root form) and its names are good -/
theorem keyFilter_inDomain (fixed : Bool) (alg thumb : Option String) (f : Option (Query String))
    (hf : ∀ q, f = some q → (tagQuery q).solid = true ∧ allNames (goodName fixed) q = true) :
    ∀ Q, keyFilter fixed alg thumb f = some Q → (tagQuery Q).InDomain := by
  have hA : ∀ a, (tagQuery (.cmp .eq "alg" a)).solid = true := fun a => solid_eq_atom "alg" a splitName_alg
  have hT : ∀ t, (tagQuery (.cmp .eq "thumb" t)).solid = true := fun t => solid_eq_atom "thumb" t splitName_thumb
  have hF : ∀ q, f = some q → (tagQuery (q.mapNames (mapFilterName fixed))).solid = true := fun q hq => by
    unfold tagQuery
    rw [mapNames_comp, solid_rename (splitName ∘ mapFilterName fixed) splitName (goodName fixed)
      (plain_preserved fixed) q (hf q hq).2]
    exact (hf q hq).1
  intro Q hQ
  rw [keyFilter_eq] at hQ
  by_cases he : (keyParts fixed alg thumb f).isEmpty = true
  · simp [he] at hQ
  · simp only [he, Bool.false_eq_true, if_false] at hQ
    injection hQ with hQ; subst hQ
    apply inDomain_and
    · intro h; rw [h] at he; exact he rfl
    · intro q hq
      simp only [keyParts, List.mem_append] at hq
      rcases hq with (hq | hq) | hq
      · cases f with
        | none => cases hq
        | some q' => simp only [List.mem_singleton] at hq; subst hq; exact hF q' rfl
      · cases alg with
        | none => cases hq
        | some a => simp only [List.mem_singleton] at hq; subst hq; exact hA a
      · cases thumb with
        | none => cases hq
        | some t => simp only [List.mem_singleton] at hq; subst hq; exact hT t

theorem fetchAllKeys_exact_of_goodNames (fixed : Bool) (like : Bytes → Bytes → Bool) (C : Cbor) (db : Db) (now : Int) (s : Sess)
    (alg thumb : Option String) (f : Option (Query String)) (lim : Option Int)
    (hS : Sorted db) (hW : KeysWF C s db)
    (hf : ∀ q, f = some q → (tagQuery q).solid = true ∧ allNames (goodName fixed) q = true)
    (hP : ∀ Q, keyFilter fixed alg thumb f = some Q → ∀ it ∈ db.items,
        TagCrypto.toy.NoPrefixCollision ((tagQuery Q).values ++ it.tags.map (·.value))) :
    fetchAllKeys C like fixed db now s alg thumb f lim
      = .ok (window none lim ((keyEntries C db now s).filter (refMatch like alg thumb f))) :=
  fetchAllKeys_exact_of_filterExact like C fixed db now s alg thumb f lim hS hW (fun q hq => (hf q hq).2)
    (filterExact_of_c04 like _ db (keyFilter_inDomain fixed alg thumb f hf) hP)


/-! ### Invariants along call sequences -/

theorem sysTagsWF_keyTags (a : String) (ths : List String) (us : List Tag) : SysTagsWF (keyTags a ths us) := by
  -- a member with a system name is the `alg` tag or one of the `thumb` tags: encrypted, and `alg` carries `a`
  have key : ∀ t ∈ keyTags a ths us, t.name = "alg" ∨ t.name = "thumb" → t.plain = false ∧ (t.name = "alg" → t.value = a) := by
    intro t ht hn
    simp only [keyTags, algTags, List.mem_append, List.mem_map] at ht
    rcases ht with (ht | ⟨x, _, rfl⟩) | ⟨u, _, rfl⟩
    · split at ht
      · cases ht
      · rw [List.mem_singleton.mp ht]; exact ⟨rfl, fun _ => rfl⟩
    · exact ⟨rfl, fun h => absurd h.symm alg_ne_thumb⟩
    · exact (hn.elim (addUser_ne_alg _) (addUser_ne_thumb _)).elim
  exact ⟨fun t ht hn => (key t ht (.inl hn)).1, fun t ht hn => (key t ht (.inr hn)).1,
    fun t1 h1 t2 h2 n1 n2 => ((key t1 h1 (.inl n1)).2 n1).trans ((key t2 h2 (.inl n2)).2 n2).symm⟩

theorem sysTagsWF_update (us : List Tag) (ts : List Tag) (hw : SysTagsWF ts) :
    SysTagsWF (us.map userTag ++ ts.filter isSystemTag) := by
  -- user tags never carry a system name: a member with a system name is a tag of `ts`
  have sys : ∀ t ∈ us.map userTag ++ ts.filter isSystemTag, t.name = "alg" ∨ t.name = "thumb" → t ∈ ts := by
    intro t ht hn
    rcases List.mem_append.mp ht with ht | ht
    · obtain ⟨u, _, rfl⟩ := List.mem_map.mp ht
      exact (hn.elim (addUser_ne_alg _) (addUser_ne_thumb _)).elim
    · exact (List.mem_filter.mp ht).1
  exact ⟨fun t ht hn => hw.algEnc t (sys t ht (.inl hn)) hn, fun t ht hn => hw.thumbEnc t (sys t ht (.inr hn)) hn,
    fun t1 h1 t2 h2 n1 n2 => hw.oneAlg t1 (sys t1 h1 (.inl n1)) t2 (sys t2 h2 (.inl n2)) n1 n2⟩

/-- what reachable stores satisfy, as far as the key API is concerned -/
structure KeyInv (C : Cbor) (s : Sess) (db : Db) : Prop where
  sorted : Sorted db
  unique : UniqueIdent db
  wf : KeysWF C s db

/-- Ids stay increasing and identities unique under every effect of a call (`Effect.sorted`, `Effect.unique`); what the
    call wrote matters only for `KeysWF`: every row afterwards is a row from before or is in the written form. -/
theorem KeyInv.of_effect {C : Cbor} {s : Sess} {db db' : Db} (hI : KeyInv C s db) (he : Effect s db db')
    (hrows : ∀ it ∈ db'.items, it ∈ db.items ∨ (SysTagsWF it.tags ∧ ∃ p, C.dec it.value = some p)) : KeyInv C s db' :=
  ⟨he.sorted hI.sorted, he.unique hI.unique, fun it hit hp hk hc => (hrows it hit).elim (fun h => hI.wf it h hp hk hc) id⟩

/-! A successful write statement has the effect of the call of the store API whose body it is.  `like`, the page size and
    (for `remove`) the clock do not occur in a write step, so `step_effect` is taken at arbitrary values of them. -/

theorem effect_of_doInsert {db db' : Db} {now : Int} {s : Sess} {k : Kind} {c n : String} {v : Bytes} {t : Option (List Tag)}
    {e : Option Int} (h : doInsert db now s k c n v t e = .ok db') : Effect s db db' := by
  simpa only [step, h] using step_effect (fun _ _ => false) 1 now s db (.insert k c n v t e)

theorem effect_of_doReplace {db db' : Db} {now : Int} {s : Sess} {k : Kind} {c n : String} {v : Bytes} {t : Option (List Tag)}
    {e : Option Int} (h : doReplace db now s k c n v t e = .ok db') : Effect s db db' := by
  simpa only [step, h] using step_effect (fun _ _ => false) 1 now s db (.replace k c n v t e)

theorem effect_of_doRemove {db db' : Db} {s : Sess} {k : Kind} {c n : String} (h : doRemove db s k c n = .ok db') :
    Effect s db db' := by
  simpa only [step, h] using step_effect (fun _ _ => false) 1 0 s db (.remove k c n)

theorem keyInv_stepKey {K : Type} (C : Cbor) (hC : C.Lawful) (O : KeyOps K) (like : Bytes → Bytes → Bool) (fixed : Bool)
    (now : Int) (s : Sess) (db : Db) (op : KeyOp K) (hI : KeyInv C s db) :
    KeyInv C s (stepKey C O like fixed now s db op).1 := by
  cases op with
  | insertKey n k m r t e =>
    simp only [stepKey]
    split
    · next db' h =>
      unfold insertKey at h
      split at h
      · cases h
      · split at h
        · cases h
        · refine hI.of_effect (effect_of_doInsert h) fun it hit => ?_
          rw [(Askar.Store.Lemmas.doInsert_inv h).2] at hit
          rcases List.mem_append.mp hit with hit | hit
          · exact .inl hit
          · rw [List.mem_singleton.mp hit]; exact .inr ⟨sysTagsWF_keyTags _ _ _, _, hC _⟩
    · exact hI
  | updateKey n m t e =>
    simp only [stepKey]
    split
    · next db' h =>
      unfold updateKey at h
      split at h
      · cases h
      · next row hrow =>
        split at h
        · cases h
        · -- the fetched row is a well-formed key row
          obtain ⟨it, hfind, hid, rfl⟩ := doFetch_some hrow
          have hw := (hI.wf it (List.mem_of_find?_eq_some hfind) hid.1 hid.2.2.1 hid.2.2.2.1).1
          refine hI.of_effect (effect_of_doReplace h) fun it' hit => ?_
          rw [Askar.Store.Lemmas.doReplace_inv h] at hit
          obtain ⟨x, hx, rfl⟩ := List.mem_map.mp hit
          split
          · exact .inr ⟨sysTagsWF_update _ _ hw, _, hC _⟩
          · exact .inl hx
    · exact hI
  | removeKey n =>
    simp only [stepKey]
    split
    · next db' h =>
      exact hI.of_effect (effect_of_doRemove h) fun it hit => .inl (List.mem_filter.mp ((doRemove_ok h).1 ▸ hit)).1
    · exact hI
  | fetchKey _ | fetchAllKeys _ _ _ _ => simp only [stepKey]; split <;> exact hI

theorem runKeys_eq {K : Type} (C : Cbor) (O : KeyOps K) (like : Bytes → Bytes → Bool) (fixed : Bool) (now : Int) (s : Sess) :
    ∀ (db : Db) (ops : List (KeyOp K)), runKeys C O like fixed now s db ops = Run.run (stepKey C O like fixed now s) db ops
  | _, [] => rfl
  | db, op :: ops => by simp only [runKeys, Run.run, runKeys_eq C O like fixed now s _ ops]

theorem keyInv_empty (C : Cbor) (s : Sess) (profiles : List Profile) : KeyInv C s { items := [], profiles := profiles } :=
  ⟨by simp [Sorted], by simp [UniqueIdent], by intro it hit; cases hit⟩

/-! ### The witness against the prefix-before-`~` mapping (`fixed = false`, D6) -/

def wC : Cbor := ⟨fun _ => [], fun _ => some ⟨none, none, none⟩⟩
def wRow : Item :=
  { id := 1, pid := 1, key := 0, kind := kmsKind, cat := cryptoKey, name := "k", value := [],
    tags := [userTag ⟨true, "t", "v"⟩], expiry := none }
def wDb : Db := { items := [wRow] }
def wS : Sess := ⟨1, 0⟩
def wF : Query String := .cmp .eq "~t" "v"

theorem ofList_t : String.ofList ['t'] = "t" := by decide +kernel

theorem w_sorted : Sorted wDb := by simp [Sorted, wDb]

theorem w_wf : KeysWF wC wS wDb := by
  intro it hit _ _ _
  simp only [wDb, List.mem_singleton] at hit
  subst hit
  refine ⟨⟨?_, ?_, ?_⟩, ⟨_, rfl⟩⟩
  · intro t ht hn; simp only [wRow, List.mem_singleton] at ht; subst ht; exact absurd hn (addUser_ne_alg _)
  · intro t ht hn; simp only [wRow, List.mem_singleton] at ht; subst ht; exact absurd hn (addUser_ne_thumb _)
  · intro t1 h1 t2 h2 _ _
    simp only [wRow, List.mem_singleton] at h1 h2; rw [h1, h2]

theorem w_solid : ∀ q, some wF = some q → (tagQuery q).solid = true := by
  intro q hq
  cases hq
  decide +kernel

theorem w_noCollision : ∀ Q, keyFilter false none none (some wF) = some Q → ∀ it ∈ wDb.items,
    TagCrypto.toy.NoPrefixCollision ((tagQuery Q).values ++ it.tags.map (·.value)) := by
  intro Q hQ it hit a ha b hb _
  have hQ' : keyFilter false none none (some wF) = some (.and [.cmp .eq (addUser "~t") "v"]) := by
    simp [keyFilter, wF, Query.mapNames, mapFilterName]
  rw [hQ'] at hQ
  cases hQ
  simp only [wDb, List.mem_singleton] at hit
  subst hit
  simp [tagQuery, Query.mapNames, mapNamesList, Query.values, valuesList, wRow, userTag] at ha hb
  rw [ha, hb]

/-- what `fetch_all_keys` with `fixed = false` returns on the witness: the filter `{"~t": "v"}` has become the encrypted name
    `user:~t` and selects nothing -/
theorem w_lhs : fetchAllKeys wC (fun _ _ => false) false wDb 0 wS none none (some wF) none = .ok [] := by
  have hsel : selectRows (fun _ _ => false) wDb 0 wS.pid wS.key (some kmsKind) (some cryptoKey)
      (keyFilter false none none (some wF)) none none false = [] := by decide +kernel
  simp only [fetchAllKeys, doFetchAll, hsel, decryptRows, fromEntries]

/-- what the reference semantics selects: the key -/
theorem w_rhs : (keyEntries wC wDb 0 wS).filter (refMatch (fun _ _ => false) none none (some wF)) ≠ [] := by
  decide +kernel

/-! ### Instances satisfying the hypotheses (non-vacuity) -/

namespace Toy

def encNat (n : Nat) : Bytes := List.replicate n 1 ++ [0]

def decNat : Bytes → Option (Nat × Bytes)
  | [] => none
  | b :: r => if b = 0 then some (0, r) else if b = 1 then (decNat r).map fun (n, r') => (n + 1, r') else none

theorem decNat_encNat (n : Nat) (r : Bytes) : decNat (encNat n ++ r) = some (n, r) := by
  induction n with
  | zero => simp [encNat, decNat]
  | succ n ih =>
    have : encNat (n + 1) ++ r = 1 :: (encNat n ++ r) := by simp [encNat, List.replicate_succ]
    rw [this, decNat]; simp [ih]

def encBytes (b : Bytes) : Bytes := encNat b.length ++ b

def decBytes (x : Bytes) : Option (Bytes × Bytes) :=
  match decNat x with
  | none => none
  | some (n, r) => if n ≤ r.length then some (r.take n, r.drop n) else none

theorem decBytes_encBytes (b r : Bytes) : decBytes (encBytes b ++ r) = some (b, r) := by
  simp [decBytes, encBytes, List.append_assoc, decNat_encNat]

def encStr (s : String) : Bytes := encBytes (utf8 s)

open Classical in
noncomputable def decStr (x : Bytes) : Option (String × Bytes) :=
  match decBytes x with
  | none => none
  | some (b, r) => if h : ∃ s, utf8 s = b then some (choose h, r) else none

theorem decStr_encStr (s : String) (r : Bytes) : decStr (encStr s ++ r) = some (s, r) := by
  have h : ∃ s', utf8 s' = utf8 s := ⟨s, rfl⟩
  simp only [decStr, encStr, decBytes_encBytes, h, dite_true]
  rw [Askar.Wql.Lemmas.utf8_inj (Classical.choose_spec h)]

def encRef : Option KeyRef → Bytes
  | none => [0]
  | some .mobileSecureElement => [1]
  | some (.any s) => 2 :: encStr s

noncomputable def decRef : Bytes → Option (Option KeyRef × Bytes)
  | [] => none
  | b :: r =>
    if b = 0 then some (none, r) else if b = 1 then some (some .mobileSecureElement, r)
    else if b = 2 then (decStr r).map fun (s, r') => (some (.any s), r') else none

theorem decRef_encRef (x : Option KeyRef) (r : Bytes) : decRef (encRef x ++ r) = some (x, r) := by
  cases x with
  | none => simp [encRef, decRef]
  | some k =>
    cases k with
    | mobileSecureElement => simp [encRef, decRef]
    | any s => simp [encRef, decRef, decStr_encStr]

def enc (p : KeyParams) : Bytes :=
  (match p.meta with | none => [0] | some m => 1 :: encStr m) ++ encRef p.ref ++
  (match p.data with | none => [0] | some d => 1 :: encBytes d)

noncomputable def dec (x : Bytes) : Option KeyParams :=
  let m : Option (Option String × Bytes) := match x with
    | [] => none
    | b :: r => if b = 0 then some (none, r) else if b = 1 then (decStr r).map fun (s, r') => (some s, r') else none
  match m with
  | none => none
  | some (mt, r1) =>
    match decRef r1 with
    | none => none
    | some (rf, r2) =>
      match r2 with
      | [] => none
      | b :: r =>
        if b = 0 then (if r = [] then some ⟨mt, rf, none⟩ else none)
        else if b = 1 then (match decBytes r with | some (d, []) => some ⟨mt, rf, some d⟩ | _ => none)
        else none

noncomputable def cbor : Cbor := ⟨enc, dec⟩

theorem cbor_lawful : cbor.Lawful := by
  intro ⟨m, rf, d⟩
  have hb : ∀ b, decBytes (encBytes b) = some (b, []) := fun b => by simpa using decBytes_encBytes b []
  cases m <;> cases d <;> simp [cbor, enc, dec, List.append_assoc, decStr_encStr, decRef_encRef, hb]

/-- toy key material: `true` is an AES-128-GCM key, `false` an Ed25519 key; import has no `oct` branch -/
def keyOps : KeyOps Bool where
  alg k := if k then "a128gcm" else "ed25519"
  thumbs k := .ok [if k then "T1" else "T0"]
  encode k := .ok [if k then 1 else 0]
  decode b := if b = [0] then .ok false else .error .unsupported
  fromId _ _ := .error .unsupported
  asStr _ := none

theorem keyOps_lawful : keyOps.Lawful false := by
  refine ⟨?_, ?_⟩
  · intro k b hb himp
    cases k with
    | true => exact absurd himp (by decide +kernel)
    | false => simp only [keyOps] at hb; injection hb with hb; subst hb; rfl
  · intro _ b k h
    cases k with
    | true => simp only [keyOps] at h; split at h <;> cases h
    | false => decide +kernel

end Toy

end Askar.KeyStore.Lemmas
