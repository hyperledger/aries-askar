/-
Lemmas for Model/PgOptions.lean (`PostgresStoreOptions::new`), used by Props/C08Pg.lean.  Vocabulary of the
statements there that is defined here: `schemaOk`, `pgValue`, `numBad`, `numsOk` (the outcome table), `adminWitness`,
`adminWitness2` (the two counterexamples to the admin URI).
-/
import AskarModel.Model.PgOptions
import AskarModel.Lemmas.Uri
import AskarModel.Lemmas.SqliteOpts

namespace Askar.PgOptions
open Askar.Uri

/-! ### the query map under `remove` -/

theorem mapGet_filter_self (m : QueryMap) (k : Str) : mapGet (m.filter fun e => e.1 ≠ k) k = none :=
  (mapGet_filter_key m (fun x => decide (x ≠ k)) k).trans (if_neg (by simp))

theorem key_notin_of_mem_filter {m : QueryMap} {ks : List Str} {kv : Str × Str}
    (h : kv ∈ m.filter fun e => !ks.contains e.1) : kv.1 ∉ ks := by
  simpa using (List.mem_filter.1 h).2

theorem filter_ne_eq (m : QueryMap) (k : Str) : (m.filter fun e => e.1 ≠ k) = m.filter fun e => ![k].contains e.1 := by
  congr 1
  funext e
  simp

theorem filter_notin_filter_ne (m : QueryMap) (ks : List Str) (k : Str) :
    ((m.filter fun e => !ks.contains e.1).filter fun e => e.1 ≠ k) = m.filter fun e => !(ks ++ [k]).contains e.1 := by
  rw [List.filter_filter]
  congr 1
  funext e
  simp [Bool.and_comm]

/-! ### normal form of `pgNew`: every `remove` looks at the ORIGINAL map (the seven names are distinct) -/

def schemaOk (o : Options) : Bool :=
  match mapGet o.query kSchema with
  | some s => validIdent s
  | none => true

/-- the record a successful call returns -/
def pgValue (o : Options) (ct it maxc minc : Nat) : PgOpts :=
  { connectTimeout := ct, idleTimeout := it, maxConnections := maxc, minConnections := minc,
    uriOpts := withoutConsumed o, adminOpts := adminExpected o,
    host := o.host, name := o.path.drop 1, username := usernameOf o, schema := mapGet o.query kSchema }

/-- the part of `new` after the four numbers -/
def pgTail (o : Options) (ct it maxc minc : Nat) : Except Fail PgOpts :=
  if o.path.length < 2 then .error .input
  else if !boundaryAt1 o.path then .error .panic
  else if !schemaOk o then .error .input
  else if !validIdent (o.path.drop 1) then .error .input
  else if !validIdent (usernameOf o) then .error .input
  else .ok (pgValue o ct it maxc minc)

theorem pgNew_eq (o : Options) : pgNew o =
    match numOf 64 defaultConnectTimeout (mapGet o.query kConnect) with
    | .error e => .error e
    | .ok ct =>
    match numOf 64 defaultIdleTimeout (mapGet o.query kIdle) with
    | .error e => .error e
    | .ok it =>
    match numOf 32 defaultMaxConnections (mapGet o.query kMax) with
    | .error e => .error e
    | .ok maxc =>
    match numOf 32 defaultMinConnections (mapGet o.query kMin) with
    | .error e => .error e
    | .ok minc => pgTail o ct it maxc minc := by
  unfold pgNew mapRemove
  -- the map left after the removals so far is `o.query` without a list of keys …
  simp only [filter_ne_eq o.query, filter_notin_filter_ne, List.cons_append, List.nil_append]
  -- … none of which is the next key (`rw`, not `simp`: the goal is the whole unfolded `pgNew`)
  rw [mapGet_filter_notin _ _ kIdle, mapGet_filter_notin _ _ kMax, mapGet_filter_notin _ _ kMin,
    mapGet_filter_notin _ _ kSchema, mapGet_filter_notin _ _ kAdminAcct, mapGet_filter_notin _ _ kAdminPass]
  rfl

/-! ### the numeric parameters -/

def numBad (o : Options) (bits : Nat) (k : Str) : Prop := ∃ v, mapGet o.query k = some v ∧ parseUnsigned bits v = none

theorem numOf_err_iff (bits d : Nat) (x : Option Str) (e : Fail) :
    numOf bits d x = .error e ↔ e = .input ∧ ∃ v, x = some v ∧ parseUnsigned bits v = none := by
  cases x with
  | none => simp [numOf]
  | some v =>
    cases h : parseUnsigned bits v <;> simp [numOf, h, eq_comm]

theorem numOf_ok_iff (bits d : Nat) (x : Option Str) (n : Nat) :
    numOf bits d x = .ok n ↔ (x = none ∧ n = d) ∨ ∃ v, x = some v ∧ parseUnsigned bits v = some n := by
  cases x with
  | none => simp [numOf, eq_comm]
  | some v =>
    cases h : parseUnsigned bits v <;> simp [numOf, h, eq_comm]

theorem numOf_reads {bits d : Nat} {x : Option Str} {n : Nat} (h : numOf bits d x = .ok n) : NumReads x bits d n := by
  rcases (numOf_ok_iff bits d x n).1 h with ⟨rfl, hn⟩ | ⟨v, rfl, hv⟩
  · exact hn
  · exact hv

theorem numOf_lt {bits d : Nat} {x : Option Str} {n : Nat} (hd : d < 2 ^ bits) (h : numOf bits d x = .ok n) : n < 2 ^ bits := by
  rcases (numOf_ok_iff bits d x n).1 h with ⟨-, rfl⟩ | ⟨v, -, hv⟩
  · exact hd
  · exact parseUnsigned_lt hv

theorem not_numBad_of_ok {o : Options} {bits d : Nat} {k : Str} {n : Nat}
    (h : numOf bits d (mapGet o.query k) = .ok n) : ¬ numBad o bits k := by
  intro hb
  have := (numOf_err_iff bits d _ .input).2 ⟨rfl, hb⟩
  rw [h] at this; cases this

theorem numOf_ok_or_bad (o : Options) (bits d : Nat) (k : Str) :
    (∃ n, numOf bits d (mapGet o.query k) = .ok n) ∨
    (numBad o bits k ∧ numOf bits d (mapGet o.query k) = .error .input) := by
  cases h : numOf bits d (mapGet o.query k) with
  | ok n => exact Or.inl ⟨n, rfl⟩
  | error e =>
    obtain ⟨rfl, hb⟩ := (numOf_err_iff bits d _ e).1 h
    exact Or.inr ⟨hb, rfl⟩

def numsOk (o : Options) : Prop :=
  ¬ numBad o 64 kConnect ∧ ¬ numBad o 64 kIdle ∧ ¬ numBad o 32 kMax ∧ ¬ numBad o 32 kMin

/-! ### outcome tables -/

theorem schemaOk_iff (o : Options) : schemaOk o = true ↔ ∀ s, mapGet o.query kSchema = some s → validIdent s = true := by
  unfold schemaOk
  cases mapGet o.query kSchema <;> simp

theorem validIdent_iff (s : Str) : validIdent s = true ↔ s ≠ [] ∧ (0x22 : UInt8) ∉ s ∧ (0x00 : UInt8) ∉ s := by
  simp [validIdent, and_assoc]

theorem usernameOf_eq (o : Options) : usernameOf o = if o.user = [] then sPostgres else o.user := by
  unfold usernameOf
  by_cases h : o.user = [] <;> simp [h]

theorem guard_eq_ok {α ε : Type} (c : Prop) [Decidable c] (e : ε) (x : Except ε α) (r : α) :
    (if c then .error e else x) = .ok r ↔ ¬ c ∧ x = .ok r := by
  by_cases h : c <;> simp [h]

theorem guard_eq_same {α ε : Type} (c : Prop) [Decidable c] (e : ε) (x : Except ε α) :
    (if c then .error e else x) = .error e ↔ c ∨ x = .error e := by
  by_cases h : c <;> simp [h]

theorem guard_eq_other {α ε : Type} (c : Prop) [Decidable c] {e e' : ε} (x : Except ε α) (h : e ≠ e') :
    (if c then .error e else x) = .error e' ↔ ¬ c ∧ x = .error e' := by
  by_cases hc : c <;> simp [hc, h]

theorem pgTail_ok_iff (o : Options) (ct it maxc minc : Nat) (r : PgOpts) :
    pgTail o ct it maxc minc = .ok r ↔
      2 ≤ o.path.length ∧ boundaryAt1 o.path = true ∧ schemaOk o = true ∧ validIdent (o.path.drop 1) = true ∧
      validIdent (usernameOf o) = true ∧ r = pgValue o ct it maxc minc := by
  simp only [pgTail, guard_eq_ok, Nat.not_lt, Bool.not_eq_true', Bool.not_eq_false, Except.ok.injEq, eq_comm (a := r)]

theorem pgTail_input_iff (o : Options) (ct it maxc minc : Nat) :
    pgTail o ct it maxc minc = .error .input ↔
      o.path.length < 2 ∨ (boundaryAt1 o.path = true ∧
        (schemaOk o = false ∨ validIdent (o.path.drop 1) = false ∨ validIdent (usernameOf o) = false)) := by
  simp only [pgTail, guard_eq_same, guard_eq_other, ne_eq, reduceCtorEq, not_false_eq_true, Bool.not_eq_true', Bool.not_eq_false,
    or_false]

theorem pgTail_panic_iff (o : Options) (ct it maxc minc : Nat) :
    pgTail o ct it maxc minc = .error .panic ↔ 2 ≤ o.path.length ∧ boundaryAt1 o.path = false := by
  simp only [pgTail, guard_eq_same, guard_eq_other, ne_eq, reduceCtorEq, not_false_eq_true, Nat.not_lt, Bool.not_eq_true',
    and_false, or_false]

theorem pgNew_cases (o : Options) :
    (¬ numsOk o ∧ pgNew o = .error .input) ∨
    (numsOk o ∧ ∃ ct it maxc minc,
      numOf 64 defaultConnectTimeout (mapGet o.query kConnect) = .ok ct ∧
      numOf 64 defaultIdleTimeout (mapGet o.query kIdle) = .ok it ∧
      numOf 32 defaultMaxConnections (mapGet o.query kMax) = .ok maxc ∧
      numOf 32 defaultMinConnections (mapGet o.query kMin) = .ok minc ∧
      pgNew o = pgTail o ct it maxc minc) := by
  rw [pgNew_eq]
  rcases numOf_ok_or_bad o 64 defaultConnectTimeout kConnect with ⟨ct, h1⟩ | ⟨b, h1⟩ <;> rw [h1]
  case inr => exact Or.inl ⟨fun hn => hn.1 b, rfl⟩
  rcases numOf_ok_or_bad o 64 defaultIdleTimeout kIdle with ⟨it, h2⟩ | ⟨b, h2⟩ <;> rw [h2]
  case inr => exact Or.inl ⟨fun hn => hn.2.1 b, rfl⟩
  rcases numOf_ok_or_bad o 32 defaultMaxConnections kMax with ⟨maxc, h3⟩ | ⟨b, h3⟩ <;> rw [h3]
  case inr => exact Or.inl ⟨fun hn => hn.2.2.1 b, rfl⟩
  rcases numOf_ok_or_bad o 32 defaultMinConnections kMin with ⟨minc, h4⟩ | ⟨b, h4⟩ <;> rw [h4]
  case inr => exact Or.inl ⟨fun hn => hn.2.2.2 b, rfl⟩
  exact Or.inr ⟨⟨not_numBad_of_ok h1, not_numBad_of_ok h2, not_numBad_of_ok h3, not_numBad_of_ok h4⟩,
    ct, it, maxc, minc, rfl, rfl, rfl, rfl, rfl⟩

theorem pgNew_ok_iff (o : Options) (r : PgOpts) :
    pgNew o = .ok r ↔
      numOf 64 defaultConnectTimeout (mapGet o.query kConnect) = .ok r.connectTimeout ∧
      numOf 64 defaultIdleTimeout (mapGet o.query kIdle) = .ok r.idleTimeout ∧
      numOf 32 defaultMaxConnections (mapGet o.query kMax) = .ok r.maxConnections ∧
      numOf 32 defaultMinConnections (mapGet o.query kMin) = .ok r.minConnections ∧
      2 ≤ o.path.length ∧ boundaryAt1 o.path = true ∧ schemaOk o = true ∧ validIdent (o.path.drop 1) = true ∧
      validIdent (usernameOf o) = true ∧
      r = pgValue o r.connectTimeout r.idleTimeout r.maxConnections r.minConnections := by
  rcases pgNew_cases o with ⟨hn, h⟩ | ⟨-, ct, it, maxc, minc, h1, h2, h3, h4, h⟩
  · rw [h]
    refine ⟨(fun e => nomatch e), fun hr => absurd ?_ hn⟩
    exact ⟨not_numBad_of_ok hr.1, not_numBad_of_ok hr.2.1, not_numBad_of_ok hr.2.2.1, not_numBad_of_ok hr.2.2.2.1⟩
  · rw [h, h1, h2, h3, h4, pgTail_ok_iff]
    simp only [Except.ok.injEq]
    constructor
    · rintro ⟨a, b, c, d, e, rfl⟩
      exact ⟨rfl, rfl, rfl, rfl, a, b, c, d, e, rfl⟩
    · rintro ⟨rfl, rfl, rfl, rfl, a, b, c, d, e, f⟩
      exact ⟨a, b, c, d, e, f⟩

theorem pgNew_ok_fields {o : Options} {r : PgOpts} (h : pgNew o = .ok r) :
    r.uriOpts = withoutConsumed o ∧ r.adminOpts = adminExpected o ∧ r.host = o.host ∧ r.name = o.path.drop 1 ∧
    r.username = usernameOf o ∧ r.schema = mapGet o.query kSchema := by
  obtain ⟨-, -, -, -, -, -, -, -, -, hr⟩ := (pgNew_ok_iff o r).1 h
  rw [hr]
  exact ⟨rfl, rfl, rfl, rfl, rfl, rfl⟩

/-! ### a path that comes out of `parse_uri` never makes the slice panic

Such a path is empty or `/` followed by the output of `from_utf8_lossy` (`dec_slash`, `dropWhile_slash` in Lemmas/Uri.lean;
put together in `C08Pg.parsed_path_shape`). -/

/-- the first byte `from_utf8_lossy` writes is never a continuation byte -/
theorem boundaryAt1_slash_lossy (t : Str) : boundaryAt1 (0x2F :: lossy t) = true := by
  unfold lossy
  cases t with
  | nil => simp [lossyAux, boundaryAt1]
  | cons b0 rest =>
    simp only [lossyAux]
    cases hst : (lossyStep b0 rest).2 with
    | false => simp [replacement, boundaryAt1, isCont]
    | true =>
      have : isCont b0 = false := by
        cases hc : isCont b0 with
        | false => rfl
        | true => rw [lossyStep_cont b0 rest hc] at hst; cases hst
      simp [boundaryAt1, this]

/-! ### well-formedness of the two serialised values -/

theorem wfp_withoutConsumed {o : Options} (w : WFp o) : WFp (withoutConsumed o) :=
  ⟨w.vs, w.vu, w.vp, w.vh, w.vpa, w.vf,
   fun kv h => w.vq kv (List.mem_filter.1 h).1,
   w.nd.sublist (List.filter_sublist.map (fun e : Str × Str => e.1)),
   w.h1, w.h2, w.h3, w.h4, w.p0, w.p2, w.p3, w.p4, w.hat, w.sc, w.sl⟩

theorem wf_withoutConsumed {o : Options} (h : o.WF = true) : (withoutConsumed o).WF = true :=
  wf_iff.2 (wfp_withoutConsumed (wf_iff.1 h))

theorem validUtf8_getD {m : QueryMap} (hv : ∀ kv ∈ m, validUtf8 kv.2 = true) (k d : Str) (hd : validUtf8 d = true) :
    validUtf8 ((mapGet m k).getD d) = true := by
  cases h : mapGet m k with
  | none => exact hd
  | some v =>
    obtain ⟨kv, hm, _, h2⟩ := mapGet_some_mem h
    simpa [h2] using hv kv hm

/-- sufficient for the admin options to be inside the domain of the URI syntax: there is a scheme, and the host has no `@` -/
theorem wfp_adminExpected {o : Options} (w : WFp o) (hs : o.scheme ≠ []) (hat : (0x40 : UInt8) ∉ o.host) :
    WFp (adminExpected o) := by
  have ⟨a1, a2, a3, a4, a5, a6, a7⟩ :
      validUtf8 sAdminPath = true ∧ sAdminPath.head? = some 0x2F ∧ (0x3F : UInt8) ∉ sAdminPath ∧ (0x23 : UInt8) ∉ sAdminPath ∧
      hasEscape sAdminPath = false ∧ (0x40 : UInt8) ∉ sAdminPath ∧ startsWith2Slash sAdminPath = false := by decide
  have hv : ∀ kv ∈ o.query, validUtf8 kv.2 = true := fun kv h => (w.vq kv h).2
  -- the query is that of `withoutConsumed o`
  have w' := wfp_withoutConsumed w
  exact
  ⟨w.vs, validUtf8_getD hv kAdminAcct o.user w.vu, validUtf8_getD hv kAdminPass o.password w.vp, w.vh, a1, w.vf,
   w'.vq, w'.nd,
   w.h1, w.h2, w.h3, w.h4, Or.inr a2, a3, a4, a5,
   fun _ hm => (List.mem_append.1 hm).elim hat a6,
   fun h => absurd h hs,
   fun _ _ _ => a7⟩

/-! ### witnesses: the admin credentials can take the options out of the domain of the URI syntax -/

/-- `h/db?admin_account=adm`: no scheme, no user — inside `WF`; with the admin account the text is `adm:@h/postgres`, whose
    first `:` ends a scheme -/
def adminWitness : Options :=
  { host := [0x68], path := [0x2F, 0x64, 0x62], query := [(kAdminAcct, [0x61, 0x64, 0x6D])] }

/-- `postgres://u:@a@b/db?admin_account=&admin_password=`: user-info in front of a host with `@` — inside `WF`; with both
    admin credentials empty no user-info is written and the `@` of the host ends one -/
def adminWitness2 : Options :=
  { scheme := sPostgres, user := [0x75], host := [0x61, 0x40, 0x62], path := [0x2F, 0x64, 0x62],
    query := [(kAdminAcct, []), (kAdminPass, [])] }

theorem adminWitness_wf : adminWitness.WF = true := by decide
theorem adminWitness2_wf : adminWitness2.WF = true := by decide

theorem adminWitness_ok : pgNew adminWitness = .ok (pgValue adminWitness 30 300 10 0) := by rfl
theorem adminWitness2_ok : pgNew adminWitness2 = .ok (pgValue adminWitness2 30 300 10 0) := by rfl

theorem adminWitness_scheme : (parseUri (intoUriWith [] (adminExpected adminWitness))).scheme = [0x61, 0x64, 0x6D] := by decide
theorem adminWitness2_user : (parseUri (intoUriWith [] (adminExpected adminWitness2))).user = [0x61] := by decide

end Askar.PgOptions
