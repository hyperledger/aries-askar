/- Lemmas for `AskarModel.Model.TwoHandles` (several store handles on one database). -/
import AskarModel.Model.TwoHandles

namespace Askar.TwoHandles

/-- results are decidable (used by the concrete witnesses) -/
instance instDecidableEqExcept {ε α : Type} [DecidableEq ε] [DecidableEq α] : DecidableEq (Except ε α) := fun a b =>
  match a, b with
  | .ok x, .ok y => if h : x = y then isTrue (h ▸ rfl) else isFalse (fun e => by cases e; exact h rfl)
  | .error x, .error y => if h : x = y then isTrue (h ▸ rfl) else isFalse (fun e => by cases e; exact h rfl)
  | .ok _, .error _ => isFalse (fun e => by cases e)
  | .error _, .ok _ => isFalse (fun e => by cases e)

theorem le_maxId {ps : List ProfRow} {r : ProfRow} (h : r ∈ ps) : r.id ≤ maxId ps := by
  induction ps with
  | nil => cases h
  | cons a as ih =>
    simp only [maxId]
    rcases List.mem_cons.mp h with rfl | h'
    · exact Nat.le_max_left _ _
    · exact Nat.le_trans (ih h') (Nat.le_max_right _ _)

theorem hasId_iff {db : Db} {p : Pid} : db.hasId p = true ↔ ∃ r ∈ db.profiles, r.id = p := by
  simp [Db.hasId]

theorem rowByName_some {db : Db} {n : String} {row : ProfRow} (h : db.rowByName n = some row) :
    row ∈ db.profiles ∧ row.name = n := by
  unfold Db.rowByName at h
  exact ⟨List.mem_of_find?_eq_some h, by simpa using List.find?_some h⟩

theorem rowByName_none {db : Db} {n : String} (h : db.rowByName n = none) : ∀ r ∈ db.profiles, r.name ≠ n := by
  unfold Db.rowByName at h
  intro r hr
  have := List.find?_eq_none.mp h r hr
  simpa using this

theorem hasId_of_rowByName {db : Db} {n : String} {row : ProfRow} (h : db.rowByName n = some row) :
    db.hasId row.id = true :=
  hasId_iff.mpr ⟨row, (rowByName_some h).1, rfl⟩

theorem filter_name_ne_of_absent {ps : List ProfRow} {n : String} (h : ∀ r ∈ ps, r.name ≠ n) :
    ps.filter (fun r => decide (r.name ≠ n)) = ps := by
  rw [List.filter_eq_self]
  intro r hr
  simpa using h r hr

theorem cacheGet_some {c : List CacheEntry} {n : String} {e : CacheEntry} (h : cacheGet c n = some e) :
    e ∈ c ∧ e.name = n := by
  unfold cacheGet at h
  exact ⟨List.mem_of_find?_eq_some h, by simpa using List.find?_some h⟩

theorem cacheGet_cachePut (c : List CacheEntry) (n : String) (p : Pid) (k : Key) :
    cacheGet (cachePut c n p k) n = some ⟨n, p, k⟩ := by
  simp [cacheGet, cachePut]

theorem cacheGet_cacheDel (c : List CacheEntry) (n : String) : cacheGet (cacheDel c n) n = none := by
  unfold cacheGet cacheDel
  rw [List.find?_eq_none]
  intro e he
  have := (List.mem_filter.mp he).2
  simpa using this

theorem mem_cacheDel {c : List CacheEntry} {n : String} {e : CacheEntry} (h : e ∈ cacheDel c n) : e ∈ c ∧ e.name ≠ n := by
  have := List.mem_filter.mp h
  exact ⟨this.1, by simpa using this.2⟩

theorem mem_cachePut {c : List CacheEntry} {n : String} {p : Pid} {k : Key} {e : CacheEntry} (h : e ∈ cachePut c n p k) :
    e = ⟨n, p, k⟩ ∨ (e ∈ c ∧ e.name ≠ n) := by
  rcases List.mem_cons.mp h with rfl | h'
  · exact Or.inl rfl
  · exact Or.inr (mem_cacheDel h')

theorem insert_ok_iff (s : Sess) (db db' : Db) (r : Rec) :
    insert s db r = .ok db' ↔
      db.items.any (hits s r.cat r.name) = false ∧ db.hasId s.pid = true ∧
        db' = { db with items := db.items ++ [⟨s.pid, s.key, r⟩] } := by
  unfold insert
  cases h1 : db.items.any (hits s r.cat r.name) <;> cases h2 : db.hasId s.pid <;> simp [eq_comm]

theorem replace_ok_iff (s : Sess) (db db' : Db) (r : Rec) :
    replace s db r = .ok db' ↔
      db.items.any (hits s r.cat r.name) = true ∧
        db' = { db with items := db.items.map fun it => if hits s r.cat r.name it then { it with data := r } else it } := by
  unfold replace
  by_cases ha : db.items.any (hits s r.cat r.name) = true
  · simp only [ha, if_true, Except.ok.injEq, true_and]; exact eq_comm
  · simp [ha]

theorem remove_ok_iff (s : Sess) (db db' : Db) (c n : String) :
    remove s db c n = .ok db' ↔
      db.items.any (hits s c n) = true ∧ db' = { db with items := db.items.filter fun it => !hits s c n it } := by
  unfold remove
  by_cases ha : db.items.any (hits s c n) = true
  · simp only [ha, if_true, Except.ok.injEq, true_and]; exact eq_comm
  · simp [ha]

theorem hits_pid {s : Sess} {c n : String} {it : Item} (h : hits s c n it = true) : it.pid = s.pid ∧ it.key = s.key := by
  unfold hits at h
  simp at h
  exact ⟨h.1.1.1, h.1.1.2⟩

theorem inScope_pid {s : Sess} {cat : Option String} {it : Item} (h : inScope s cat it = true) : it.pid = s.pid := by
  unfold inScope at h
  simp at h
  exact h.1

theorem inScope_none (s : Sess) (it : Item) : inScope s none it = decide (it.pid = s.pid) := by
  simp [inScope]

theorem inScope_none_fun (s : Sess) : inScope s none = fun it => decide (it.pid = s.pid) := funext (inScope_none s)

theorem inScope_some_key {s : Sess} {c : String} {it : Item} (h : inScope s (some c) it = true) : it.key = s.key := by
  unfold inScope at h
  simp at h
  exact h.2.1

def others (p : Pid) (items : List Item) : List Item := items.filter (fun it => decide (it.pid ≠ p))

theorem others_append (p : Pid) (a b : List Item) : others p (a ++ b) = others p a ++ others p b := by
  simp [others]

theorem others_filter_not {p : Pid} {f : Item → Bool} (hf : ∀ it, f it = true → it.pid = p) (items : List Item) :
    others p (items.filter fun it => !f it) = others p items := by
  unfold others
  rw [List.filter_filter]
  apply List.filter_congr
  intro it _
  cases hfi : f it with
  | false => simp
  | true => have := hf it hfi; simp [this]

theorem others_map_if {p : Pid} {f : Item → Bool} (g : Item → Item) (hf : ∀ it, f it = true → it.pid = p)
    (hg : ∀ it, (g it).pid = it.pid) (items : List Item) :
    others p (items.map fun it => if f it then g it else it) = others p items := by
  unfold others
  induction items with
  | nil => rfl
  | cons a as ih =>
    simp only [List.map_cons, List.filter_cons]
    rw [ih]
    cases hfa : f a with
    | false => simp
    | true =>
      have hp := hf a hfa
      have hp' : (g a).pid = p := by rw [hg, hp]
      simp [hp, hp']

theorem rowByName_append_absent {db : Db} {n : String} (hn : db.rowByName n = none) (row : ProfRow) (hr : row.name = n)
    (d k) : ({ db with profiles := db.profiles ++ [row], default := d, nextKey := k } : Db).rowByName n = some row := by
  unfold Db.rowByName at hn ⊢
  simp [List.find?_append, hn, hr]

theorem createProfile_absent (h : Handle) (db : Db) (n : String) (hn : db.rowByName n = none) :
    createProfile h db n =
      ({ h with cache := cachePut h.cache n db.newRowId db.nextKey },
       { db with profiles := db.profiles ++ [⟨db.newRowId, n, db.nextKey⟩], nextKey := db.nextKey + 1 }, .ok ()) := by
  simp [createProfile, hn]

theorem no_hits {s : Sess} {db : Db} (hk : ∀ it ∈ db.items, it.pid = s.pid → it.key ≠ s.key) (c n : String) :
    ∀ it ∈ db.items, hits s c n it = false := by
  intro it hit
  cases hh : hits s c n it with
  | false => rfl
  | true => exact absurd (hits_pid hh).2 (hk it hit (hits_pid hh).1)

theorem no_scope_some {s : Sess} {db : Db} (hk : ∀ it ∈ db.items, it.pid = s.pid → it.key ≠ s.key) (c : String) :
    ∀ it ∈ db.items, inScope s (some c) it = false := by
  intro it hit
  cases hh : inScope s (some c) it with
  | false => rfl
  | true => exact absurd (inScope_some_key hh) (hk it hit (inScope_pid hh))

theorem filter_eq_nil_of {α} {f : α → Bool} {l : List α} (h : ∀ x ∈ l, f x = false) : l.filter f = [] := by
  rw [List.filter_eq_nil_iff]
  intro x hx
  simp [h x hx]

theorem any_eq_false_of {α} {f : α → Bool} {l : List α} (h : ∀ x ∈ l, f x = false) : l.any f = false := by
  rw [List.any_eq_false]
  intro x hx
  simp [h x hx]

/-! ## resolve, and the calls that begin with it -/

theorem row_eta {row : ProfRow} {n : String} (h : row.name = n) : (⟨row.id, n, row.key⟩ : ProfRow) = row := by
  cases row; simp at h; subst h; rfl

theorem resolve_cases (v : Bool) (h : Handle) (db : Db) (n : String) :
    (∃ e, v = false ∧ cacheGet h.cache n = some e ∧ resolve v h db n = (h, .ok ⟨e.pid, e.key⟩)) ∨
    (∃ row, db.rowByName n = some row ∧
      resolve v h db n = ({ h with cache := cachePut h.cache n row.id row.key }, .ok ⟨row.id, row.key⟩)) ∨
    (db.rowByName n = none ∧
      (resolve v h db n = (h, .error .notFound) ∨
       resolve v h db n = ({ h with cache := cacheDel h.cache n }, .error .notFound))) := by
  unfold resolve
  cases v with
  | true =>
    cases hr : db.rowByName n with
    | none => exact Or.inr (Or.inr ⟨rfl, Or.inr rfl⟩)
    | some row => exact Or.inr (Or.inl ⟨row, rfl, rfl⟩)
  | false =>
    rw [if_neg Bool.false_ne_true]
    cases hc : cacheGet h.cache n with
    | some e => exact Or.inl ⟨e, rfl, rfl, rfl⟩
    | none =>
      cases hr : db.rowByName n with
      | none => exact Or.inr (Or.inr ⟨rfl, Or.inl rfl⟩)
      | some row => exact Or.inr (Or.inl ⟨row, rfl, rfl⟩)

theorem resolve_active (v : Bool) (h : Handle) (db : Db) (n : String) : (resolve v h db n).1.active = h.active := by
  rcases resolve_cases v h db n with ⟨_, _, _, he⟩ | ⟨_, _, he⟩ | ⟨_, he | he⟩ <;> rw [he]

theorem openSession_eq (v : Bool) (h : Handle) (db : Db) (p : Option String) :
    openSession v h db p =
      ((resolve v h db (p.getD h.active)).1,
       match (resolve v h db (p.getD h.active)).2 with
       | .error e => .error e
       | .ok s => if ping db s then .ok s else .error .notFound) := by
  unfold openSession
  generalize resolve v h db (p.getD h.active) = x
  obtain ⟨h', r⟩ := x
  cases r with
  | error e => rfl
  | ok s => simp only; split <;> rfl

theorem scan_eq (v : Bool) (h : Handle) (db : Db) (p : Option String) (cat : Option String) :
    scan v h db p cat =
      ((resolve v h db (p.getD h.active)).1,
       match (resolve v h db (p.getD h.active)).2 with
       | .error e => .error e
       | .ok s => fetchAll s db cat) := by
  unfold scan
  generalize resolve v h db (p.getD h.active) = x
  obtain ⟨h', r⟩ := x
  cases r <;> rfl

theorem openSession_hasId {v : Bool} {h h' : Handle} {db : Db} {p : Option String} {s : Sess}
    (ho : openSession v h db p = (h', .ok s)) : db.hasId s.pid = true := by
  rw [openSession_eq] at ho
  cases hr : (resolve v h db (p.getD h.active)).2 with
  | error e => rw [hr] at ho; simp at ho
  | ok s' =>
    rw [hr] at ho
    by_cases hp : ping db s' = true
    · simp only [hp, if_true, Prod.mk.injEq, Except.ok.injEq] at ho
      rw [← ho.2]; exact hp
    · simp [hp] at ho

/-! ## the name decides: with validation (`v = true`), and without it when the cache agrees with the database -/

theorem resolve_named (v : Bool) (h : Handle) (db : Db) (n : String) (hv : v = true ∨ CacheFresh h db) :
    (resolve v h db n).2 = match db.rowByName n with
      | some row => .ok ⟨row.id, row.key⟩
      | none => .error .notFound := by
  rcases resolve_cases v h db n with ⟨e, hvf, hc, he⟩ | ⟨row, hr, he⟩ | ⟨hr, he | he⟩
  · rcases hv with hv | hf
    · rw [hv] at hvf; cases hvf
    · have hrow := hf e (cacheGet_some hc).1
      rw [(cacheGet_some hc).2] at hrow
      rw [he, hrow]
  · rw [he, hr]
  · rw [he, hr]
  · rw [he, hr]

theorem resolve_repaired (h : Handle) (db : Db) (n : String) :
    (resolve true h db n).2 = match db.rowByName n with
      | some row => .ok ⟨row.id, row.key⟩
      | none => .error .notFound :=
  resolve_named true h db n (Or.inl rfl)

theorem sees_named (v : Bool) (h h' : Handle) (db : Db) (p : Option String) (s : Sess)
    (hv : v = true ∨ CacheFresh h db) (ho : openSession v h db p = (h', .ok s)) :
    db.rowByName (p.getD h.active) = some ⟨s.pid, p.getD h.active, s.key⟩ := by
  have hres := resolve_named v h db (p.getD h.active) hv
  rw [openSession_eq, hres] at ho
  cases hr : db.rowByName (p.getD h.active) with
  | none => rw [hr] at ho; simp at ho
  | some row =>
    rw [hr] at ho
    simp only [Prod.mk.injEq] at ho
    split at ho
    · simp only [Except.ok.injEq] at ho
      rw [← ho.2, row_eta (rowByName_some hr).2]
    · simp at ho

theorem removed_not_opened (v : Bool) (h : Handle) (db : Db) (p : Option String)
    (hv : v = true ∨ CacheFresh h db) (hn : db.rowByName (p.getD h.active) = none) :
    (openSession v h db p).2 = .error .notFound ∧ ∀ cat, (scan v h db p cat).2 = .error .notFound := by
  have hres := resolve_named v h db (p.getD h.active) hv
  rw [hn] at hres
  refine ⟨?_, fun cat => ?_⟩
  · rw [openSession_eq, hres]
  · rw [scan_eq, hres]

theorem scan_sees_named (v : Bool) (h : Handle) (db : Db) (p : Option String) (cat : Option String) (row : ProfRow)
    (hv : v = true ∨ CacheFresh h db) (hr : db.rowByName (p.getD h.active) = some row) :
    (scan v h db p cat).2 = fetchAll ⟨row.id, row.key⟩ db cat := by
  rw [scan_eq, resolve_named v h db (p.getD h.active) hv, hr]

/-! ## a handle's own calls keep its cache in agreement -/

theorem find?_filter_name {ps : List ProfRow} {n m : String} (hne : m ≠ n) :
    (ps.filter (fun r => decide (r.name ≠ n))).find? (fun r => decide (r.name = m)) = ps.find? (fun r => decide (r.name = m)) := by
  rw [List.find?_filter]
  congr 1
  funext r
  by_cases hm : r.name = m
  · have : r.name ≠ n := fun e => hne (hm.symm.trans e)
    simp [hm, hne]
  · simp [hm]

theorem rowByName_append_other {db : Db} {m : String} {x : ProfRow} (row : ProfRow) (hx : db.rowByName m = some x) (d k) :
    ({ db with profiles := db.profiles ++ [row], default := d, nextKey := k } : Db).rowByName m = some x := by
  unfold Db.rowByName at hx ⊢
  simp [List.find?_append, hx]

theorem fresh_del {h : Handle} {db : Db} (hf : CacheFresh h db) (n : String) :
    CacheFresh { h with cache := cacheDel h.cache n } db :=
  fun e he => hf e (mem_cacheDel he).1

theorem fresh_put {h : Handle} {db : Db} (hf : CacheFresh h db) {n : String} {row : ProfRow} (hr : db.rowByName n = some row) :
    CacheFresh { h with cache := cachePut h.cache n row.id row.key } db := by
  intro e he
  rcases mem_cachePut he with rfl | ⟨h1, _⟩
  · simp only; rw [hr, row_eta (rowByName_some hr).2]
  · exact hf e h1

theorem fresh_of_profiles {h : Handle} {db db' : Db} (hp : db'.profiles = db.profiles) (hf : CacheFresh h db) :
    CacheFresh h db' := by
  intro e he
  have := hf e he
  unfold Db.rowByName at this ⊢
  rw [hp]; exact this

theorem fresh_create (h : Handle) (db : Db) (hf : CacheFresh h db) (n : String) :
    CacheFresh (createProfile h db n).1 (createProfile h db n).2.1 := by
  cases hr : db.rowByName n with
  | some row => simp only [createProfile, hr]; exact hf
  | none =>
    rw [createProfile_absent h db n hr]
    intro e he
    rcases mem_cachePut he with rfl | ⟨h1, _⟩
    · exact rowByName_append_absent hr _ rfl _ _
    · exact rowByName_append_other _ (hf e h1) _ _

theorem fresh_remove (h : Handle) (db : Db) (hf : CacheFresh h db) (n : String) :
    CacheFresh (removeProfile h db n).1 (removeProfile h db n).2.1 := by
  unfold removeProfile
  cases hr : db.rowByName n with
  | none => exact fresh_del hf n
  | some row =>
    -- the evicted name is the removed one: every remaining entry still finds its row
    intro e he
    have hm := mem_cacheDel he
    have := hf e hm.1
    unfold Db.rowByName at this ⊢
    simp only
    rw [find?_filter_name hm.2]
    exact this

theorem fresh_resolve (v : Bool) (h : Handle) (db : Db) (hf : CacheFresh h db) (n : String) :
    CacheFresh (resolve v h db n).1 db := by
  rcases resolve_cases v h db n with ⟨_, _, _, he⟩ | ⟨row, hr, he⟩ | ⟨_, he | he⟩ <;> rw [he]
  · exact hf
  · exact fresh_put hf hr
  · exact hf
  · exact fresh_del hf n

end Askar.TwoHandles
