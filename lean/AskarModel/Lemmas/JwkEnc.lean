/-
C14 — the byte-level parser on what `JwkBufferEncoder` writes (`renderJwk`), with and without the opening `[` of `key_ops`.
-/
import AskarModel.Model.Jwk
import AskarModel.Lemmas.Jwk

namespace Askar.Jwk

/-! ## the encoder with no `key_ops` / `kid` -/

theorem attrText_mem (m : Member) : attrText (sb m.1) (quoted m.2) = memText m := by
  simp [attrText, quoted, memText, sb_quote, sb_quote_colon_quote]

theorem attrsTail_map (ms : List Member) :
    attrsTail (ms.map fun m => attrText (sb m.1) (quoted m.2)) = tailText ms := by
  induction ms with
  | nil => rfl
  | cons m ms ih => rw [List.map_cons, attrsTail, ih, attrText_mem, tailText]

/-! ## the names of a `KeyOpsSet` -/

/-- a set of the eight operations is a number below 256: all of them, by evaluation -/
theorem opsOf_opsNames : ∀ o, o < 256 → opsOf (opsNames o) 0 = some o := by decide +kernel

theorem opsNames_clean : ∀ o, ∀ n ∈ opsNames o, Clean n = true := by
  intro o n hn
  simp only [opsNames, List.mem_map, List.mem_filter] at hn
  obtain ⟨p, ⟨hp, _⟩, rfl⟩ := hn
  -- the eight names of the table, by evaluation
  exact (by decide +kernel : ∀ p ∈ opTable, Clean (sb p.2) = true) p hp

/-! ## `deserialize_seq(KeyOpsVisitor)` on the element text -/

theorem seqNext_close (r : Bytes) (first : Bool) : seqNext (93 :: r) first = some none := by
  simp [seqNext, skipWs_cons 93 _]

theorem seqNext_first (r : Bytes) : seqNext (34 :: r) true = some (some (34 :: r, false)) := by
  simp [seqNext, skipWs_cons 34 _]

theorem seqNext_comma (r : Bytes) : seqNext (44 :: 34 :: r) false = some (some (34 :: r, false)) := by
  simp [seqNext, skipWs_cons 34 _, skipWs_cons 44 _]

theorem quoted_append (n r : Bytes) : quoted n ++ r = 34 :: (n ++ 34 :: r) := by simp [quoted]

/-- one turn of `visit_seq` on one element written by the encoder, given what the loop does on the rest -/
theorem keyOpsLoop_cons (fuel : Nat) (inp : Bytes) (first : Bool) (acc : Nat) (n rest t : Bytes) (ns : List Bytes)
    (hn : Clean n = true) (hnext : seqNext inp first = some (some (quoted n ++ rest, false)))
    (hrest : ∀ acc', keyOpsLoop fuel rest false acc' = (opsOf ns acc').map fun o => (o, t)) :
    keyOpsLoop (fuel + 1) inp first acc = (opsOf (n :: ns) acc).map fun o => (o, t) := by
  rw [keyOpsLoop, hnext]
  simp only [quoted_append, deStr_quoted hn, opsOf]
  cases opBit n with
  | none => exact hrest acc
  | some b =>
    simp only []
    split
    · rfl
    · exact hrest _

theorem keyOpsLoop_close (f : Nat) (r : Bytes) (first : Bool) (acc : Nat) :
    keyOpsLoop (f + 1) (93 :: r) first acc = some (acc, 93 :: r) := by
  simp [keyOpsLoop, seqNext_close, skipWs_cons 93 _]

/-- the elements after the first, with one unit of fuel per element and one for the closing `]` (and `f` to spare) -/
theorem keyOpsLoop_tail (r : Bytes) (ns : List Bytes) (hc : ∀ n ∈ ns, Clean n = true) (f acc : Nat) :
    keyOpsLoop (f + ns.length + 1) (opsTail ns ++ 93 :: r) false acc = (opsOf ns acc).map fun o => (o, 93 :: r) := by
  induction ns generalizing acc with
  | nil => exact keyOpsLoop_close _ r false acc
  | cons n ns ih =>
    have hnext : seqNext (opsTail (n :: ns) ++ 93 :: r) false
        = some (some (quoted n ++ (opsTail ns ++ 93 :: r), false)) := by
      simp only [opsTail, List.cons_append, List.append_assoc]
      rw [quoted_append, seqNext_comma]
    exact keyOpsLoop_cons (f + ns.length + 1) _ _ _ n _ _ ns (hc n List.mem_cons_self) hnext fun acc' =>
      ih (fun x hx => hc x (List.mem_cons_of_mem _ hx)) acc'

theorem opsTail_length (ns : List Bytes) : ns.length ≤ (opsTail ns).length := by
  induction ns with
  | nil => exact Nat.le_refl _
  | cons n ns ih => simp [opsTail]; omega

theorem opsElems_length (ns : List Bytes) : ns.length ≤ (opsElems ns).length := by
  cases ns with
  | nil => exact Nat.le_refl _
  | cons n ns =>
    have := opsTail_length ns
    simp [opsElems, quoted]
    omega

/-- the loop on all the elements, the first one without a comma -/
theorem keyOpsLoop_elems (r : Bytes) (ns : List Bytes) (hc : ∀ n ∈ ns, Clean n = true) (f acc : Nat) :
    keyOpsLoop (f + ns.length + 1) (opsElems ns ++ 93 :: r) true acc = (opsOf ns acc).map fun o => (o, 93 :: r) := by
  cases ns with
  | nil => exact keyOpsLoop_close _ r true acc
  | cons n ns =>
    have hnext : seqNext (opsElems (n :: ns) ++ 93 :: r) true
        = some (some (quoted n ++ (opsTail ns ++ 93 :: r), false)) := by
      simp only [opsElems, List.append_assoc]
      rw [quoted_append, seqNext_first]
    exact keyOpsLoop_cons (f + ns.length + 1) _ _ _ n _ _ ns (hc n List.mem_cons_self) hnext fun acc' =>
      keyOpsLoop_tail r ns (fun x hx => hc x (List.mem_cons_of_mem _ hx)) f acc'

/-- **the `key_ops` array with its opening `[`** is read back as the element strings, in order -/
theorem deKeyOps_opsElems (ns : List Bytes) (hc : ∀ n ∈ ns, Clean n = true) (r : Bytes) :
    deKeyOps (91 :: (opsElems ns ++ 93 :: r)) = (opsOf ns 0).map fun o => (o, r) := by
  -- the fuel `deKeyOps` supplies (the length of the text, plus two) is enough: an element takes at least one byte
  have hle : ns.length + 1 ≤ (opsElems ns ++ 93 :: r).length + 2 := by
    have := opsElems_length ns
    rw [List.length_append]
    omega
  obtain ⟨f, hf⟩ : ∃ f, (opsElems ns ++ 93 :: r).length + 2 = f + ns.length + 1 := Nat.exists_eq_add_of_le' hle
  rw [deKeyOps, skipWs_cons 91 _]
  simp only [if_true]
  rw [hf, keyOpsLoop_elems r ns hc f 0]
  cases opsOf ns 0 <;> simp

/-! ## the loop of `visit_map` on a list of attributes -/

/-- an attribute as `finalize` with `bracket = true` leaves it in the buffer: a string member (`kid` is one), or `key_ops` -/
inductive Attr
  | mem (m : Member)
  | ops (ns : List Bytes)

def Attr.text : Attr → Bytes
  | .mem m => attrText (sb m.1) (quoted m.2)
  | .ops ns => attrText (sb "key_ops") (91 :: (opsElems ns ++ [93]))

def Attr.tok : Attr → Bytes × JVal
  | .mem m => (sb m.1, JVal.str m.2)
  | .ops ns => (sb "key_ops", JVal.strArr ns)

/-- nothing in it needs escaping -/
def Attr.Ok : Attr → Prop
  | .mem m => Clean (sb m.1) = true ∧ Clean m.2 = true
  | .ops ns => ∀ n ∈ ns, Clean n = true

theorem Attr.ok_of_clean {ms : List Member} (hc : MembersClean ms = true) : ∀ x ∈ ms.map Attr.mem, x.Ok := by
  intro x hx
  obtain ⟨m, hm, rfl⟩ := List.mem_map.mp hx
  simp only [MembersClean, List.all_eq_true, Bool.and_eq_true] at hc
  exact hc m hm

theorem map_memAttr (ms : List Member) :
    ms.map (fun m => attrText (sb m.1) (quoted m.2)) = (ms.map Attr.mem).map Attr.text := by
  rw [List.map_map]
  rfl

theorem attrText_append (name value r : Bytes) :
    attrText name value ++ r = 34 :: (name ++ 34 :: 58 :: (value ++ r)) := by
  simp [attrText, quoted]

theorem attrText_quote (name value : Bytes) : ∃ t, attrText name value = 34 :: t := ⟨_, rfl⟩

theorem Attr.text_quote (x : Attr) : ∃ t, x.text = 34 :: t := by
  cases x <;> exact attrText_quote _ _

theorem mapNext_first_attr (x : Attr) (r : Bytes) : mapNext (x.text ++ r) true = some (some (x.text ++ r)) := by
  obtain ⟨t, ht⟩ := x.text_quote
  rw [ht, List.cons_append, mapNext_first]

theorem mapNext_comma_attr (x : Attr) (r : Bytes) : mapNext (44 :: (x.text ++ r)) false = some (some (x.text ++ r)) := by
  obtain ⟨t, ht⟩ := x.text_quote
  rw [ht, List.cons_append, mapNext_comma]

theorem clean_key_ops : Clean (sb "key_ops") = true := by decide +kernel

/-- one turn of the loop on one attribute -/
theorem mapLoop_attr (cfg : Cfg) (fuel : Nat) (inp : Bytes) (first : Bool) (a : Acc) (x : Attr) (r : Bytes) (hx : x.Ok)
    (hnext : mapNext inp first = some (some (x.text ++ r))) :
    mapLoop cfg (fuel + 1) inp first a =
      match visitStep cfg a x.tok with
      | some a' => mapLoop cfg fuel r false a'
      | none => none := by
  cases x with
  | mem m =>
    simp only [Attr.text, attrText_mem] at hnext
    exact mapLoop_member cfg fuel inp first a m r hx.1 hx.2 hnext
  | ops ns =>
    have ht : (Attr.ops ns).text ++ r = 34 :: (sb "key_ops" ++ 34 :: 58 :: 91 :: (opsElems ns ++ 93 :: r)) := by
      simp [Attr.text, attrText_append]
    rw [mapLoop, hnext, ht]
    simp only [deStr_quoted clean_key_ops, fieldOf_key_ops, colon_cons, deKeyOps_opsElems ns hx, Attr.tok, visitStep]
    cases opsOf ns 0 <;> rfl

/-- the attributes after the first, followed by anything -/
theorem mapLoop_attrsTail (cfg : Cfg) (rest : Bytes) (xs : List Attr) (hc : ∀ x ∈ xs, x.Ok) (f : Nat) (a : Acc) :
    mapLoop cfg (xs.length + f) (attrsTail (xs.map Attr.text) ++ rest) false a =
      match visitFrom cfg a (xs.map Attr.tok) with
      | some a' => mapLoop cfg f rest false a'
      | none => none := by
  induction xs generalizing a with
  | nil => simp [attrsTail, visitFrom]
  | cons x xs ih =>
    have hnext : mapNext (attrsTail ((x :: xs).map Attr.text) ++ rest) false
        = some (some (x.text ++ (attrsTail (xs.map Attr.text) ++ rest))) := by
      simp only [List.map_cons, attrsTail, List.cons_append, List.append_assoc]
      exact mapNext_comma_attr x _
    have hl : (x :: xs).length + f = (xs.length + f) + 1 := by simp only [List.length_cons]; omega
    rw [hl, mapLoop_attr cfg _ _ false a x _ (hc x (by simp)) hnext]
    simp only [List.map_cons, visitFrom]
    cases visitStep cfg a x.tok with
    | none => rfl
    | some a' => exact ih (fun y hy => hc y (by simp [hy])) a'

theorem mapLoop_close (cfg : Cfg) (f : Nat) (t : Bytes) (first : Bool) (a : Acc) :
    mapLoop cfg (f + 1) (125 :: t) first a = some (a, 125 :: t) := by
  simp [mapLoop, mapNext_close, skipWs_cons 125 _]

theorem attrsTail_length (ts : List Bytes) : ts.length ≤ (attrsTail ts).length := by
  induction ts with
  | nil => simp [attrsTail]
  | cons t ts ih => simp [attrsTail]; omega

theorem attrsTail_append (l₁ l₂ : List Bytes) : attrsTail (l₁ ++ l₂) = attrsTail l₁ ++ attrsTail l₂ := by
  induction l₁ with
  | nil => rfl
  | cons t ts ih => simp [attrsTail, ih]

/-- the loop, with the fuel `parseJwk` supplies, on an object body that starts with attributes written by the encoder: it visits
    them and goes on (with fuel to spare) at whatever follows -/
theorem mapLoop_attrs (cfg : Cfg) (x : Attr) (xs : List Attr) (hc : ∀ y ∈ x :: xs, y.Ok) (rest : Bytes) :
    ∃ g, mapLoop cfg ((x.text ++ (attrsTail (xs.map Attr.text) ++ rest)).length + 2)
        (x.text ++ (attrsTail (xs.map Attr.text) ++ rest)) true {} =
      match visitFrom cfg {} (x.tok :: xs.map Attr.tok) with
      | some a => mapLoop cfg (g + 1) rest false a
      | none => none := by
  have hlen : xs.length + 2 ≤ (x.text ++ (attrsTail (xs.map Attr.text) ++ rest)).length + 2 := by
    have := attrsTail_length (xs.map Attr.text)
    simp only [List.length_map] at this
    simp only [List.length_append]
    omega
  obtain ⟨g, hg⟩ := Nat.exists_eq_add_of_le hlen
  refine ⟨g, ?_⟩
  rw [show _ + 2 = (xs.length + (g + 1)) + 1 by omega,
    mapLoop_attr cfg _ _ true {} x _ (hc x List.mem_cons_self) (mapNext_first_attr x _)]
  simp only [visitFrom]
  cases visitStep cfg {} x.tok with
  | none => rfl
  | some a' => exact mapLoop_attrsTail cfg rest xs (fun y hy => hc y (List.mem_cons_of_mem _ hy)) (g + 1) a'

theorem parse_renderAttrs (cfg : Cfg) (xs : List Attr) (hc : ∀ x ∈ xs, x.Ok) :
    parseJwk cfg (renderAttrs (xs.map Attr.text)) = visit cfg (xs.map Attr.tok) := by
  cases xs with
  | nil => simp [renderAttrs, parseJwk, skipWs, visit, visitFrom, Acc.finish]
  | cons x xs =>
    obtain ⟨g, hg⟩ := mapLoop_attrs cfg x xs hc [125]
    simp only [List.map_cons, renderAttrs]
    rw [parseJwk, skipWs_cons 123 _]
    simp only [if_true]
    rw [hg, visit]
    cases visitFrom cfg {} (x.tok :: xs.map Attr.tok) with
    | none => rfl
    | some a =>
      simp only [mapLoop_close]
      cases a.finish with
      | none => rfl
      | some p => simp [skipWs]

/-- an attribute the loop fails on, after any attributes it accepts, before anything: the parse fails -/
theorem parse_attrs_bad (cfg : Cfg) (xs : List Attr) (hc : ∀ x ∈ xs, x.Ok) (bad : Bytes) (hq : ∃ t, bad = 34 :: t)
    (hbad : ∀ fuel inp first a r, mapNext inp first = some (some (bad ++ r)) → mapLoop cfg (fuel + 1) inp first a = none)
    (ts : List Bytes) : parseJwk cfg (renderAttrs (xs.map Attr.text ++ bad :: ts)) = none := by
  obtain ⟨bt, hbt⟩ := hq
  cases xs with
  | nil =>
    simp only [List.map_nil, List.nil_append, renderAttrs]
    rw [parseJwk, skipWs_cons 123 _]
    simp only [if_true]
    have hnext : mapNext (bad ++ (attrsTail ts ++ [125])) true = some (some (bad ++ (attrsTail ts ++ [125]))) := by
      rw [hbt, List.cons_append, mapNext_first]
    rw [hbad _ _ true {} _ hnext]
  | cons x xs =>
    obtain ⟨g, hg⟩ := mapLoop_attrs cfg x xs hc (44 :: (bad ++ (attrsTail ts ++ [125])))
    simp only [List.map_cons, List.cons_append, renderAttrs, attrsTail_append, attrsTail, List.append_assoc]
    rw [parseJwk, skipWs_cons 123 _]
    simp only [if_true]
    rw [hg]
    cases visitFrom cfg {} (x.tok :: xs.map Attr.tok) with
    | none => rfl
    | some a =>
      have hnext : mapNext (44 :: (bad ++ (attrsTail ts ++ [125]))) false = some (some (bad ++ (attrsTail ts ++ [125]))) := by
        rw [hbt, List.cons_append, mapNext_comma]
      simp only []
      rw [hbad g _ false a _ hnext]

/-! ## the encoder with `bracket = true` (`[` written) -/

/-- the tokens `finalize` adds -/
def extraToks (ops : Option Nat) (kid : Option Bytes) : List (Bytes × JVal) :=
  (match ops with | some o => [(sb "key_ops", JVal.strArr (opsNames o))] | none => []) ++
  (match kid with | some k => [(sb "kid", JVal.str k)] | none => [])

/-- the attributes `finalize` writes -/
def attrsOf (ms : List Member) (ops : Option Nat) (kid : Option Bytes) : List Attr :=
  ms.map Attr.mem
    ++ (match ops with | some o => [Attr.ops (opsNames o)] | none => [])
    ++ (match kid with | some k => [Attr.mem ("kid", k)] | none => [])

theorem attrsOf_text (ms : List Member) (ops : Option Nat) (kid : Option Bytes) :
    (attrsOf ms ops kid).map Attr.text = attrTexts true ms ops kid := by
  unfold attrsOf attrTexts
  rw [List.map_append, List.map_append, map_memAttr]
  cases ops <;> cases kid <;> rfl

theorem attrsOf_tok (ms : List Member) (ops : Option Nat) (kid : Option Bytes) :
    (attrsOf ms ops kid).map Attr.tok = toks ms ++ extraToks ops kid := by
  cases ops <;> cases kid <;> simp [attrsOf, extraToks, toks, Attr.tok, Function.comp_def]

theorem attrsOf_ok (ms : List Member) (hc : MembersClean ms = true) (ops : Option Nat) (kid : Option Bytes)
    (hk : ∀ k, kid = some k → Clean k = true) : ∀ x ∈ attrsOf ms ops kid, x.Ok := by
  intro x hx
  simp only [attrsOf, List.mem_append] at hx
  rcases hx with (hx | hx) | hx
  · exact Attr.ok_of_clean hc x hx
  · cases ops with
    | none => simp at hx
    | some o =>
      simp only [List.mem_singleton] at hx
      subst hx
      exact opsNames_clean o
  · cases kid with
    | none => simp at hx
    | some k =>
      simp only [List.mem_singleton] at hx
      subst hx
      exact ⟨(by decide : Clean (sb "kid") = true), hk k rfl⟩

/-- **parser correctness on the output of the encoder with `bracket = true`**: when `finalize` writes the opening `[` of `key_ops`, the
    byte-level parser run on the buffer visits the members `encode_jwk` wrote, then `key_ops` as the array of the names of the
    set, then `kid`, each in order — for every configuration, every member list and `kid` with no `"` and no `\`, every set. -/
theorem parse_renderJwk_fixed (cfg : Cfg) (ms : List Member) (hc : MembersClean ms = true) (ops : Option Nat)
    (kid : Option Bytes) (hk : ∀ k, kid = some k → Clean k = true) :
    parseJwk cfg (renderJwk true ms ops kid) = visit cfg (toks ms ++ extraToks ops kid) := by
  rw [renderJwk, ← attrsOf_text, ← attrsOf_tok]
  exact parse_renderAttrs cfg _ (attrsOf_ok ms hc ops kid hk)

theorem renderJwk_plain (bracket : Bool) (ms : List Member) : renderJwk bracket ms none none = renderMembers ms := by
  cases ms with
  | nil => rfl
  | cons m ms =>
    rw [renderMembers_cons]
    simp only [renderJwk, attrTexts, List.append_nil, List.map_cons, renderAttrs]
    rw [attrsTail_map, attrText_mem]

/-- **parser correctness on the encoder's output**: for every member list whose names and values contain neither `"` nor `\`
    (in particular everything `toJwk` writes: fixed ASCII names, curve / key-type names, base64url values), the byte-level parser
    (`serde_json_core::from_str::<JwkParts>`, with the fuel `parseJwk` itself supplies) run on the rendered text visits exactly
    those members, in order, each as a string value — for every configuration, known or unknown member names alike. -/
theorem parse_render (cfg : Cfg) (ms : List Member) (hc : MembersClean ms = true) :
    parseJwk cfg (renderMembers ms) = visit cfg (toks ms) := by
  have h := parse_renderJwk_fixed cfg ms hc none none (fun _ hk => nomatch hk)
  rwa [renderJwk_plain, show extraToks none none = [] from rfl, List.append_nil] at h

/-! ## export → text → import -/

/-- export in one mode, then import: the text `toJwk` produces is parsed back (byte-level parser, its own fuel) into the same key -/
theorem jwk_roundtrip_mode (cfg : Cfg) (P : Prims) (k : Key) (ha : k.alg.isSymmetric = false) (hs : k.WellSized)
    (hc : k.Consistent P) (hoc : k.OnCurve P) (withD : Bool) (hpc : withD = false ∨ k.secret = none → k.PubCanonical P) :
    ∃ t, toJwk k (if withD then .secretKey else .publicKey) none = .ok t ∧
      fromJwk cfg P t = .ok (if withD then k else { k with secret := none }) := by
  obtain ⟨ms, he, hcl, hv⟩ := export_visit cfg k ha withD
  refine ⟨renderMembers ms, by simp [toJwk, he], ?_⟩
  unfold fromJwk
  rw [parse_render cfg ms hcl, hv]
  simp only [fromJwkAny, selectAlg_export k ha withD]
  exact fromJwkParts_export cfg P k ha hs hc hoc withD hpc

/-- secret-key export → import gives the key back (a key without secret is exported without `d` and comes back as it is) -/
theorem jwk_roundtrip_secret (cfg : Cfg) (P : Prims) (k : Key) (ha : k.alg.isSymmetric = false) (hs : k.WellSized)
    (hc : k.Consistent P) (hoc : k.OnCurve P) (hpc : k.secret = none → k.PubCanonical P) :
    ∃ t, toJwk k .secretKey none = .ok t ∧ fromJwk cfg P t = .ok k :=
  jwk_roundtrip_mode cfg P k ha hs hc hoc true (fun h => hpc (h.resolve_left (by simp)))

theorem jwk_roundtrip_public (cfg : Cfg) (P : Prims) (k : Key) (ha : k.alg.isSymmetric = false) (hs : k.WellSized)
    (hc : k.Consistent P) (hoc : k.OnCurve P) (hpc : k.PubCanonical P) :
    ∃ t, toJwk k .publicKey none = .ok t ∧ fromJwk cfg P t = .ok { k with secret := none } :=
  jwk_roundtrip_mode cfg P k ha hs hc hoc false (fun _ => hpc)

/-! For symmetric keys the round trip is false (D15): `selectAlg` has no `oct` branch. -/

/-! ## the encoder with `bracket = false` (no `[`) -/

theorem deKeyOps_close (r : Bytes) : deKeyOps (93 :: r) = none := by
  simp [deKeyOps, skipWs_cons 93 _]

theorem deKeyOps_unbracketed (o : Nat) (r : Bytes) : deKeyOps (opsText false o ++ r) = none := by
  simp only [opsText, Bool.false_eq_true, if_false, List.nil_append]
  cases opsNames o with
  | nil => simp [opsElems, deKeyOps_close]
  | cons n ns => simp [opsElems, quoted, deKeyOps_quote]

/-- one turn of the loop on the `key_ops` attribute without `[`: the deserializer reports an error -/
theorem mapLoop_badOps (cfg : Cfg) (fuel : Nat) (inp : Bytes) (first : Bool) (a : Acc) (o : Nat) (r : Bytes)
    (hnext : mapNext inp first = some (some (attrText (sb "key_ops") (opsText false o) ++ r))) :
    mapLoop cfg (fuel + 1) inp first a = none := by
  rw [mapLoop, hnext, attrText_append]
  simp only [deStr_quoted clean_key_ops, fieldOf_key_ops, colon_cons, deKeyOps_unbracketed]

/-- **the encoder without the `[` produces text its own parser rejects**: `finalize` does not write the opening `[` of
    `key_ops`, so whenever a `key_ops` set is given (any set, the empty one included) the parser fails on the buffer — whatever
    the members, whatever `kid`. -/
theorem parse_renderJwk_unbracketed_fails (cfg : Cfg) (ms : List Member) (hc : MembersClean ms = true) (o : Nat)
    (kid : Option Bytes) : parseJwk cfg (renderJwk false ms (some o) kid) = none := by
  have h : attrTexts false ms (some o) kid
      = (ms.map Attr.mem).map Attr.text ++ attrText (sb "key_ops") (opsText false o)
          :: (match kid with | some k => [attrText (sb "kid") (quoted k)] | none => []) := by
    unfold attrTexts
    rw [map_memAttr, List.append_assoc]
    rfl
  rw [renderJwk, h]
  apply parse_attrs_bad cfg _ _ _ (attrText_quote _ _)
    (fun fuel inp first a r => mapLoop_badOps cfg fuel inp first a o r)
  exact Attr.ok_of_clean hc

end Askar.Jwk
