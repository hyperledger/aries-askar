/-
Helper lemmas for the buffer dimension of C12 (`Model/ResizeBuf.lean`): the generic simulation argument
(`run_refines`: an implementation whose six methods refine the list contract runs EVERY program like the contract),
a capacity only adds `ExceededBuffer` (`capacity_refines`), the repaired `Writer<[u8]>` (`writerImpl true`) refines the
contract (`writer_refines`) and what that means for a run (`writer_run_out`), and the witnesses against `writerImpl false`.
Core Lean only.
-/
import AskarModel.Model.ResizeBuf
import AskarModel.Lemmas.Aead

namespace Askar.ResizeBuf.Lemmas
open Askar.Aead Askar.ResizeBuf Askar.Aead.Lemmas

@[simp] theorem bind_ok' {α β : Type} (a : α) (f : α → Res β) : (Res.ok a >>= f) = f a := rfl

/-! ### outcomes of an implementation against the contract -/

/-- one method call: `x` (implementation) against `y` (contract).  Where the contract's precondition is violated
    (`y` is a panic — `Vec` panics there too) nothing is required.  `weak` additionally allows the implementation to
    answer `ExceededBuffer` (used for "a capacity only adds ExceededBuffer"; `weak = False` is exact refinement). -/
def StepRel {β : Type} (R : β → LBuf → Prop) (weak : Prop) (x : Res β) (y : Res LBuf) : Prop :=
  match y with
  | .ok l' => (∃ b', x = .ok b' ∧ R b' l') ∨ (weak ∧ x = .err exceeded)
  | .err e => x = .err e ∨ (weak ∧ x = .err exceeded)
  | .panic _ => True

/-- a whole run: same returned value, related final buffers — or the same error -/
def RunRel {α β : Type} (R : β → LBuf → Prop) (weak : Prop) (x : Res (β × α)) (y : Res (LBuf × α)) : Prop :=
  match y with
  | .ok (l', a) => (∃ b', x = .ok (b', a) ∧ R b' l') ∨ (weak ∧ x = .err exceeded)
  | .err e => x = .err e ∨ (weak ∧ x = .err exceeded)
  | .panic _ => True

structure Refines {β : Type} (I : BufImpl β) (R : β → LBuf → Prop) (weak : Prop) : Prop where
  view : ∀ b l, R b l → I.view b = .ok l.data
  setView : ∀ b l v, R b l → StepRel R weak (I.setView b v) (l.setView v)
  write : ∀ b l d, R b l → StepRel R weak (I.write b d) (l.write d)
  insert : ∀ b l p d, R b l → StepRel R weak (I.insert b p d) (l.insert p d)
  remove : ∀ b l s e, R b l → StepRel R weak (I.remove b s e) (l.remove s e)
  resize : ∀ b l n, R b l → StepRel R weak (I.resize b n) (l.resize n)

theorem runRel_exceeded {α β : Type} (R : β → LBuf → Prop) (weak : Prop) (hw : weak) (y : Res (LBuf × α)) :
    RunRel R weak (.err exceeded : Res (β × α)) y := by
  cases y with
  | ok p => exact Or.inr ⟨hw, rfl⟩
  | err e => exact Or.inr ⟨hw, rfl⟩
  | panic p => trivial

theorem step_rel {α β : Type} (R : β → LBuf → Prop) (weak : Prop) (x : Res β) (y : Res LBuf) (hs : StepRel R weak x y)
    (kx : β → Res (β × α)) (ky : LBuf → Res (LBuf × α)) (hk : ∀ b' l', R b' l' → RunRel R weak (kx b') (ky l')) :
    RunRel R weak (step x kx) (step y ky) := by
  cases y with
  | ok l' =>
    rcases hs with ⟨b', hx, hR⟩ | ⟨hw, hx⟩
    · subst hx; exact hk b' l' hR
    · subst hx; exact runRel_exceeded R weak hw _
  | err e =>
    rcases hs with hx | ⟨hw, hx⟩
    · subst hx; exact Or.inl rfl
    · subst hx; exact Or.inr ⟨hw, rfl⟩
  | panic p => trivial

/-- **The simulation argument**: an implementation that refines the contract method by method runs every program —
    hence every in-place operation — like the contract. -/
theorem run_refines {α β : Type} (I : BufImpl β) (R : β → LBuf → Prop) (weak : Prop) (h : Refines I R weak) :
    ∀ (prog : Prog α) (b : β) (l : LBuf), R b l → RunRel R weak (prog.run I b) (prog.run specImpl l) := by
  intro prog
  induction prog with
  | ret a => intro b l hR; exact Or.inl ⟨b, rfl, hR⟩
  | fail e => intro b l _; exact Or.inl rfl
  | panic p => intro b l _; trivial
  | view k ih =>
    intro b l hR
    simp only [Prog.run, h.view b l hR]
    exact ih l.data b l hR
  | setView v k ih =>
    intro b l hR
    exact step_rel R weak _ _ (h.setView b l v hR) _ _ (fun b' l' hR' => ih b' l' hR')
  | write d k ih =>
    intro b l hR
    exact step_rel R weak _ _ (h.write b l d hR) _ _ (fun b' l' hR' => ih b' l' hR')
  | insert p d k ih =>
    intro b l hR
    exact step_rel R weak _ _ (h.insert b l p d hR) _ _ (fun b' l' hR' => ih b' l' hR')
  | remove s e k ih =>
    intro b l hR
    exact step_rel R weak _ _ (h.remove b l s e hR) _ _ (fun b' l' hR' => ih b' l' hR')
  | resize n k ih =>
    intro b l hR
    exact step_rel R weak _ _ (h.resize b l n hR) _ _ (fun b' l' hR' => ih b' l' hR')

/-! ### a capacity only adds `ExceededBuffer` -/

/-- the same visible bytes; the left buffer may have a capacity, the right one (Vec, SecretBytes) has none -/
def CapRel (b l : LBuf) : Prop := b.data = l.data ∧ l.cap = none

/-- without a capacity every growth fits, so the two runs differ only where the capacity says `ExceededBuffer` -/
theorem capacity_refines : Refines specImpl CapRel True := by
  have hfit (n : Nat) : fits none n = true := rfl
  refine ⟨?_, ?_, ?_, ?_, ?_, ?_⟩
  · rintro b l ⟨hd, _⟩; exact congrArg Res.ok hd
  · rintro ⟨d0, bc⟩ ⟨_, _⟩ v ⟨rfl, rfl⟩
    show StepRel _ _ (LBuf.setView _ _) _
    simp only [LBuf.setView]
    split
    · exact Or.inl ⟨_, rfl, rfl, rfl⟩
    · trivial
  · rintro ⟨d0, bc⟩ ⟨_, _⟩ d ⟨rfl, rfl⟩
    show StepRel _ _ (LBuf.write _ _) _
    simp only [LBuf.write, hfit, if_true]
    split
    · exact Or.inl ⟨_, rfl, rfl, rfl⟩
    · exact Or.inr ⟨trivial, rfl⟩
  · rintro ⟨d0, bc⟩ ⟨_, _⟩ p d ⟨rfl, rfl⟩
    show StepRel _ _ (LBuf.insert _ _ _) _
    simp only [LBuf.insert, hfit, Bool.not_true, Bool.false_eq_true, if_false]
    split
    · split
      · trivial
      · exact Or.inr ⟨trivial, rfl⟩
    · split
      · trivial
      · exact Or.inl ⟨_, rfl, rfl, rfl⟩
  · rintro ⟨d0, bc⟩ ⟨_, _⟩ s e ⟨rfl, rfl⟩
    show StepRel _ _ (LBuf.remove _ _ _) _
    simp only [LBuf.remove]
    split
    · exact Or.inl ⟨_, rfl, rfl, rfl⟩
    · trivial
  · rintro ⟨d0, bc⟩ ⟨_, _⟩ n ⟨rfl, rfl⟩
    show StepRel _ _ (LBuf.resize _ _) _
    simp only [LBuf.resize, hfit, Bool.not_true, Bool.false_eq_true, if_false]
    split
    · exact Or.inr ⟨trivial, rfl⟩
    · exact Or.inl ⟨_, rfl, rfl, rfl⟩

theorem split_at {α : Type} (l : List α) (k : Nat) (h : k ≤ l.length) : ∃ a b, l = a ++ b ∧ a.length = k :=
  ⟨l.take k, l.drop k, (List.take_append_drop k l).symm, by simp [List.length_take]; omega⟩

theorem take3 {α : Type} (a b c : List α) (k : Nat) (h : a.length + b.length = k) : (a ++ (b ++ c)).take k = a ++ b := by
  rw [← List.append_assoc]; exact List.take_left' (by rw [List.length_append, h])

theorem drop3 {α : Type} (a b c : List α) (k : Nat) (h : a.length + b.length = k) : (a ++ (b ++ c)).drop k = c := by
  rw [← List.append_assoc]; exact List.drop_left' (by rw [List.length_append, h])

theorem le_length_append {α : Type} (a b : List α) : a.length ≤ (a ++ b).length := by
  rw [List.length_append]; exact Nat.le_add_right _ _

/-! ### the repaired `Writer<[u8]>` refines the contract -/

/-- representation: the position is inside the slice, the bytes before it are the list, the slice length is the capacity -/
def WRel (w : Writer) (l : LBuf) : Prop :=
  w.pos ≤ w.inner.length ∧ w.inner.take w.pos = l.data ∧ l.cap = some w.inner.length

theorem wrel_split (w : Writer) (l : LBuf) (h : WRel w l) :
    ∃ D rest, w = ⟨D ++ rest, D.length⟩ ∧ l = ⟨D, some (D.length + rest.length)⟩ := by
  obtain ⟨inner, pos⟩ := w
  obtain ⟨data, cap⟩ := l
  obtain ⟨h1, h2, h3⟩ := h
  obtain ⟨a, b, rfl, rfl⟩ := split_at inner pos h1
  cases h3
  cases h2
  exact ⟨a, b, rfl, by rw [List.take_left, List.length_append]⟩

theorem wrel_mk (D rest : Bytes) (c : Nat) (hc : c = D.length + rest.length) : WRel ⟨D ++ rest, D.length⟩ ⟨D, some c⟩ :=
  ⟨le_length_append D rest, List.take_left, by rw [hc, List.length_append]⟩

theorem writer_split (w : Writer) (hw : w.pos ≤ w.inner.length) :
    ∃ input rest, w = ⟨input ++ rest, input.length⟩ ∧ input = w.inner.take w.pos ∧ w.inner.length = input.length + rest.length := by
  obtain ⟨inner, pos⟩ := w
  obtain ⟨a, b, hab, ha⟩ := split_at inner pos hw
  subst hab ha
  exact ⟨a, b, rfl, (List.take_left' rfl).symm, by simp⟩

theorem writer_view (D rest : Bytes) : Writer.view ⟨D ++ rest, D.length⟩ = .ok D := by
  rw [Writer.view, sliceTo, if_pos (le_length_append D rest), List.take_left]

/-! #### the slice operations on a list given by its parts -/

/-- `buf[lo..hi].copy_from_slice(d)` replaces the middle one of three parts -/
theorem copyInto_split (a x c d : Bytes) (lo hi : Nat) (hlo : a.length = lo) (hhi : lo + x.length = hi)
    (hd : d.length = x.length) : copyInto (a ++ (x ++ c)) lo hi d = .ok (a ++ d ++ c) := by
  have h : (lo ≤ hi ∧ hi ≤ (a ++ (x ++ c)).length) ∧ d.length = hi - lo := by
    simp only [List.length_append]; omega
  rw [copyInto, if_pos h.1, if_pos h.2, List.take_left' hlo, drop3 a x c hi (hlo ▸ hhi)]

/-- `copy_within(s..e, dest)` puts the middle one `m` of three parts at `dest` -/
theorem copyWithin_split (a m c : Bytes) (s e dest : Nat) (hs : a.length = s) (he : s + m.length = e)
    (hdest : dest + m.length ≤ (a ++ (m ++ c)).length) :
    copyWithin (a ++ (m ++ c)) s e dest
      = .ok ((a ++ (m ++ c)).take dest ++ m ++ (a ++ (m ++ c)).drop (dest + m.length)) := by
  have h : (s ≤ e ∧ e ≤ (a ++ (m ++ c)).length ∧ dest + (e - s) ≤ (a ++ (m ++ c)).length) ∧ e - s = m.length := by
    simp only [List.length_append] at hdest ⊢; omega
  rw [copyWithin, if_pos h.1, h.2, take3 a m c e (hs ▸ he), List.drop_left' hs]

theorem lbuf_write_some (D d : Bytes) (c : Nat) :
    LBuf.write ⟨D, some c⟩ d = if D.length + d.length ≤ c then .ok ⟨D ++ d, some c⟩ else .err exceeded := by
  simp only [LBuf.write, fits, decide_eq_true_eq]

theorem lbuf_insert_some (D d : Bytes) (p c : Nat) :
    LBuf.insert ⟨D, some c⟩ p d =
      if D.length + d.length ≤ c then
        if p > D.length then .panic .sliceOob else .ok ⟨D.take p ++ d ++ D.drop p, some c⟩
      else .err exceeded := by
  by_cases h : D.length + d.length ≤ c <;> simp [LBuf.insert, fits, h]

theorem lbuf_resize_some (D : Bytes) (n c : Nat) :
    LBuf.resize ⟨D, some c⟩ n = if n ≤ c then .ok ⟨D.take n ++ zeros (n - D.length), some c⟩ else .err exceeded := by
  by_cases h : n ≤ c <;> simp [LBuf.resize, fits, h]

/-! #### each method of the repaired Writer on `⟨D ++ rest, |D|⟩` -/

theorem writer_setView (D rest v : Bytes) (hv : v.length = D.length) :
    Writer.setView ⟨D ++ rest, D.length⟩ v = .ok ⟨v ++ rest, v.length⟩ := by
  rw [Writer.setView, writer_view, bind_ok, if_pos hv, List.drop_left, hv]

theorem writer_write (D Z T d : Bytes) (hZ : Z.length = d.length) :
    Writer.write ⟨D ++ (Z ++ T), D.length⟩ d = .ok ⟨D ++ d ++ T, (D ++ d).length⟩ := by
  have h : ¬ D.length + d.length > (D ++ (Z ++ T)).length := by simp only [List.length_append]; omega
  rw [Writer.write, if_neg h, copyInto_split D Z T d _ _ rfl (by rw [hZ]) hZ.symm, bind_ok, List.length_append]

/-- `splice(p..p, d)`: the tail `B` of the visible bytes moves up by `|d|` over the spare bytes `Z`, then `d` is
    written into the gap (whatever `copy_within` left there) -/
theorem writer_insert (A B Z T d : Bytes) (hd : d.length ≠ 0) (hZ : Z.length = d.length) :
    Writer.insert true ⟨A ++ (B ++ (Z ++ T)), (A ++ B).length⟩ A.length d
      = .ok ⟨A ++ d ++ (B ++ T), (A ++ d ++ B).length⟩ := by
  have h : ¬ (A ++ B).length + d.length > (A ++ (B ++ (Z ++ T))).length ∧
      A.length + d.length + B.length ≤ (A ++ (B ++ (Z ++ T))).length ∧
      A.length + d.length + B.length = (A ++ (B ++ Z)).length ∧
      ((B ++ (Z ++ T)).take d.length).length = d.length := by
    simp only [List.length_append, List.length_take]; omega
  have hdrop : (A ++ (B ++ (Z ++ T))).drop (A.length + d.length + B.length) = T := by
    have e : A ++ (B ++ (Z ++ T)) = A ++ (B ++ Z) ++ T := by simp only [List.append_assoc]
    rw [h.2.2.1, e, List.drop_left]
  rw [Writer.insert, if_neg hd, if_neg h.1, if_pos rfl,
    copyWithin_split A B (Z ++ T) _ _ _ rfl (List.length_append).symm h.2.1, hdrop,
    List.take_length_add_append, List.append_assoc, List.append_assoc]
  simp only [bind_ok]
  rw [copyInto_split A _ (B ++ T) d _ _ rfl (by rw [h.2.2.2]) h.2.2.2.symm]
  simp only [bind_ok, List.length_append, Nat.add_right_comm]

/-- `buffer_remove(s..e)` with `s = |A|`, `e = |A ++ B|`: the tail `C` moves down to `s` -/
theorem writer_remove (A B C rest : Bytes) :
    Writer.remove ⟨A ++ (B ++ (C ++ rest)), (A ++ (B ++ C)).length⟩ A.length (A ++ B).length
      = .ok ⟨A ++ C ++ (A ++ (B ++ (C ++ rest))).drop (A.length + C.length), (A ++ C).length⟩ := by
  have h : ¬ (A ++ B).length < A.length ∧ ¬ ((A ++ B).length - A.length > (A ++ (B ++ C)).length) ∧
      (A ++ B).length + C.length = (A ++ (B ++ C)).length ∧
      A.length + C.length ≤ (A ++ B ++ (C ++ rest)).length ∧
      (A ++ (B ++ C)).length - ((A ++ B).length - A.length) = (A ++ C).length := by
    simp only [List.length_append]; omega
  rw [Writer.remove, if_neg h.1, ← List.append_assoc A B, copyWithin_split (A ++ B) C rest _ _ _ rfl h.2.2.1 h.2.2.2.1,
    bind_ok, if_neg h.2.1, h.2.2.2.2, List.append_assoc A B, List.take_left]

theorem writer_resize_grow (D Z T : Bytes) (n : Nat) (hZ : D.length + Z.length = n) (hn : n > D.length) :
    Writer.resize true ⟨D ++ (Z ++ T), D.length⟩ n = .ok ⟨D ++ zeros (n - D.length) ++ T, n⟩ := by
  have h : ¬ n > (D ++ (Z ++ T)).length ∧ D.length ≤ (D ++ (Z ++ T)).length := by
    simp only [List.length_append]; omega
  rw [Writer.resize, if_pos rfl, if_neg h.1, if_pos hn, if_pos h.2, List.take_left, drop3 D Z T n hZ]

theorem writer_resize_shrink (D rest : Bytes) (n : Nat) (hn : ¬ n > D.length) :
    Writer.resize true ⟨D ++ rest, D.length⟩ n = .ok ⟨D ++ rest, n⟩ := by
  have h : ¬ n > (D ++ rest).length := by simp only [List.length_append]; omega
  rw [Writer.resize, if_pos rfl, if_neg h, if_neg hn]

theorem writer_refines : Refines (writerImpl true) WRel False := by
  refine ⟨?_, ?_, ?_, ?_, ?_, ?_⟩
  · intro w l h
    obtain ⟨D, rest, rfl, rfl⟩ := wrel_split w l h
    exact writer_view D rest
  · intro w l v h
    obtain ⟨D, rest, rfl, rfl⟩ := wrel_split w l h
    show StepRel _ _ (Writer.setView _ _) _
    rw [LBuf.setView]
    split
    · rename_i hv
      rw [writer_setView D rest v hv]
      exact Or.inl ⟨_, rfl, wrel_mk v rest _ (by rw [hv])⟩
    · trivial
  · intro w l d h
    obtain ⟨D, rest, rfl, rfl⟩ := wrel_split w l h
    show StepRel _ _ (Writer.write _ _) _
    by_cases hf : d.length ≤ rest.length
    · obtain ⟨Z, T, rfl, hZ⟩ := split_at rest d.length hf
      have hc : D.length + (Z ++ T).length = (D ++ d).length + T.length := by
        simp only [List.length_append]; omega
      rw [lbuf_write_some, if_pos (Nat.add_le_add_left hf _), writer_write D Z T d hZ]
      exact Or.inl ⟨_, rfl, wrel_mk (D ++ d) T _ hc⟩
    · have h1 : D.length + d.length > (D ++ rest).length := by simp only [List.length_append]; omega
      rw [lbuf_write_some, if_neg (by omega), Writer.write, if_pos h1]
      exact Or.inl rfl
  · intro w l q d h
    obtain ⟨D, rest, rfl, rfl⟩ := wrel_split w l h
    show StepRel _ _ (Writer.insert true _ _ _) _
    by_cases hf : d.length ≤ rest.length
    · rw [lbuf_insert_some, if_pos (Nat.add_le_add_left hf _)]
      split
      · trivial
      · rename_i hq
        obtain ⟨A, B, rfl, rfl⟩ := split_at D q (Nat.le_of_not_gt hq)
        rw [List.take_left, List.drop_left]
        by_cases hd : d.length = 0
        · rw [Writer.insert, if_pos hd, List.eq_nil_of_length_eq_zero hd, List.append_nil]
          exact Or.inl ⟨_, rfl, wrel_mk (A ++ B) rest _ rfl⟩
        · obtain ⟨Z, T, rfl, hZ⟩ := split_at rest d.length hf
          have hc : (A ++ B).length + (Z ++ T).length = (A ++ d ++ B).length + T.length := by
            simp only [List.length_append]; omega
          rw [List.append_assoc A B, writer_insert A B Z T d hd hZ, ← List.append_assoc (A ++ d) B T]
          exact Or.inl ⟨_, rfl, wrel_mk (A ++ d ++ B) T _ hc⟩
    · have h1 : ¬ d.length = 0 ∧ D.length + d.length > (D ++ rest).length := by
        simp only [List.length_append]; omega
      rw [lbuf_insert_some, if_neg (by omega), Writer.insert, if_neg h1.1, if_pos h1.2]
      exact Or.inl rfl
  · intro w l s e h
    obtain ⟨D, rest, rfl, rfl⟩ := wrel_split w l h
    show StepRel _ _ (Writer.remove _ _ _) _
    rw [LBuf.remove]
    split
    · rename_i hse
      obtain ⟨AB, C, rfl, rfl⟩ := split_at D e hse.2
      obtain ⟨A, B, rfl, rfl⟩ := split_at AB s hse.1
      have hc : (A ++ (B ++ C)).length + rest.length
          = (A ++ C ++ (A ++ (B ++ (C ++ rest))).drop (A.length + C.length)).length := by
        simp only [List.length_append, List.length_drop]; omega
      rw [List.drop_left, List.append_assoc A B C, List.take_left, List.append_assoc A (B ++ C), List.append_assoc B C,
        writer_remove A B C rest]
      exact Or.inl ⟨_, rfl, le_length_append _ _, List.take_left, congrArg some hc⟩
    · trivial
  · intro w l n h
    obtain ⟨D, rest, rfl, rfl⟩ := wrel_split w l h
    show StepRel _ _ (Writer.resize true _ _) _
    by_cases hf : n ≤ D.length + rest.length
    · rw [lbuf_resize_some, if_pos hf]
      by_cases hg : n > D.length
      · obtain ⟨Z, T, rfl, hZ⟩ := split_at rest (n - D.length) (by omega)
        have hc : D.length + Z.length = n ∧ (D ++ zeros (n - D.length)).length = n ∧
            D.length + (Z ++ T).length = (D ++ zeros (n - D.length)).length + T.length := by
          simp only [List.length_append, zeros_length]; omega
        rw [writer_resize_grow D Z T n hc.1 hg, List.take_of_length_le (Nat.le_of_lt hg)]
        have := wrel_mk (D ++ zeros (n - D.length)) T _ hc.2.2
        rw [hc.2.1] at this
        exact Or.inl ⟨_, rfl, this⟩
      · have hz : n - D.length = 0 ∧ n ≤ (D ++ rest).length := by simp only [List.length_append]; omega
        rw [writer_resize_shrink D rest n hg, hz.1]
        exact Or.inl ⟨_, rfl, hz.2, by rw [List.take_append_of_le_length (Nat.le_of_not_gt hg)]; exact (List.append_nil _).symm,
          by rw [List.length_append]⟩
    · have h1 : n > (D ++ rest).length := by simp only [List.length_append]; omega
      rw [lbuf_resize_some, if_neg hf, Writer.resize, if_pos rfl, if_pos h1]
      exact Or.inl rfl

/-! ### what the refinement means for a run, spelled out -/

/-- a `Writer` run `x` against a run `r` over the list with a capacity: the same returned value, the list's bytes before the
    position, position = their number, slice length = the capacity; the same error; nothing where the list run panics -/
def WriterOut {α : Type} (r : Res (LBuf × α)) (x : Res (Writer × α)) : Prop :=
  match r with
  | .ok (l, a) => ∃ rest', l.cap = some (l.data.length + rest'.length) ∧ x = .ok (⟨l.data ++ rest', l.data.length⟩, a)
  | .err e => x = .err e
  | .panic _ => True

theorem writer_run_out {α : Type} (prog : Prog α) (input rest : Bytes) :
    WriterOut (prog.run specImpl ⟨input, some (input.length + rest.length)⟩)
      (prog.run (writerImpl true) ⟨input ++ rest, input.length⟩) := by
  have h := run_refines (writerImpl true) WRel False writer_refines prog _ _ (wrel_mk input rest _ rfl)
  revert h
  cases prog.run specImpl ⟨input, some (input.length + rest.length)⟩ with
  | ok p =>
    obtain ⟨l', a⟩ := p
    intro h
    rcases h with ⟨b', hx, hR⟩ | ⟨hf, _⟩
    · obtain ⟨D, rest', rfl, rfl⟩ := wrel_split b' l' hR
      exact ⟨rest', rfl, hx⟩
    · exact hf.elim
  | err e =>
    intro h
    rcases h with hx | ⟨hf, _⟩
    · exact hx
    · exact hf.elim
  | panic p => intro _; trivial

theorem writerOut_ok {α : Type} {buf : Bytes} {c : Nat} {a : α} {x : Res (Writer × α)}
    (h : WriterOut (.ok (⟨buf, some c⟩, a)) x) :
    ∃ rest', buf.length + rest'.length = c ∧ x = .ok (⟨buf ++ rest', buf.length⟩, a) := by
  obtain ⟨rest', hc, hx⟩ := h
  exact ⟨rest', (Option.some.inj hc).symm, hx⟩

/-- the same with the slice length forgotten -/
theorem writer_run_agrees {α : Type} (prog : Prog α) (input rest : Bytes) :
    match prog.run specImpl ⟨input, some (input.length + rest.length)⟩ with
    | .ok (l', a) => ∃ rest', prog.run (writerImpl true) ⟨input ++ rest, input.length⟩ = .ok (⟨l'.data ++ rest', l'.data.length⟩, a)
    | .err e => prog.run (writerImpl true) ⟨input ++ rest, input.length⟩ = .err e
    | .panic _ => True := by
  have h := writer_run_out prog input rest
  revert h
  cases prog.run specImpl ⟨input, some (input.length + rest.length)⟩ with
  | ok p => rintro ⟨r, _, hx⟩; exact ⟨r, hx⟩
  | err e => exact id
  | panic p => intro _; trivial

/-! ### `writerImpl false` (the arithmetic of `buffer/writer.rs` before the repair) does not -/

/-- `buffer_insert(0, [0; 8])` on a 16-byte prefix of a 24-byte slice (what AES-KW wrap does first): `0 - 8` -/
theorem current_insert_panics :
    Writer.insert false ⟨zeros 24, 16⟩ 0 (zeros 8) = .panic .arithOverflow := by decide +kernel

/-- `buffer_resize(11)` at position 27 of a 91-byte slice (ChaCha20-Poly1305 decrypt of an 11-byte message's box):
    the position becomes 38 -/
theorem current_resize_adds :
    Writer.resize false ⟨zeros 91, 27⟩ 11 = .ok ⟨zeros 91, 38⟩ := by decide +kernel

theorem current_not_refines : ¬ Refines (writerImpl false) WRel False := by
  intro h
  have hR : WRel ⟨zeros 24, 16⟩ ⟨zeros 16, some 24⟩ := ⟨by decide, by decide, by decide⟩
  have h1 := h.insert ⟨zeros 24, 16⟩ ⟨zeros 16, some 24⟩ 0 (zeros 8) hR
  have e1 : (writerImpl false).insert ⟨zeros 24, 16⟩ 0 (zeros 8) = .panic .arithOverflow := current_insert_panics
  have e2 : LBuf.insert ⟨zeros 16, some 24⟩ 0 (zeros 8) = .ok ⟨zeros 24, some 24⟩ := by decide +kernel
  rw [e1, e2] at h1
  rcases h1 with ⟨b', hb, _⟩ | ⟨hf, _⟩
  · cases hb
  · exact hf

/-- the same for `buffer_resize` alone (a repair of `splice` only would not be enough) -/
theorem current_resize_not_refines :
    ¬ StepRel WRel False ((writerImpl false).resize ⟨zeros 91, 27⟩ 11) (LBuf.resize ⟨zeros 27, some 91⟩ 11) := by
  have e1 : (writerImpl false).resize ⟨zeros 91, 27⟩ 11 = .ok ⟨zeros 91, 38⟩ := current_resize_adds
  have e2 : LBuf.resize ⟨zeros 27, some 91⟩ 11 = .ok ⟨zeros 11, some 91⟩ := by decide +kernel
  rw [e1, e2]
  intro h
  rcases h with ⟨b', hb, hR⟩ | ⟨hf, _⟩
  · cases hb
    have : (zeros 91).take 38 = zeros 11 := hR.2.1
    exact absurd (congrArg List.length this) (by decide)
  · exact hf

/-- at the level of an in-place operation (toy primitives): the box of an 11-byte message, decrypted through
    `writerImpl false` with 64 spare bytes, is "Ok" with position 38 — the list run gives the 11 bytes of the message -/
theorem current_decrypt_wrong_position :
    ((decryptInPlaceP true toyPrims ⟨.C20P, zeros 32⟩ (zeros 12) []).run specImpl
        ⟨List.replicate 27 7, none⟩ = .ok (⟨List.replicate 11 7, none⟩, ())) ∧
    ((decryptInPlaceP true toyPrims ⟨.C20P, zeros 32⟩ (zeros 12) []).run (writerImpl false)
        ⟨List.replicate 27 7 ++ zeros 64, 27⟩ = .ok (⟨List.replicate 27 7 ++ zeros 64, 38⟩, ())) := by
  constructor <;> decide +kernel

/-- … and AES-KW wrap of 16 bytes through it panics (here with 72 spare bytes; the subtraction `0 - 8` of
    `current_insert_panics` does not look at the capacity) -/
theorem current_kw_wrap_panics :
    (encryptInPlaceP toyPrims ⟨.A128Kw, zeros 16⟩ [] []).run (writerImpl false) ⟨zeros 16 ++ zeros 72, 16⟩
      = .panic .arithOverflow := by decide +kernel

end Askar.ResizeBuf.Lemmas
