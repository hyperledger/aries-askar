/-
Lemmas about the executable specification of ECDSA (`Crypto/Ecdsa.lean`, SEC 1 + RFC 6979): the big-endian encoding, the nonce
range, the shape of a signature, low-S, and correctness of the signing and verification equations over every structure of group
operations that satisfies `Laws` (with a small instance that does).
Core Lean only.
-/
import AskarModel.Crypto.Ecdsa

namespace Askar.Crypto.Ecdsa
open Askar Askar.Ec

theorem i2osp_length : ∀ len n, (i2osp len n).length = len
  | 0, _ => rfl
  | len + 1, n => by simp [i2osp, i2osp_length len]

theorem foldl_i2osp (len : Nat) : ∀ n acc,
    (i2osp len n).foldl (fun acc x => acc * 256 + x.toNat) acc = acc * 256 ^ len + n % 256 ^ len := by
  induction len with
  | zero => intro n acc; simp [i2osp, Nat.mod_one]
  | succ len ih =>
    intro n acc
    have h : (UInt8.ofNat (n / 256 ^ len % 256)).toNat = n / 256 ^ len % 256 :=
      UInt8.toNat_ofNat'.trans (Nat.mod_mod _ _)
    rw [i2osp, List.foldl_cons, ih, h, Nat.pow_succ, Nat.mod_mul, Nat.add_mul, Nat.mul_assoc, Nat.mul_comm 256 (256 ^ len),
      Nat.mul_comm (n / 256 ^ len % 256), Nat.add_assoc, Nat.add_comm (n % 256 ^ len)]

theorem os2ip_i2osp (len n : Nat) : os2ip (i2osp len n) = n % 256 ^ len := by
  unfold os2ip
  rw [foldl_i2osp]; simp

/-! the nonce -/

theorem nonceLoop_range (P : Params) (fuel : Nat) : ∀ K V k, nonceLoop P fuel K V = some k → 1 ≤ k ∧ k < P.q := by
  induction fuel with
  | zero => intro _ _ _ h; cases h
  | succ fuel ih =>
    intro K V k h
    rw [nonceLoop] at h
    by_cases hk : 1 ≤ bits2int P (genT P K P.rounds V []).2 ∧ bits2int P (genT P K P.rounds V []).2 < P.q
    · cases (if_pos hk).symm.trans h
      exact hk
    · exact ih _ _ k ((if_neg hk).symm.trans h)

theorem generateK_range (P : Params) (reduce : Bool) (x : Nat) (h1 : Bytes) (k : Nat)
    (h : generateK P reduce x h1 = some k) : 1 ≤ k ∧ k < P.q := by
  unfold generateK at h
  exact nonceLoop_range P _ _ _ k h

/-! signatures -/

/-- what a successful `signRS` says: r = x(k·G) mod n and s0 = k⁻¹(z + r·d) mod n are non-zero, and s is s0 or, under the low-S rule
    when s0 is in the upper half, n − s0 -/
theorem signRS_elim {Pt : Type} {O : Ops Pt} {lowS : Bool} {d k z r s : Nat} (h : signRS O lowS d k z = some (r, s)) :
    ∃ s0, s0 = O.inv k * (z + r * d) % O.n ∧ O.xModN (O.mulBase k) = some r ∧ r ≠ 0 ∧ s0 ≠ 0 ∧
      s = if lowS = true ∧ s0 > O.n / 2 then O.n - s0 else s0 := by
  unfold signRS at h
  cases hx : O.xModN (O.mulBase k) with
  | none => rw [hx] at h; cases h
  | some r' =>
    rw [hx] at h
    dsimp only at h
    by_cases hz : r' = 0 ∨ O.inv k * (z + r' * d) % O.n = 0
    · rw [if_pos hz] at h; cases h
    · rw [if_neg hz] at h
      cases h
      exact ⟨_, rfl, rfl, fun e => hz (.inl e), fun e => hz (.inr e), rfl⟩

theorem signRS_lowS {Pt : Type} (O : Ops Pt) (d k z r s : Nat) (h : signRS O true d k z = some (r, s)) : s ≤ O.n / 2 := by
  obtain ⟨s0, _, _, _, _, rfl⟩ := signRS_elim h
  by_cases hc : s0 > O.n / 2
  · rw [if_pos ⟨rfl, hc⟩]; omega
  · rw [if_neg (fun h => hc h.2)]; exact Nat.le_of_not_gt hc

theorem signRS_range {Pt : Type} (O : Ops Pt) (hn : 0 < O.n) (lowS : Bool) (d k z r s : Nat) (h : signRS O lowS d k z = some (r, s)) :
    1 ≤ r ∧ 1 ≤ s ∧ s < O.n := by
  obtain ⟨s0, hs0, _, hr, hs00, rfl⟩ := signRS_elim h
  have hlt : s0 < O.n := hs0 ▸ Nat.mod_lt _ hn
  refine ⟨Nat.pos_of_ne_zero hr, ?_⟩
  by_cases hc : lowS = true ∧ s0 > O.n / 2
  · rw [if_pos hc]; exact ⟨Nat.sub_pos_of_lt hlt, Nat.sub_lt hn (Nat.pos_of_ne_zero hs00)⟩
  · rw [if_neg hc]; exact ⟨Nat.pos_of_ne_zero hs00, hlt⟩

theorem mod_add_congr {n a a' b b' : Nat} (h1 : a % n = a' % n) (h2 : b % n = b' % n) : (a + b) % n = (a' + b') % n := by
  rw [Nat.add_mod, h1, h2, ← Nat.add_mod]

theorem mod_mul_congr {n a a' b b' : Nat} (h1 : a % n = a' % n) (h2 : b % n = b' % n) : (a * b) % n = (a' * b') % n := by
  rw [Nat.mul_mod, h1, h2, ← Nat.mul_mod]

/-- k·s ≡ z + r·d when s ≡ k⁻¹(z + r·d) -/
theorem k_mul_s {Pt : Type} {O : Ops Pt} (hL : Laws O) {k e : Nat} (hk : k % O.n ≠ 0) :
    (k * (O.inv k * e % O.n)) % O.n = e % O.n := by
  have h1 : (k * (O.inv k * e % O.n)) % O.n = (k * (O.inv k * e)) % O.n := mod_mul_congr rfl (Nat.mod_mod _ _)
  have h2 : k * (O.inv k * e) = (O.inv k * k) * e := by
    rw [← Nat.mul_assoc, Nat.mul_comm k (O.inv k)]
  have h3 : ((O.inv k * k) * e) % O.n = (1 * e) % O.n :=
    mod_mul_congr (by rw [hL.inv_mul k hk, Nat.mod_eq_of_lt hL.n_pos]) rfl
  rw [h1, h2, h3, Nat.one_mul]

/-- u1 + u2·d ≡ w·(z + r·d) -/
theorem u_sum {n z r d w : Nat} : (z * w % n + r * w % n * d) % n = (w * (z + r * d)) % n := by
  have h1 : (z * w % n + r * w % n * d) % n = (z * w + r * w * d) % n :=
    mod_add_congr (Nat.mod_mod _ _) (mod_mul_congr (Nat.mod_mod _ _) rfl)
  rw [h1]
  congr 1
  rw [Nat.mul_add, Nat.mul_comm z w, Nat.mul_comm r w, Nat.mul_assoc]

/-- w·e ≡ k when k·s ≡ e and w·s ≡ 1 -/
theorem w_mul_e {n k s e w : Nat} (hn : 1 < n) (hks : (k * s) % n = e % n) (hws : (w * s) % n = 1) : (w * e) % n = k % n := by
  have h1 : (w * e) % n = (w * (k * s)) % n := mod_mul_congr rfl hks.symm
  have h2 : w * (k * s) = k * (w * s) := by rw [Nat.mul_left_comm]
  have h3 : (k * (w * s)) % n = (k * 1) % n := mod_mul_congr rfl (by rw [hws, Nat.mod_eq_of_lt hn])
  rw [h1, h2, h3, Nat.mul_one]

/-- a ≡ −k when a + k ≡ 0 -/
theorem neg_of_add {n a k : Nat} (hn : 0 < n) (h : (a + k) % n = 0) : a % n = (n - k % n) % n := by
  have hk : k % n < n := Nat.mod_lt _ hn
  have h1 : (a + k % n) % n = 0 := by rw [Nat.add_mod, Nat.mod_mod, ← Nat.add_mod]; exact h
  have h2 : a + n = (a + k % n) + (n - k % n) := by omega
  rw [← Nat.add_mod_right a n, h2, Nat.add_mod, h1, Nat.zero_add, Nat.mod_mod]

/-- w·e ≡ −k when k·s0 ≡ e, s0 + s = n and w·s ≡ 1 -/
theorem w_mul_e_neg {n k s0 s e w : Nat} (hn : 1 < n) (hks : (k * s0) % n = e % n) (hsum : s0 + s = n) (hws : (w * s) % n = 1) :
    (w * e) % n = (n - k % n) % n := by
  apply neg_of_add (by omega)
  have h1 : (w * e + k) % n = (w * (k * s0) + k * (w * s)) % n :=
    mod_add_congr (mod_mul_congr rfl hks.symm) (by
      have : (k * (w * s)) % n = (k * 1) % n := mod_mul_congr rfl (by rw [hws, Nat.mod_eq_of_lt hn])
      rw [this, Nat.mul_one])
  have h2 : w * (k * s0) + k * (w * s) = (k * w) * n := by
    rw [← hsum, Nat.mul_add, Nat.mul_left_comm w k s0, Nat.mul_assoc, Nat.mul_assoc]
  rw [h1, h2, Nat.mul_mod_left]

theorem ecdsa_correct {Pt : Type} {O : Ops Pt} (hL : Laws O) (lowS : Bool) {d k z r s : Nat} (hk : k % O.n ≠ 0)
    (h : signRS O lowS d k z = some (r, s)) : verifyRS O lowS (O.mulBase d) z r s = true := by
  have hn := hL.n_pos
  have hn0 : 0 < O.n := Nat.lt_trans Nat.zero_lt_one hn
  obtain ⟨s0, hs0, hx, hr, hs00, hs⟩ := signRS_elim h
  obtain ⟨_, hs1, hslt⟩ := signRS_range O hn0 lowS d k z r s h
  have hs0lt : s0 < O.n := hs0 ▸ Nat.mod_lt _ hn0
  -- the range checks of the verifier pass
  have hrange : ¬ (r = 0 ∨ r ≥ O.n ∨ s = 0 ∨ s ≥ O.n) := by
    rintro (e | e | e | e)
    · exact hr e
    · exact Nat.not_le_of_lt (hL.x_lt _ _ hx) e
    · exact Nat.ne_of_gt hs1 e
    · exact Nat.not_le_of_lt hslt e
  have hhigh : ¬ (lowS = true ∧ s > O.n / 2) := fun ⟨hl, hgt⟩ =>
    Nat.not_lt_of_le (signRS_lowS O d k z r s (hl ▸ h)) hgt
  have hks : (k * s0) % O.n = (z + r * d) % O.n := hs0 ▸ k_mul_s hL hk
  have hws : (O.inv s * s) % O.n = 1 := hL.inv_mul s (by rw [Nat.mod_eq_of_lt hslt]; exact Nat.ne_of_gt hs1)
  unfold verifyRS
  rw [if_neg hrange, if_neg hhigh]
  dsimp only
  rw [hL.lincomb_base, ← hL.mulBase_mod, u_sum]
  by_cases hc : lowS = true ∧ s0 > O.n / 2
  · -- s = n − s0: the verifier recomputes −k·G, which has the same x-coordinate
    rw [if_pos hc] at hs
    have hsum : s0 + s = O.n := hs ▸ Nat.add_sub_of_le (Nat.le_of_lt hs0lt)
    rw [w_mul_e_neg hn hks hsum hws, hL.mulBase_mod, hL.neg_x, hx]
    exact beq_self_eq_true _
  · rw [if_neg hc] at hs
    rw [w_mul_e hn (hs ▸ hks) hws, hL.mulBase_mod, hx]
    exact beq_self_eq_true _

theorem signRSBytes_elim {S : Suite} {reduce : Bool} {sk m : Bytes} {r s : Nat} (h : signRSBytes S reduce sk m = some (r, s)) :
    ∃ d k, S.secretScalar sk = some d ∧ 1 ≤ k ∧ k < S.curve.n ∧
      signRS (ops S.curve) S.lowS d k (bits2int S.params (S.digest m) % S.curve.n) = some (r, s) := by
  unfold signRSBytes at h
  split at h
  · cases h
  · rename_i d hd
    dsimp only at h
    split at h
    · cases h
    · rename_i k hk
      have hr := generateK_range _ _ _ _ _ hk
      exact ⟨d, k, hd, hr.1, hr.2, h⟩

theorem signRSBytes_lowS {S : Suite} (hlow : S.lowS = true) (hn : 0 < S.curve.n) {reduce : Bool} {sk m : Bytes} {r s : Nat}
    (h : signRSBytes S reduce sk m = some (r, s)) : 1 ≤ s ∧ s ≤ S.curve.n / 2 := by
  obtain ⟨d, k, _, _, _, hs⟩ := signRSBytes_elim h
  rw [hlow] at hs
  exact ⟨(signRS_range (ops S.curve) hn _ _ _ _ _ _ hs).2.1, signRS_lowS (ops S.curve) _ _ _ _ _ hs⟩

theorem sign_elim {S : Suite} {reduce : Bool} {sk m sig : Bytes} (h : sign S reduce sk m = some sig) :
    ∃ r s, signRSBytes S reduce sk m = some (r, s) ∧ sig = i2osp S.curve.len r ++ i2osp S.curve.len s := by
  unfold sign at h
  cases hrs : signRSBytes S reduce sk m with
  | none => rw [hrs] at h; cases h
  | some rs =>
    obtain ⟨r, s⟩ := rs
    rw [hrs] at h
    cases h
    exact ⟨r, s, rfl, rfl⟩

theorem sign_s_half {S : Suite} {reduce : Bool} {sk m sig : Bytes} (h : sign S reduce sk m = some sig) :
    ∃ r s, signRSBytes S reduce sk m = some (r, s) ∧ os2ip (sig.drop S.curve.len) = s % 256 ^ S.curve.len := by
  obtain ⟨r, s, hrs, rfl⟩ := sign_elim h
  refine ⟨r, s, hrs, ?_⟩
  have hl : (i2osp S.curve.len r).length = S.curve.len := i2osp_length _ _
  rw [List.drop_append_of_le_length (by omega), List.drop_of_length_le (by omega), List.nil_append, os2ip_i2osp]

theorem k256_n_pos : 0 < Ec.k256.n := by decide
theorem k256_half_lt : Ec.k256.n / 2 < 256 ^ 32 := by decide

/-! a group in which the laws hold (non-vacuity of `Laws`): Z/7 written additively, generator 1, "x-coordinate" of a ≠ 0 the smaller of a, 7 − a -/

def toyX (a : Nat) : Option Nat := if a % 7 = 0 then none else some (if a % 7 ≤ 3 then a % 7 else 7 - a % 7)

def toyOps : Ops Nat where
  n := 7
  mulBase := fun k => k % 7
  lincomb := fun u1 u2 q => (u1 + u2 * q) % 7
  xModN := toyX
  inv := fun a => (a % 7) ^ 5 % 7

theorem toy_inv : ∀ b, b < 7 → b ≠ 0 → (b ^ 5 % 7 * b) % 7 = 1 := by decide
theorem toy_neg : ∀ b, b < 7 → toyX ((7 - b) % 7) = toyX b := by decide
theorem toyX_lt : ∀ b, b < 7 → ∀ x, toyX b = some x → x < 7 := by decide

theorem toyX_mod (a : Nat) : toyX (a % 7) = toyX a := by
  unfold toyX; rw [Nat.mod_mod]

theorem toy_laws : Laws toyOps where
  n_pos := by decide
  inv_mul := by
    intro a ha
    show ((a % 7) ^ 5 % 7 * a) % 7 = 1
    rw [Nat.mul_mod, Nat.mod_mod]
    exact toy_inv (a % 7) (Nat.mod_lt _ (by decide)) ha
  mulBase_mod := fun k => Nat.mod_mod _ _
  lincomb_base := by
    intro u1 u2 d
    show (u1 + u2 * (d % 7)) % 7 = (u1 + u2 * d) % 7
    exact mod_add_congr rfl (mod_mul_congr rfl (Nat.mod_mod _ _))
  neg_x := by
    intro k
    show toyX ((7 - k % 7) % 7) = toyX (k % 7)
    exact toy_neg (k % 7) (Nat.mod_lt _ (by decide))
  x_lt := by
    intro pt x h
    show x < 7
    have h' : toyX pt = some x := h
    rw [← toyX_mod] at h'
    exact toyX_lt (pt % 7) (Nat.mod_lt _ (by decide)) x h'

end Askar.Crypto.Ecdsa

/- Not proved; nothing in Props depends on them:
   * ecdsa_laws_exec: `Ecdsa.Laws (Ecdsa.ops c)` for c = p256, p384, k256 — that the Jacobian formulas of `Ec.lean` realise a group of
     prime order n (associativity of the chord-tangent law, the exceptional cases of `addAffine`, primality of n for `invMod` by
     Fermat, `Nat.log2`-free bounds on the fuel 800).  Needs an elliptic-curve group-law development (Mathlib-free: long).
     `ecdsa_correct` is stated for every `Ops` with `Laws`; `toy_laws` shows the hypotheses are satisfiable.
   * ed25519_S_flip_rejected, strong form: with the same R, A, M a signature with CANONICAL S' ≠ S (both < L) is rejected by the strict
     verifier.  Needs: B has order exactly L in the Edwards group (so [S']B ≠ [S]B) and injectivity of `encode` on curve points.
     What is proved (`C13.ed25519_noncanonical_S_rejected`, `Ed25519.plusL_S`): every S' ≥ L — in particular S + L — is rejected by
     the canonical-S check of all three verifiers.
   * ed25519_correct: verifyStrict (publicKey sk) m (sign sk m) = true.  Needs the Edwards group law ([S]B = R + [k]A), that
     `encode`/`decodeLenient` are mutually inverse on curve points, and that [a]B is not of small order.
   * nonce fuel: `generateK` examines at most `nonceFuel` = 100 candidates and is `none` beyond; that it is never `none` is a statement
     about HMAC-SHA-2 outputs (each candidate is out of range with probability < 2⁻³²), not provable. -/
