/-
For Props/SqlSem.lean: the executable statement semantics of Model/SqlExec.lean agrees
with the hand-written statement functions of Model/Store.lean for every statement whose shape passes `shapeOk`
(proof by reflection: `shapeOk` is a Bool-valued check, the theorems turn `shapeOk s e = true` into an equation
between `exec… s` and the Store function).
-/
import AskarModel.Model.SqlExec

namespace Askar.Sql
open Askar.Store (Item Db Sess Kind Err Entry)
open Askar.Wql (Tag)
namespace Lemmas

theorem sameSet_mem {a b : List Atom} (h : sameSet a b = true) (x : Atom) : x ∈ a ↔ x ∈ b := by
  simp only [sameSet, Bool.and_eq_true, List.all_eq_true, List.contains_iff_mem] at h
  exact ⟨h.1 x, h.2 x⟩

theorem sameSet_symm {a b : List Atom} (h : sameSet a b = true) : sameSet b a = true := by
  simp only [sameSet, Bool.and_eq_true] at h ⊢
  exact ⟨h.2, h.1⟩

theorem sameSet_trans {a b c : List Atom} (h1 : sameSet a b = true) (h2 : sameSet b c = true) : sameSet a c = true := by
  have m1 := sameSet_mem h1
  have m2 := sameSet_mem h2
  simp only [sameSet, Bool.and_eq_true, List.all_eq_true, List.contains_iff_mem]
  exact ⟨fun x hx => (m2 x).1 ((m1 x).1 hx), fun x hx => (m1 x).2 ((m2 x).2 hx)⟩

theorem all_congr_of_sameSet {a b : List Atom} (h : sameSet a b = true) (f : Atom → Bool) : a.all f = b.all f := by
  rw [Bool.eq_iff_iff]
  simp only [List.all_eq_true]
  constructor
  · intro ha x hx; exact ha x ((sameSet_mem h x).2 hx)
  · intro hb x hx; exact hb x ((sameSet_mem h x).1 hx)

theorem matches_congr (other) (now : Int) (p : Params) (a b : Stmt) (h : sameSet a.whereAtoms b.whereAtoms = true) :
    Stmt.matches other now p a = Stmt.matches other now p b := by
  funext it
  exact all_congr_of_sameSet h _

theorem Val.int_beq (a b : Int) : (Val.int a == Val.int b) = (a == b) := by
  rw [Bool.eq_iff_iff]; simp
theorem Val.enc_beq (k k' : Nat) (s s' : String) : (Val.enc k s == Val.enc k' s') = (k == k' && s == s') := by
  rw [Bool.eq_iff_iff]; simp

theorem Val.int_bne_null (b : Int) : (Val.int b != Val.null) = true := by rw [bne_iff_ne]; exact fun h => Val.noConfusion h
theorem Val.enc_bne_null (k : Nat) (s : String) : (Val.enc k s != Val.null) = true := by rw [bne_iff_ne]; exact fun h => Val.noConfusion h
theorem Val.int_beq_null (b : Int) : (Val.int b == Val.null) = false := by rw [beq_eq_false_iff_ne]; exact fun h => Val.noConfusion h
theorem Val.enc_beq_null (k : Nat) (s : String) : (Val.enc k s == Val.null) = false := by rw [beq_eq_false_iff_ne]; exact fun h => Val.noConfusion h

theorem col_pid (it : Item) : col "profile_id" it = some (.int it.pid) := by simp [col]
theorem col_kind (it : Item) : col "kind" it = some (.int it.kind) := by simp [col]
theorem col_cat (it : Item) : col "category" it = some (.enc it.key it.cat) := by simp [col]
theorem col_name (it : Item) : col "name" it = some (.enc it.key it.name) := by simp [col]

theorem eval_eq_int (other) (now : Int) (p : Params) (it : Item) {c : String} {n : Nat} {a b : Int}
    (hc : col c it = some (.int a)) (hp : p n = .int b) :
    Atom.eval other now p it (.eqParam c n) = (a == b) := by
  simp only [Atom.eval, hc, hp, Val.int_beq, Val.int_bne_null, Bool.true_and, Bool.and_true]

theorem eval_eq_enc (other) (now : Int) (p : Params) (it : Item) {c : String} {n : Nat} {k k' : Nat} {s s' : String}
    (hc : col c it = some (.enc k s)) (hp : p n = .enc k' s') :
    Atom.eval other now p it (.eqParam c n) = (k == k' && s == s') := by
  simp only [Atom.eval, hc, hp, Val.enc_beq, Val.enc_bne_null, Bool.true_and]

theorem eval_orNull_null (other) (now : Int) (p : Params) (it : Item) (c : String) {n : Nat} (hp : p n = .null) :
    Atom.eval other now p it (.eqParamOrNull c n) = true := by
  simp [Atom.eval, hp]

theorem eval_orNull_int (other) (now : Int) (p : Params) (it : Item) {c : String} {n : Nat} {a b : Int}
    (hc : col c it = some (.int a)) (hp : p n = .int b) :
    Atom.eval other now p it (.eqParamOrNull c n) = (a == b) := by
  simp only [Atom.eval, hc, hp, Val.int_beq, Val.int_bne_null, Val.int_beq_null, Bool.true_and, Bool.or_false, Bool.and_true]

theorem eval_orNull_enc (other) (now : Int) (p : Params) (it : Item) {c : String} {n : Nat} {k k' : Nat} {s s' : String}
    (hc : col c it = some (.enc k s)) (hp : p n = .enc k' s') :
    Atom.eval other now p it (.eqParamOrNull c n) = (k == k' && s == s') := by
  simp only [Atom.eval, hc, hp, Val.enc_beq, Val.enc_bne_null, Val.enc_beq_null, Bool.true_and, Bool.or_false]

theorem natCast_beq (a b : Nat) : ((a : Int) == (b : Int)) = (a == b) := by
  rw [Bool.eq_iff_iff]; simp only [beq_iff_eq]; omega

theorem ident_eval (other) (now : Int) (p : Params) (it : Item) (pid key : Nat) (kind : Kind) (cat name : String)
    (h1 : p 1 = .int pid) (h2 : p 2 = .int kind) (h3 : p 3 = .enc key cat) (h4 : p 4 = .enc key name) :
    Expected.ident.all (Atom.eval other now p it) = it.sameIdent pid key kind cat name := by
  simp only [Expected.ident, List.all_cons, List.all_nil, Bool.and_true,
    eval_eq_int other now p it (col_pid it) h1, eval_eq_int other now p it (col_kind it) h2,
    eval_eq_enc other now p it (col_cat it) h3, eval_eq_enc other now p it (col_name it) h4,
    natCast_beq, Item.sameIdent]
  rw [Bool.eq_iff_iff]
  simp only [Bool.and_eq_true]
  -- what remains is reassociation plus `k ∧ c ∧ k ∧ n ↔ k ∧ c ∧ n`: both encrypted columns carry the key, `sameIdent` tests it once
  grind

theorem scope_eval (other) (now : Int) (p : Params) (it : Item) (pid key : Nat) (kind : Option Kind) (cat : Option String)
    (h1 : p 1 = .int pid) (h2 : p 2 = (match kind with | none => .null | some k => .int k))
    (h3 : p 3 = (match cat with | none => .null | some c => .enc key c)) :
    Expected.scope.all (Atom.eval other now p it) = it.inScope pid key kind cat := by
  simp only [Expected.scope, List.all_cons, List.all_nil, Bool.and_true,
    eval_eq_int other now p it (col_pid it) h1, natCast_beq, Item.inScope]
  cases kind <;> cases cat <;> simp only [] at h2 h3
  · rw [eval_orNull_null _ _ _ _ _ h2, eval_orNull_null _ _ _ _ _ h3]; simp
  · rw [eval_orNull_null _ _ _ _ _ h2, eval_orNull_enc _ _ _ _ (col_cat it) h3]; simp
  · rw [eval_orNull_int _ _ _ _ (col_kind it) h2, eval_orNull_null _ _ _ _ _ h3, natCast_beq]; simp
  · rw [eval_orNull_int _ _ _ _ (col_kind it) h2, eval_orNull_enc _ _ _ _ (col_cat it) h3, natCast_beq]; simp [Bool.and_assoc]

/-! ### what `shapeOk` gives -/

theorem shapeOk_where {s e : Stmt} (h : shapeOk s e = true) : sameSet s.whereAtoms e.whereAtoms = true := by
  simp only [shapeOk, Bool.and_eq_true] at h
  exact h.1.1.2

theorem shapeOk_cols {s e : Stmt} (h : shapeOk s e = true) : s.cols = e.cols := by
  simp only [shapeOk, Bool.and_eq_true, beq_iff_eq] at h
  exact h.1.1.1.2

theorem shapeOk_policy {s e : Stmt} (h : shapeOk s e = true) : s.policy = e.policy := by
  simp only [shapeOk, Bool.and_eq_true, beq_iff_eq] at h
  exact h.1.1.1.1.2

theorem liveAtom_eval (b : Backend) (other) (now : Int) (p : Params) (it : Item) :
    Atom.eval other now p it b.liveAtom = b.live now it := by
  cases b <;> rfl

theorem hits_of_sameSet (other) (now : Int) (p : Params) (s : Stmt) (extra : Item → Bool) (L : List Atom)
    (h : sameSet s.whereAtoms L = true) (it : Item) :
    s.hits other now p extra it = (L.all (Atom.eval other now p it) && extra it) := by
  unfold Stmt.hits Stmt.matches
  rw [all_congr_of_sameSet h]

theorem hits_ident (other) (now : Int) (s : Stmt) (sess : Sess) (kind : Kind) (cat name : String) (value : Bytes)
    (expiry : Option Int) (h : sameSet s.whereAtoms Expected.ident = true) :
    s.hits other now (identParams sess kind cat name value expiry) noExtra =
      fun it => it.sameIdent sess.pid sess.key kind cat name := by
  funext it
  rw [hits_of_sameSet other now _ s noExtra _ h, ident_eval other now _ it sess.pid sess.key kind cat name rfl rfl rfl rfl]
  simp [noExtra]

theorem hits_scope (other) (now : Int) (s : Stmt) (sess : Sess) (kind : Option Kind) (cat : Option String) (extra : Item → Bool)
    (h : sameSet s.whereAtoms Expected.scope = true) :
    s.hits other now (scopeParams sess kind cat) extra = fun it => it.inScope sess.pid sess.key kind cat && extra it := by
  funext it
  rw [hits_of_sameSet other now _ s _ _ h, scope_eval other now _ it sess.pid sess.key kind cat rfl rfl rfl]

theorem execSelect_congr (other) (now : Int) (s s' : Stmt) (h : sameSet s.whereAtoms s'.whereAtoms = true)
    (p : Params) (extra : Item → Bool) (db : Db) :
    execSelect other now s p extra db = execSelect other now s' p extra db := by
  unfold execSelect Stmt.hits
  rw [matches_congr other now p s s' h]

theorem select_ident (b : Backend) (other) (now : Int) (p : Params) (s : Stmt) (pid key : Nat) (kind : Kind) (cat name : String)
    (h1 : p 1 = .int pid) (h2 : p 2 = .int kind) (h3 : p 3 = .enc key cat) (h4 : p 4 = .enc key name)
    (h : sameSet s.whereAtoms (Expected.ident ++ [b.liveAtom]) = true) (db : Db) :
    execSelect other now s p noExtra db = db.items.filter fun it => it.sameIdent pid key kind cat name && b.live now it := by
  unfold execSelect
  refine List.filter_congr fun it _ => ?_
  rw [hits_of_sameSet other now p s noExtra _ h, List.all_append, ident_eval other now p it pid key kind cat name h1 h2 h3 h4]
  simp [noExtra, liveAtom_eval]

theorem select_scope (b : Backend) (other) (now : Int) (p : Params) (s : Stmt) (extra : Item → Bool) (pid key : Nat)
    (kind : Option Kind) (cat : Option String)
    (h1 : p 1 = .int pid) (h2 : p 2 = (match kind with | none => .null | some k => .int k))
    (h3 : p 3 = (match cat with | none => .null | some c => .enc key c))
    (h : sameSet s.whereAtoms (Expected.scope ++ [b.liveAtom]) = true) (db : Db) :
    execSelect other now s p extra db = db.items.filter fun it => it.inScope pid key kind cat && b.live now it && extra it := by
  unfold execSelect
  refine List.filter_congr fun it _ => ?_
  rw [hits_of_sameSet other now p s extra _ h, List.all_append, scope_eval other now p it pid key kind cat h1 h2 h3]
  simp [liveAtom_eval]

theorem doFetchB_sqlite : doFetchB .sqlite = Store.doFetch := rfl
theorem doCountB_sqlite : doCountB .sqlite = Store.doCount := rfl
theorem selectRowsB_sqlite : selectRowsB .sqlite = Store.selectRows := rfl

theorem fetch_reflect (b : Backend) (other) (now : Int) (s : Stmt)
    (h : sameSet s.whereAtoms (Expected.ident ++ [b.liveAtom]) = true)
    (db : Db) (sess : Sess) (kind : Kind) (cat name : String) (value : Bytes) (expiry : Option Int) :
    (execSelect other now s (identParams sess kind cat name value expiry) noExtra db).head?.map toEntry
      = doFetchB b db now sess kind cat name := by
  rw [select_ident b other now _ s sess.pid sess.key kind cat name rfl rfl rfl rfl h, List.head?_filter]
  unfold doFetchB
  cases db.items.find? _ <;> rfl

theorem any_eq_filter_length {α} (p : α → Bool) (l : List α) : l.any p = decide ((l.filter p).length ≠ 0) := by
  induction l with
  | nil => rfl
  | cons x l ih =>
    simp only [List.any_cons, List.filter_cons, ih]
    cases p x <;> simp

theorem delete_reflect (other) (now : Int) (s : Stmt) (h : sameSet s.whereAtoms Expected.ident = true)
    (db : Db) (sess : Sess) (kind : Kind) (cat name : String) (value : Bytes) (expiry : Option Int) :
    removeOutcome (execDelete other now s (identParams sess kind cat name value expiry) noExtra db)
      = Store.doRemove db sess kind cat name := by
  unfold execDelete Store.doRemove
  rw [hits_ident other now s sess kind cat name value expiry h, any_eq_filter_length]
  cases hl : (db.items.filter fun it => it.sameIdent sess.pid sess.key kind cat name).length <;> simp [removeOutcome]

theorem delete_all_reflect (other) (now : Int) (s : Stmt) (h : sameSet s.whereAtoms Expected.scope = true)
    (like : Bytes → Bytes → Bool) (db : Db) (sess : Sess) (kind : Option Kind) (cat : Option String) (f : Option (Wql.Query String)) :
    execDelete other now s (scopeParams sess kind cat) (Store.matchFilter like f) db
      = Store.doRemoveAll like db sess kind cat f := by
  unfold execDelete Store.doRemoveAll
  rw [hits_scope other now s sess kind cat _ h]

theorem assignAll_update (sess : Sess) (kind : Kind) (cat name : String) (value : Bytes) (exp : Option Int) :
    assignAll (identParams sess kind cat name value exp) Expected.updateQuery.cols
      = some fun it => { it with value := value, expiry := exp } := by
  cases exp <;> rfl

theorem update_exec (other) (now : Int) (s : Stmt) (hc : s.cols = Expected.updateQuery.cols)
    (h : sameSet s.whereAtoms Expected.ident = true)
    (db : Db) (sess : Sess) (kind : Kind) (cat name : String) (value : Bytes) (exp : Option Int) (tags : List Tag) :
    execUpdate other now s (identParams sess kind cat name value exp) noExtra tags db
      = some ({ db with items := db.items.map fun it =>
                  if it.sameIdent sess.pid sess.key kind cat name then { it with value := value, tags := tags, expiry := exp } else it },
              (db.items.filter fun it => it.sameIdent sess.pid sess.key kind cat name).map (·.id)) := by
  unfold execUpdate
  rw [hc, assignAll_update, hits_ident other now s sess kind cat name value exp h]

theorem update_core (other) (now : Int) (s : Stmt) (hc : s.cols = Expected.updateQuery.cols)
    (h : sameSet s.whereAtoms Expected.ident = true)
    (db : Db) (sess : Sess) (kind : Kind) (cat name : String) (value : Bytes) (exp : Option Int) (tags : List Tag) :
    updateOutcome (execUpdate other now s (identParams sess kind cat name value exp) noExtra tags db)
      = if db.items.any (·.sameIdent sess.pid sess.key kind cat name) then
          .ok { db with items := db.items.map fun it =>
                  if it.sameIdent sess.pid sess.key kind cat name then { it with value := value, tags := tags, expiry := exp } else it }
        else .error .notFound := by
  rw [update_exec other now s hc h, any_eq_filter_length]
  cases hl : (db.items.filter fun it => it.sameIdent sess.pid sess.key kind cat name) <;> simp [updateOutcome]

theorem indexKey_beq (it row : Item) :
    (indexKey it == indexKey row) = it.sameIdent row.pid row.key row.kind row.cat row.name := by
  rw [Bool.eq_iff_iff]
  simp only [indexKey, uniqueIndex, List.map_cons, List.map_nil, col_pid, col_kind, col_cat, col_name, beq_iff_eq,
    List.cons.injEq, Option.some.injEq, Val.int.injEq, Val.enc.injEq, and_true, Item.sameIdent, Bool.and_eq_true]
  simp only [Int.natCast_inj]
  -- as in `ident_eval`: the key occurs in both encrypted columns on the left and once in `sameIdent`
  grind

theorem buildRow_bound (cols : List (String × Nat)) (p : Params) (id : Nat) (tags : List Tag) (n1 n2 n3 n4 n5 n6 : Nat)
    (pid key : Nat) (kind : Kind) (cat name : String) (value : Bytes) (exp : Option Int)
    (l1 : cols.lookup "profile_id" = some n1) (l2 : cols.lookup "kind" = some n2) (l3 : cols.lookup "category" = some n3)
    (l4 : cols.lookup "name" = some n4) (l5 : cols.lookup "value" = some n5) (l6 : cols.lookup "expiry" = some n6)
    (h1 : p n1 = .int pid) (h2 : p n2 = .int kind) (h3 : p n3 = .enc key cat) (h4 : p n4 = .enc key name)
    (h5 : p n5 = .bytes value) (h6 : expiryOfVal (some (p n6)) = some exp) :
    buildRow cols p id tags
      = some { id := id, pid := pid, key := key, kind := kind, cat := cat, name := name, value := value,
               tags := tags, expiry := exp } := by
  unfold buildRow
  rw [l1, l2, l3, l4, l5, l6]
  simp only [Option.bind_some, Option.map_some, h1, h2, h3, h4, h5, h6, Val.toNat?, Val.toEnc?, Val.toBytes?,
    Int.natCast_nonneg, if_true, Int.toNat_natCast]

theorem buildRow_insert (sess : Sess) (kind : Kind) (cat name : String) (value : Bytes) (exp : Option Int) (id : Nat) (tags : List Tag) :
    buildRow Expected.insertQuery.cols (identParams sess kind cat name value exp) id tags
      = some { id := id, pid := sess.pid, key := sess.key, kind := kind, cat := cat, name := name, value := value,
               tags := tags, expiry := exp } :=
  buildRow_bound _ _ id tags 1 2 3 4 5 6 _ _ _ _ _ _ _ (by decide +kernel) (by decide +kernel) (by decide +kernel)
    (by decide +kernel) (by decide +kernel) (by decide +kernel) rfl rfl rfl rfl rfl (by cases exp <;> rfl)

theorem insert_exec (s : Stmt) (hc : s.cols = Expected.insertQuery.cols) (hp : s.policy = "ignore")
    (db : Db) (sess : Sess) (kind : Kind) (cat name : String) (value : Bytes) (exp : Option Int) (tags : List Tag) :
    execInsert s (identParams sess kind cat name value exp) tags db
      = some (if db.items.any (·.sameIdent sess.pid sess.key kind cat name) then (db, 0)
              else ({ db with items := db.items ++
                        [{ id := Store.nextId (db.items.map (·.id)), pid := sess.pid, key := sess.key, kind := kind, cat := cat,
                           name := name, value := value, tags := tags, expiry := exp }] }, 1)) := by
  unfold execInsert
  rw [hc, buildRow_insert]
  simp only [indexKey_beq, hp, if_true]
  split <;> rfl

theorem insert_core (s : Stmt) (hc : s.cols = Expected.insertQuery.cols) (hp : s.policy = "ignore")
    (db : Db) (sess : Sess) (kind : Kind) (cat name : String) (value : Bytes) (exp : Option Int) (tags : List Tag) :
    insertOutcome (execInsert s (identParams sess kind cat name value exp) tags db)
      = if db.items.any (·.sameIdent sess.pid sess.key kind cat name) then .error .duplicate
        else .ok { db with items := db.items ++
                        [{ id := Store.nextId (db.items.map (·.id)), pid := sess.pid, key := sess.key, kind := kind, cat := cat,
                           name := name, value := value, tags := tags, expiry := exp }] } := by
  rw [insert_exec s hc hp]
  split <;> rfl

/-! ### "up to the tags field": the tag-list argument of the INSERT / UPDATE executors reaches nothing but `Item.tags` -/

theorem buildRow_tags_only (cols : List (String × Nat)) (p : Params) (id : Nat) (t1 t2 : List Tag) :
    (buildRow cols p id t1).map clearTags = (buildRow cols p id t2).map clearTags := by
  unfold buildRow
  split
  · split <;> rfl
  · rfl

theorem indexKey_clearTags (it : Item) : indexKey (clearTags it) = indexKey it := rfl

theorem execInsert_tags_only (s : Stmt) (p : Params) (t1 t2 : List Tag) (db : Db) :
    (execInsert s p t1 db).map (fun r => (r.1.items.map clearTags, r.1.profiles, r.2))
      = (execInsert s p t2 db).map (fun r => (r.1.items.map clearTags, r.1.profiles, r.2)) := by
  have hb := buildRow_tags_only s.cols p (Store.nextId (db.items.map (·.id))) t1 t2
  unfold execInsert
  cases h1 : buildRow s.cols p (Store.nextId (db.items.map (·.id))) t1 <;>
    cases h2 : buildRow s.cols p (Store.nextId (db.items.map (·.id))) t2 <;> rw [h1, h2] at hb <;> simp at hb
  rename_i r1 r2
  have hk : indexKey r1 = indexKey r2 := by rw [← indexKey_clearTags r1, ← indexKey_clearTags r2, hb]
  simp only [hk]
  split
  · rfl
  · simp [hb]

theorem execUpdate_tags_only (other) (now : Int) (s : Stmt) (p : Params) (extra : Item → Bool) (t1 t2 : List Tag) (db : Db) :
    (execUpdate other now s p extra t1 db).map (fun r => (r.1.items.map clearTags, r.1.profiles, r.2))
      = (execUpdate other now s p extra t2 db).map (fun r => (r.1.items.map clearTags, r.1.profiles, r.2)) := by
  unfold execUpdate
  cases assignAll p s.cols
  · rfl
  · simp only [Option.map_some, List.map_map]
    congr 3
    funext it
    simp only [Function.comp]
    split <;> rfl


/-! ### Generic isolation (C07) and expiry hiding (C17): any statement with the conjunct `profile_id = ?1` / the expiry atom,
    whatever else it says -/

theorem hits_atom (other) (now : Int) (p : Params) (s : Stmt) (extra : Item → Bool) (it : Item) (a : Atom)
    (ha : s.whereAtoms.contains a = true) (h : s.hits other now p extra it = true) : Atom.eval other now p it a = true := by
  simp only [Stmt.hits, Stmt.matches, Bool.and_eq_true, List.all_eq_true] at h
  exact h.1 a (List.contains_iff_mem.1 ha)

theorem select_atom (other) (now : Int) (p : Params) (s : Stmt) (extra : Item → Bool) (a : Atom)
    (ha : s.whereAtoms.contains a = true) (db : Db) :
    ∀ it ∈ execSelect other now s p extra db, Atom.eval other now p it a = true :=
  fun it hit => hits_atom other now p s extra it a ha (List.mem_filter.1 hit).2

theorem hits_pid (other) (now : Int) (p : Params) (s : Stmt) (extra : Item → Bool) (pid : Nat)
    (hs : s.profileScoped = true) (hp : p 1 = .int pid) (it : Item) (h : s.hits other now p extra it = true) : it.pid = pid := by
  have := hits_atom other now p s extra it _ hs h
  rw [eval_eq_int other now p it (col_pid it) hp, natCast_beq] at this
  exact beq_iff_eq.1 this

theorem hits_false_of_pid_ne (other) (now : Int) (p : Params) (s : Stmt) (extra : Item → Bool) (pid : Nat)
    (hs : s.profileScoped = true) (hp : p 1 = .int pid) (it : Item) (h : it.pid ≠ pid) : s.hits other now p extra it = false := by
  cases hh : s.hits other now p extra it
  · rfl
  · exact absurd (hits_pid other now p s extra pid hs hp it hh) h

theorem select_isolated (other) (now : Int) (p : Params) (s : Stmt) (extra : Item → Bool) (pid : Nat)
    (hs : s.profileScoped = true) (hp : p 1 = .int pid) (db : Db) :
    ∀ it ∈ execSelect other now s p extra db, it.pid = pid := by
  intro it hit
  exact hits_pid other now p s extra pid hs hp it (List.mem_filter.1 hit).2

theorem filter_filter_of_imp {α} (q r : α → Bool) (l : List α) (h : ∀ x, r x = true → q x = true) :
    (l.filter q).filter r = l.filter r := by
  rw [List.filter_filter]
  apply List.filter_congr
  intro x _
  cases hr : r x
  · rfl
  · simp [h x hr]

theorem delete_isolated (other) (now : Int) (p : Params) (s : Stmt) (extra : Item → Bool) (pid : Nat)
    (hs : s.profileScoped = true) (hp : p 1 = .int pid) (db : Db) :
    (∀ it ∈ db.items, it ∉ (execDelete other now s p extra db).1.items → it.pid = pid) ∧
    (execDelete other now s p extra db).1.items.filter (·.pid != pid) = db.items.filter (·.pid != pid) ∧
    (execDelete other now s p extra db).1.profiles = db.profiles ∧
    (execDelete other now s p extra db).2 ≤ (db.items.filter (·.pid == pid)).length := by
  refine ⟨?_, ?_, rfl, ?_⟩
  · intro it hit hnot
    cases hh : s.hits other now p extra it
    · exact absurd (List.mem_filter.2 ⟨hit, by simp [hh]⟩) hnot
    · exact hits_pid other now p s extra pid hs hp it hh
  · apply filter_filter_of_imp
    intro x hx
    rw [hits_false_of_pid_ne other now p s extra pid hs hp x (by simpa using hx)]
    rfl
  · show (db.items.filter _).length ≤ _
    rw [← filter_filter_of_imp (·.pid == pid) (s.hits other now p extra) db.items
      (fun x hx => by simp [hits_pid other now p s extra pid hs hp x hx])]
    exact List.length_filter_le _ _

/-- the columns no SET list of the model assigns -/
def fixedCols (it : Item) := (it.id, it.pid, it.key, it.kind, it.cat, it.name, it.tags)

theorem assign_keeps (p : Params) (a : String × Nat) (f : Item → Item) (h : assign p a = some f) (it : Item) :
    fixedCols (f it) = fixedCols it := by
  obtain ⟨c, n⟩ := a
  unfold assign at h
  simp only [] at h
  split at h
  · split at h
    · cases h; rfl
    · cases h
  · split at h
    · split at h
      · cases h; rfl
      · cases h; rfl
      · cases h
    · cases h

theorem assignAll_keeps (p : Params) (cols : List (String × Nat)) (f : Item → Item) (h : assignAll p cols = some f) (it : Item) :
    fixedCols (f it) = fixedCols it := by
  induction cols generalizing f it with
  | nil => cases h; rfl
  | cons a rest ih =>
    unfold assignAll at h
    split at h
    · rename_i f1 g h1 h2
      cases h
      exact (ih g h2 (f1 it)).trans (assign_keeps p a f1 h1 it)
    · cases h

theorem update_isolated (other) (now : Int) (p : Params) (s : Stmt) (extra : Item → Bool) (pid : Nat)
    (hs : s.profileScoped = true) (hp : p 1 = .int pid) (tags : List Tag) (db db' : Db) (ids : List Nat)
    (h : execUpdate other now s p extra tags db = some (db', ids)) :
    (∃ g : Item → Item, db'.items = db.items.map g ∧ (∀ it, it.pid ≠ pid → g it = it) ∧
        (∀ it, (g it).id = it.id ∧ (g it).pid = it.pid)) ∧
    db'.items.filter (·.pid != pid) = db.items.filter (·.pid != pid) ∧
    db'.profiles = db.profiles ∧
    (∀ id ∈ ids, ∃ it ∈ db.items, it.id = id ∧ it.pid = pid) := by
  unfold execUpdate at h
  split at h
  · cases h
  · rename_i f hf
    simp only [Option.some.injEq, Prod.mk.injEq] at h
    obtain ⟨hdb, hids⟩ := h
    subst hdb hids
    have hg1 : ∀ it : Item, it.pid ≠ pid →
        (if s.hits other now p extra it = true then { f it with tags := tags } else it) = it := by
      intro it hne
      rw [hits_false_of_pid_ne other now p s extra pid hs hp it hne]; rfl
    have hg2 : ∀ it : Item, (if s.hits other now p extra it = true then { f it with tags := tags } else it).id = it.id ∧
        (if s.hits other now p extra it = true then { f it with tags := tags } else it).pid = it.pid := by
      intro it
      have k := assignAll_keeps p s.cols f hf it
      split
      · exact ⟨congrArg (·.1) k, congrArg (·.2.1) k⟩
      · exact ⟨rfl, rfl⟩
    refine ⟨⟨_, rfl, hg1, hg2⟩, ?_, rfl, ?_⟩
    · simp only [List.filter_map]
      have : ((fun x : Item => x.pid != pid) ∘ fun it => if s.hits other now p extra it = true then { f it with tags := tags } else it)
          = fun x : Item => x.pid != pid := by
        funext it; simp only [Function.comp, (hg2 it).2]
      rw [this]
      conv => rhs; rw [← List.map_id (db.items.filter fun x => x.pid != pid)]
      apply List.map_congr_left
      intro it hit
      have := (List.mem_filter.1 hit).2
      rw [hg1 it (by simpa using this)]; rfl
    · intro id hid
      obtain ⟨it, hit, rfl⟩ := List.mem_map.1 hid
      have := List.mem_filter.1 hit
      exact ⟨it, this.1, rfl, hits_pid other now p s extra pid hs hp it this.2⟩

theorem buildRow_pid (cols : List (String × Nat)) (p : Params) (id : Nat) (tags : List Tag) (row : Item) (n pid : Nat)
    (hs : cols.lookup "profile_id" = some n) (hp : p n = .int pid) (h : buildRow cols p id tags = some row) : row.pid = pid := by
  unfold buildRow at h
  rw [hs] at h
  simp only [Option.bind_some, hp, Val.toNat?, Int.natCast_nonneg, if_true, Int.toNat_natCast] at h
  split at h
  · split at h
    · rename_i heq _ _ _ _ _ _
      cases h
      exact (Option.some.inj heq).symm
    · cases h
  · cases h

theorem insert_isolated (s : Stmt) (p : Params) (pid : Nat) (hs : s.cols.lookup "profile_id" = some 1) (hp : p 1 = .int pid)
    (tags : List Tag) (db db' : Db) (n : Nat) (h : execInsert s p tags db = some (db', n)) :
    db'.profiles = db.profiles ∧ ∃ rows, db'.items = db.items ++ rows ∧ rows.length = n ∧ ∀ r ∈ rows, r.pid = pid := by
  unfold execInsert at h
  split at h
  · cases h
  · rename_i row hrow
    have hpid := buildRow_pid _ _ _ _ row 1 pid hs hp hrow
    split at h
    · split at h
      · cases h; exact ⟨rfl, [], by simp, rfl, by simp⟩
      · cases h
    · cases h; exact ⟨rfl, [row], rfl, rfl, by simp [hpid]⟩

/-! ### The two backends' expiry conjuncts -/

theorem livePg_eq_live_iff (now : Int) (it : Item) :
    livePg now it = Store.live now it ↔
      match it.expiry with
      | none => True
      | some e => e ≤ now ∨ (e / 1000 > now / 1000 ∧ e / 1000 ≤ Store.maxDatetimeSec ∧ -62167219200 ≤ e / 1000) := by
  unfold livePg Store.live Store.maxDatetimeSec
  cases it.expiry with
  | none => simp
  | some e =>
    rw [Bool.eq_iff_iff]
    simp only [decide_eq_true_eq, Bool.and_eq_true]
    omega

/-! ### from `shapeOk` against the expected shape of either backend -/

theorem where_of_fetch {b : Backend} {s : Stmt} (h : shapeOk s b.fetchQuery = true) :
    sameSet s.whereAtoms (Expected.ident ++ [b.liveAtom]) = true := by
  cases b <;> exact shapeOk_where h

theorem where_of_count {b : Backend} {s : Stmt} (h : shapeOk s b.countQuery = true) :
    sameSet s.whereAtoms (Expected.scope ++ [b.liveAtom]) = true := by
  cases b <;> exact shapeOk_where h

theorem where_of_scan {b : Backend} {s : Stmt} (h : shapeOk s b.scanQuery = true) :
    sameSet s.whereAtoms (Expected.scope ++ [b.liveAtom]) = true := by
  cases b <;> exact shapeOk_where h

theorem cols_of_insert {b : Backend} {s : Stmt} (h : shapeOk s b.insertQuery = true) :
    s.cols = Expected.insertQuery.cols ∧ s.policy = "ignore" := by
  cases b
  · exact ⟨shapeOk_cols h, shapeOk_policy h⟩
  · exact ⟨shapeOk_cols (e := ExpectedPg.insertQuery) h, shapeOk_policy (e := ExpectedPg.insertQuery) h⟩

/-- the row-locking fetch (`FOR NO KEY UPDATE`) has the WHERE clause of the plain fetch: `lock` is no part of the meaning -/
theorem where_of_fetchUpdate {s : Stmt} (h : shapeOk s ExpectedPg.fetchQueryUpdate = true) :
    sameSet s.whereAtoms (Expected.ident ++ [Backend.postgres.liveAtom]) = true :=
  shapeOk_where h

end Lemmas
end Askar.Sql
