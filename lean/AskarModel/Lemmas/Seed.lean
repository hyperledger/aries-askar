/-
Helper lemmas about `Model/Seed.lean`: `create_signature` against `write_signature`, and `LocalKey::from_seed` (method dispatch,
how the seed reaches the generator, totality, widths).
Core Lean only.
-/
import AskarModel.Model.Seed
import AskarModel.Lemmas.SignRes
import AskarModel.Lemmas.EcdsaSpec

namespace Askar.Seed
open Askar.Sign

/-! ## `create_signature` -/

theorem createSignature_eq (write : Bytes → Option SignatureType → Res CErr Bytes) (m : Bytes) (t : Option SignatureType) :
    createSignature write m t = write m t := by
  unfold createSignature
  cases write m t <;> rfl

/-! ## the seed -/

theorem detSeed_of_ge {s : Bytes} (h : 32 ≤ s.length) : detSeed s = s.take 32 := by
  unfold detSeed seedLen
  rw [Nat.sub_eq_zero_of_le h, List.replicate_zero, List.append_nil]

theorem detSeed_of_le {s : Bytes} (h : s.length ≤ 32) : detSeed s = s ++ List.replicate (32 - s.length) 0 := by
  unfold detSeed seedLen
  rw [List.take_of_length_le h]

theorem detSeed_length (s : Bytes) : (detSeed s).length = 32 := by
  by_cases h : 32 ≤ s.length
  · rw [detSeed_of_ge h, List.length_take, Nat.min_eq_left h]
  · rw [detSeed_of_le (by omega), List.length_append, List.length_replicate]; omega

theorem detSeed_of_length {s : Bytes} (h : s.length = 32) : detSeed s = s := by
  rw [detSeed_of_ge (Nat.le_of_eq h.symm), List.take_of_length_le (Nat.le_of_eq h)]

theorem detSeed_append_of_ge {s : Bytes} (h : 32 ≤ s.length) (t : Bytes) : detSeed (s ++ t) = detSeed s := by
  rw [detSeed_of_ge h, detSeed_of_ge (by rw [List.length_append]; omega), List.take_append_of_le_length h]

theorem detSeed_zero_ext {s : Bytes} (h : s.length < 32) : detSeed (s ++ [0]) = detSeed s := by
  have hl : (s ++ [0]).length = s.length + 1 := List.length_append
  rw [detSeed_of_le (Nat.le_of_lt h), detSeed_of_le (hl ▸ h), hl, List.append_assoc, List.singleton_append,
    ← List.replicate_succ, Nat.sub_add_eq, Nat.sub_add_cancel (Nat.le_sub_of_add_le' h)]

/-! ## `rngOf` -/

theorem rngOf_unknown (strict : Bool) (seed : Bytes) {method : Option String}
    (h1 : method ≠ none) (h2 : method ≠ some "") (h3 : method ≠ some "bls_keygen") : rngOf strict seed method = .err .unsupported := by
  unfold rngOf
  simp [h1, h2, h3]

theorem rngOf_bls (strict : Bool) (seed : Bytes) :
    rngOf strict seed (some "bls_keygen") = if seed.length < 32 then .err .input else .ok (.bls seed none) := by
  unfold rngOf
  simp

theorem rngOf_none (strict : Bool) (seed : Bytes) :
    rngOf strict seed none = if strict = true ∧ seed.length ≠ 32 then .err .input else .ok (.det (detSeed seed) 0) := by
  unfold rngOf seedLen
  simp

theorem rngOf_empty (strict : Bool) (seed : Bytes) : rngOf strict seed (some "") = rngOf strict seed none := by
  unfold rngOf
  simp

theorem rngOf_bls_ok {strict : Bool} {s : Bytes} {r : Rng} (h : rngOf strict s (some "bls_keygen") = .ok r) :
    r = .bls s none ∧ 32 ≤ s.length := by
  rw [rngOf_bls] at h
  split at h
  · cases h
  · cases h; exact ⟨rfl, by omega⟩

theorem rngOf_none_ok {strict : Bool} {s : Bytes} {r : Rng} (h : rngOf strict s none = .ok r) :
    r = .det (detSeed s) 0 ∧ (strict = true → s.length = 32) := by
  rw [rngOf_none] at h
  split at h
  · cases h
  · rename_i hc
    cases h
    refine ⟨rfl, fun hs => ?_⟩
    by_cases hl : s.length = 32
    · exact hl
    · exact absurd ⟨hs, hl⟩ hc

theorem method_cases (method : Option String) :
    (method = some "bls_keygen" ∨ method = none ∨ method = some "") ∨
    (method ≠ none ∧ method ≠ some "" ∧ method ≠ some "bls_keygen") := by
  by_cases h3 : method = some "bls_keygen"
  · exact .inl (.inl h3)
  · by_cases h1 : method = none
    · exact .inl (.inr (.inl h1))
    · by_cases h2 : method = some ""
      · exact .inl (.inr (.inr h2))
      · exact .inr ⟨h1, h2, h3⟩

/-! ## `generate` -/

theorem keyLen_bls {alg : KeyAlg} (h : isBls alg = true) : keyLen alg = 32 := by
  cases alg <;> simp_all [isBls, keyLen]

theorem ecLoop_ok {P : Prims} {alg : KeyAlg} : ∀ {fuel : Nat} {rng : Rng} {sk : Bytes},
    ecLoop P alg fuel rng = .ok sk → P.validScalar alg sk = true ∧ sk.length = keyLen alg
  | 0, _, _, h => by cases h
  | fuel + 1, rng, sk, h => by
    unfold ecLoop at h
    simp only at h
    split at h
    · rename_i hv
      cases h
      exact ⟨hv, P.read_len rng (keyLen alg)⟩
    · exact ecLoop_ok h

theorem ecLoop_no_err {P : Prims} {alg : KeyAlg} : ∀ (fuel : Nat) (rng : Rng) (e : CErr), ecLoop P alg fuel rng ≠ .err e
  | 0, _, _ => by intro h; cases h
  | fuel + 1, rng, e => by
    unfold ecLoop
    simp only
    split
    · intro h; cases h
    · exact ecLoop_no_err fuel _ e

theorem ecLoop_first {P : Prims} {alg : KeyAlg} {rng : Rng} (fuel : Nat) (h : P.validScalar alg (P.read rng (keyLen alg)).1 = true) :
    ecLoop P alg (fuel + 1) rng = .ok (P.read rng (keyLen alg)).1 := by
  unfold ecLoop
  simp [h]

theorem generate_no_err (P : Prims) (alg : KeyAlg) (rng : Rng) (e : CErr) : generate P alg rng ≠ .err e := by
  unfold generate
  split
  · exact ecLoop_no_err _ _ e
  · split <;> (intro h; cases h)

theorem generate_ok_length {P : Prims} {alg : KeyAlg} {rng : Rng} {sk : Bytes} (h : generate P alg rng = .ok sk) :
    sk.length = keyLen alg := by
  unfold generate at h
  split at h
  · exact (ecLoop_ok h).2
  · split at h
    · rename_i hb
      cases h
      rw [keyLen_bls hb]
      exact Crypto.Ecdsa.i2osp_length 32 _
    · cases h
      exact P.read_len rng (keyLen alg)

theorem generate_total {P : Prims} {alg : KeyAlg} (h : isEcLoop alg = false) (rng : Rng) :
    ∃ sk, generate P alg rng = .ok sk ∧ sk.length = keyLen alg := by
  have : ∃ sk, generate P alg rng = .ok sk := by
    unfold generate
    simp only [h, Bool.false_eq_true, if_false]
    split <;> exact ⟨_, rfl⟩
  obtain ⟨sk, hsk⟩ := this
  exact ⟨sk, hsk, generate_ok_length hsk⟩

/-! ## `from_seed` -/

theorem fromSeed_unknown (P : Prims) (strict : Bool) (alg : KeyAlg) (seed : Bytes) {method : Option String}
    (h1 : method ≠ none) (h2 : method ≠ some "") (h3 : method ≠ some "bls_keygen") :
    fromSeed P strict alg seed method = .err .unsupported := by
  unfold fromSeed
  rw [rngOf_unknown strict seed h1 h2 h3]
  rfl

theorem fromSeed_bls_short (P : Prims) (strict : Bool) (alg : KeyAlg) {seed : Bytes} (h : seed.length < 32) :
    fromSeed P strict alg seed (some "bls_keygen") = .err .input := by
  unfold fromSeed
  rw [rngOf_bls, if_pos h]
  rfl

theorem fromSeed_bls (P : Prims) (strict : Bool) (alg : KeyAlg) {seed : Bytes} (h : 32 ≤ seed.length) :
    fromSeed P strict alg seed (some "bls_keygen") = (generate P alg (.bls seed none)).mapErr CErr.toKind := by
  unfold fromSeed
  rw [rngOf_bls, if_neg (by omega)]
  rfl

theorem fromSeed_none_current (P : Prims) (alg : KeyAlg) (seed : Bytes) :
    fromSeed P false alg seed none = (generate P alg (.det (detSeed seed) 0)).mapErr CErr.toKind := by
  unfold fromSeed
  rw [rngOf_none]
  simp
  rfl

theorem fromSeed_empty (P : Prims) (strict : Bool) (alg : KeyAlg) (seed : Bytes) :
    fromSeed P strict alg seed (some "") = fromSeed P strict alg seed none := by
  unfold fromSeed
  rw [rngOf_empty]

theorem fromSeed_ok_elim {P : Prims} {strict : Bool} {alg : KeyAlg} {seed : Bytes} {method : Option String} {sk : Bytes}
    (h : fromSeed P strict alg seed method = .ok sk) : ∃ rng, rngOf strict seed method = .ok rng ∧ generate P alg rng = .ok sk := by
  unfold fromSeed at h
  cases hr : rngOf strict seed method with
  | ok rng =>
    rw [hr] at h
    exact ⟨rng, rfl, (Res.mapErr_eq_ok _ _ _).mp h⟩
  | err e => rw [hr] at h; cases h
  | panic p => rw [hr] at h; cases h

theorem fromSeed_err_elim {P : Prims} {strict : Bool} {alg : KeyAlg} {seed : Bytes} {method : Option String} {e : ErrKind}
    (h : fromSeed P strict alg seed method = .err e) : rngOf strict seed method = .err e := by
  unfold fromSeed at h
  cases hr : rngOf strict seed method with
  | ok rng =>
    rw [hr] at h
    exfalso
    cases hg : generate P alg rng with
    | ok sk => simp [Res.bind, hg, Res.mapErr] at h
    | err e' => exact generate_no_err P alg rng e' hg
    | panic p => simp [Res.bind, hg, Res.mapErr] at h
  | err e' => rw [hr] at h; cases h; rfl
  | panic p => rw [hr] at h; cases h

end Askar.Seed
