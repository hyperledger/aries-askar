/-
C14 — keys beyond the plain JWK round trip: the encoder with `key_ops` / `kid` at key level, keypair bytes, key conversion,
members with a non-string value, a concrete type's import of a foreign JWK.
-/
import AskarModel.Model.Jwk
import AskarModel.Lemmas.Jwk
import AskarModel.Lemmas.JwkEnc

namespace Askar.Jwk

/-! ## the encoder with `key_ops` / `kid`, at key level -/

/-- without `key_ops` the bracket does not matter -/
theorem renderJwk_no_ops (b : Bool) (ms : List Member) (kid : Option Bytes) :
    renderJwk b ms none kid = renderJwk true ms none kid := rfl

/-- visiting `key_ops` (a set of the eight operations) and `kid` after members that were collected into `p` -/
theorem visit_extra (cfg : Cfg) (tk : List (Bytes × JVal)) (p : Parts) (hv : visit cfg tk = some p) (o : Nat) (ho : o < 256)
    (kid : Bytes) :
    visit cfg (tk ++ extraToks (some o) (some kid)) = some { p with keyOps := some o, kid := some kid } := by
  unfold visit at hv ⊢
  rw [visitFrom_append]
  cases ha : visitFrom cfg {} tk with
  | none => simp [ha] at hv
  | some a =>
    simp only [ha] at hv
    simp only [Option.bind_some, extraToks, List.cons_append, List.nil_append, visitFrom, visitStep, fieldOf_key_ops,
      fieldOf_kid, opsOf_opsNames o ho, Option.map_some]
    unfold Acc.finish at hv ⊢
    cases hk : a.kty with
    | none => simp [hk] at hv
    | some kty =>
      simp only [hk, Option.some.injEq] at hv ⊢
      rw [← hv]

/-! ## keypair bytes -/

theorem toPublicBytes_no_panic (k : Key) : (toPublicBytes k).isPanic = false := by
  unfold toPublicBytes
  (repeat' split) <;> rfl

theorem compress_length (n : Nat) (xy : Bytes) (h : n ≤ xy.length) : (compress n xy).length = n + 1 := by
  simp [compress, List.length_take]
  omega

/-- the public bytes of an asymmetric key: the compressed point for the Weierstrass curves, the stored key otherwise -/
theorem toPublicBytes_asym {k : Key} (h : k.alg.isSymmetric = false) :
    toPublicBytes k = .ok (if k.alg.isEc then compress k.alg.secretLen k.pub else k.pub) := by
  unfold toPublicBytes
  rw [h]
  cases k.alg.isEc <;> rfl

theorem toPublicBytes_length {k : Key} (ha : k.alg.isSymmetric = false) (hs : k.pub.length = k.alg.pubLen) :
    ∃ pb, toPublicBytes k = .ok pb ∧ pb.length = k.alg.pubBytesLen := by
  refine ⟨_, toPublicBytes_asym ha, ?_⟩
  unfold Alg.pubBytesLen
  cases he : k.alg.isEc
  · exact hs
  · exact compress_length _ _ (by rw [hs, Alg.pubLen_ec he]; omega)

theorem Alg.not_symmetric_of_keypair {alg : Alg} (h : alg.hasKeypairBytes = true) : alg.isSymmetric = false := by
  cases alg <;> first | rfl | cases h

/-- an accepted keypair string is secret ‖ public of the returned key — never a different key — and exports as itself -/
theorem fromKeypairBytes_ok {cfg : Cfg} {P : Prims} {alg : Alg} {b : Bytes} {k : Key}
    (h : fromKeypairBytes cfg P alg b = .ok k) :
    k.alg = alg ∧ b.length = alg.secretLen + alg.pubBytesLen ∧
    fromSecretBytes cfg P alg (b.take alg.secretLen) = .ok k ∧
    toPublicBytes k = .ok (b.drop alg.secretLen) ∧ toKeypairBytes k = .ok b := by
  unfold fromKeypairBytes at h
  cases hkp : alg.hasKeypairBytes
  case false => rw [hkp] at h; cases h
  by_cases hl : b.length = alg.secretLen + alg.pubBytesLen
  case neg => rw [hkp, if_neg (by decide), if_pos hl] at h; cases h
  rw [hkp, if_neg (by decide), if_neg (not_not_intro hl)] at h
  cases hs : fromSecretBytes cfg P alg (b.take alg.secretLen) with
  | ok k' =>
    obtain ⟨ha, hsk, _⟩ := fromSecretBytes_ok hs
    -- the key is of a type with public bytes
    obtain ⟨pb, hp⟩ : ∃ pb, toPublicBytes k' = .ok pb :=
      ⟨_, toPublicBytes_asym (by rw [ha]; exact Alg.not_symmetric_of_keypair hkp)⟩
    rw [hs] at h
    simp only [hp] at h
    by_cases hpb : pb = b.drop alg.secretLen
    · rw [if_pos hpb] at h
      cases h
      refine ⟨ha, hl, rfl, by rw [hp, hpb], ?_⟩
      rw [toKeypairBytes, ha, hkp, if_neg (by decide), hsk]
      simp only [hp, hpb, List.take_append_drop]
    · rw [if_neg hpb] at h; cases h
  | err e => rw [hs] at h; simp only [] at h; split at h <;> cases h
  | panic s => rw [hs] at h; cases h

/-! ## key conversion -/

/-- the invariant that guards `decompress().unwrap()`: a public-only Ed25519 key holds bytes that decompress -/
def Key.EdPubValid (C : ConvPrims) (k : Key) : Prop :=
  k.alg = .ed25519 → k.secret = none → (C.edToMontgomery k.pub).isSome = true

/-- `VerifyingKey::from_bytes` IS `CompressedEdwardsY::decompress` (and keeps the bytes): what it accepts decompresses -/
def ConvPrims.Agrees (P : Prims) (C : ConvPrims) : Prop :=
  ∀ b p, P.decodePub .ed25519 b = some p → (C.edToMontgomery p).isSome = true

theorem fromSecretBytes_edValid {cfg : Cfg} {P : Prims} {C : ConvPrims} {alg : Alg} {b : Bytes} {k : Key}
    (h : fromSecretBytes cfg P alg b = .ok k) : k.EdPubValid C := by
  intro _ hs
  rw [(fromSecretBytes_ok h).2.1] at hs
  cases hs

theorem fromPublicBytes_edValid {P : Prims} {C : ConvPrims} (hl : C.Agrees P) {alg : Alg} {b : Bytes} {k : Key}
    (h : fromPublicBytes P alg b = .ok k) : k.EdPubValid C := by
  intro ha _
  obtain ⟨_, hka⟩ := fromPublicBytes_public_only h
  rw [ha] at hka
  subst hka
  unfold fromPublicBytes at h
  cases hd : decodePublic P .ed25519 b with
  | ok p =>
    rw [hd] at h
    cases h
    unfold decodePublic at hd
    simp only [] at hd
    split at hd
    · cases hd
    · split at hd
      · rename_i p' hp
        cases hd
        exact hl b _ hp
      · cases hd
  | err e => rw [hd] at h; cases h
  | panic s => rw [hd] at h; cases h

/-- an accepted JWK key comes from the secret import (then it has a secret), for a Weierstrass curve without `d` from the checked
    point (then it is not an Ed25519 key), otherwise from the public-bytes import -/
theorem fromJwkParts_edValid {cfg : Cfg} {P : Prims} {C : ConvPrims} (hl : C.Agrees P) {alg : Alg} {j : Parts} {k : Key}
    (h : fromJwkParts cfg P alg j = .ok k) : k.EdPubValid C := by
  obtain ⟨_, _, _, pk, _, hd⟩ := fromJwkParts_ok h
  rcases hd with ⟨_, d, _, hkp, _⟩ | ⟨_, hpub⟩
  · exact fromSecretBytes_edValid hkp
  · split at hpub
    · rename_i hec
      cases hpub
      intro hk
      rw [show alg = .ed25519 from hk] at hec
      cases hec
    · exact fromPublicBytes_edValid hl hpub

theorem fromJwk_edValid {cfg : Cfg} {P : Prims} {C : ConvPrims} (hl : C.Agrees P) {text : Bytes} {k : Key}
    (h : fromJwk cfg P text = .ok k) : k.EdPubValid C := by
  unfold fromJwk at h
  split at h
  · unfold fromJwkAny at h
    split at h
    · exact fromJwkParts_edValid hl h
    · cases h
  · cases h

/-- a conversion yields the algorithm asked for — one of the three targets, never Ed25519 — and neither loses nor invents a secret -/
theorem convertKey_ok {P : Prims} {C : ConvPrims} {k k' : Key} {to : Alg} (h : convertKey P C k to = .ok k') :
    k'.alg = to ∧ k'.secret.isSome = k.secret.isSome ∧ to ≠ .ed25519 := by
  unfold convertKey at h
  by_cases h1 : k.alg = .blsG1G2 ∧ to = .blsG1
  · rw [if_pos h1] at h; cases h; exact ⟨h1.2.symm, rfl, by rw [h1.2]; decide⟩
  by_cases h2 : k.alg = .blsG1G2 ∧ to = .blsG2
  · rw [if_neg h1, if_pos h2] at h; cases h; exact ⟨h2.2.symm, rfl, by rw [h2.2]; decide⟩
  by_cases h3 : k.alg = .ed25519 ∧ to = .x25519
  · rw [if_neg h1, if_neg h2, if_pos h3, toX25519] at h
    have hto : to ≠ .ed25519 := by rw [h3.2]; decide
    cases hs : k.secret with
    | some s => rw [hs] at h; cases h; exact ⟨h3.2.symm, rfl, hto⟩
    | none =>
      rw [hs] at h
      cases hm : C.edToMontgomery k.pub with
      | some u => rw [hm] at h; cases h; exact ⟨h3.2.symm, rfl, hto⟩
      | none => rw [hm] at h; cases h
  · rw [if_neg h1, if_neg h2, if_neg h3] at h; cases h

/-- the key a conversion produces keeps the invariant (vacuously: it is not an Ed25519 key) -/
theorem convertKey_edValid {P : Prims} {C : ConvPrims} {k k' : Key} {to : Alg} (h : convertKey P C k to = .ok k') :
    k'.EdPubValid C :=
  fun ha => absurd ((convertKey_ok h).1.symm.trans ha) (convertKey_ok h).2.2

/-- `Pk::from_secret_scalar` of the pair type is the pair of the two single derivations -/
def Prims.BlsSplit (P : Prims) : Prop :=
  ∀ d p, P.pubOf .blsG1G2 d = some p → P.pubOf .blsG1 d = some (p.take 48) ∧ P.pubOf .blsG2 d = some (p.drop 48)

/-! ## members with a non-string value; the concrete types' own `from_jwk` -/

/-- token level: a string-valued member (`kty kid alg crv x y d k use`) with any other JSON value is refused by the visitor -/
theorem effect_non_string (cfg : Cfg) {key : Bytes} {f : Field} (hf : fieldOf key = some f) (hk : f ≠ .keyOps) (v : JVal)
    (hv : ∀ s, v ≠ .str s) : effect cfg (key, v) = none := by
  unfold effect
  simp only [hf]
  cases v with
  | str s => exact absurd rfl (hv s)
  | _ => cases f <;> first | rfl | exact absurd rfl hk

/-- byte level: `deserialize_str` on input whose first non-blank byte is not `"` -/
theorem deStr_non_quote (c : UInt8) (r : Bytes) (hw : isWs c = false) (hc : c ≠ 34) : deStr (c :: r) = none := by
  simp [deStr, skipWs_cons c _ hw, hc]

/-- one turn of the loop on a string-valued member whose value text does not start with `"`: the deserializer reports an error -/
theorem mapLoop_nonString (cfg : Cfg) (fuel : Nat) (inp : Bytes) (first : Bool) (a : Acc) {name : Bytes} {f : Field}
    (hn : Clean name = true) (hf : fieldOf name = some f) (hk : f ≠ .keyOps) (c : UInt8) (v r : Bytes)
    (hw : isWs c = false) (hc : c ≠ 34)
    (hnext : mapNext inp first = some (some (attrText name (c :: v) ++ r))) :
    mapLoop cfg (fuel + 1) inp first a = none := by
  rw [mapLoop, hnext, attrText_append]
  simp only [deStr_quoted hn, hf]
  cases f <;> first | exact absurd rfl hk | simp [valueStr, colon_cons, List.cons_append, deStr_non_quote c _ hw hc]

/-- the text of a JSON object: clean string members, then a string-valued member name with a value text that does not start with
    `"` (a number, `true`, `null`, `[…`, `{…`), then ANY further attribute texts -/
def objectWithBadValue (ms : List Member) (name : Bytes) (c : UInt8) (v : Bytes) (ts : List Bytes) : Bytes :=
  renderAttrs (ms.map (fun m => attrText (sb m.1) (quoted m.2)) ++ attrText name (c :: v) :: ts)

theorem parse_non_string (cfg : Cfg) (ms : List Member) (hc : MembersClean ms = true) {name : Bytes} {f : Field}
    (hn : Clean name = true) (hf : fieldOf name = some f) (hk : f ≠ .keyOps) (c : UInt8) (v : Bytes)
    (hw : isWs c = false) (hq : c ≠ 34) (ts : List Bytes) :
    parseJwk cfg (objectWithBadValue ms name c v ts) = none := by
  rw [objectWithBadValue, map_memAttr]
  exact parse_attrs_bad cfg _ (Attr.ok_of_clean hc) _ (attrText_quote _ _)
    (fun fuel inp first a r hnext => mapLoop_nonString cfg fuel inp first a hn hf hk c v r hw hq hnext) ts

/-! ### foreign `kty` / `crv` -/

/-- a concrete type's `from_jwk_parts` on a JWK whose `kty` it does not accept or whose `crv` is not its own (or is absent):
    InvalidKeyData — before any key material is looked at -/
theorem fromJwkParts_foreign (cfg : Cfg) (P : Prims) (alg : Alg) (j : Parts) (ha : alg.isSymmetric = false)
    (h : alg.ktyOk j.kty = false ∨ j.crv ≠ some (sb alg.jwkCrv)) : fromJwkParts cfg P alg j = .err .invalidKeyData := by
  rw [fromJwkParts_eq, ha]
  rcases h with h | h
  · simp [h]
  · simp [h]

theorem jwkCrv_injective (a b : Alg) (ha : a.isSymmetric = false) (hb : b.isSymmetric = false) (hne : a ≠ b) :
    sb b.jwkCrv ≠ sb a.jwkCrv := by
  have table : ∀ a ∈ Alg.all, ∀ b ∈ Alg.all, a.isSymmetric = false → b.isSymmetric = false →
      sb b.jwkCrv = sb a.jwkCrv → a = b := by decide +kernel
  exact fun e => hne (table a a.mem_all b b.mem_all ha hb e)

/-- the JWK of a key of one asymmetric algorithm, offered to the type of another: InvalidKeyData (all 56 ordered pairs, secret and
    public form) -/
theorem fromJwkParts_foreign_export (cfg : Cfg) (P : Prims) (alg : Alg) (k : Key) (withD : Bool) (ha : alg.isSymmetric = false)
    (hk : k.alg.isSymmetric = false) (hne : alg ≠ k.alg) :
    fromJwkParts cfg P alg (exportParts k withD) = .err .invalidKeyData := by
  apply fromJwkParts_foreign cfg P alg _ ha
  right
  simp only [exportParts, ne_eq, Option.some.injEq]
  exact jwkCrv_injective alg k.alg ha hk hne

end Askar.Jwk
