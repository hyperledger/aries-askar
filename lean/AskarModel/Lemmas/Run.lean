/-
The shape shared by those `run` functions of the models that return outputs: a machine `step : σ → ι → σ × ο` driven through a
list of inputs, yielding the final state and the outputs in order.  What holds of every such machine is
proved here once; each model's `run` is shown to be an instance next to the lemmas about that model.
Core Lean only.
-/
namespace Askar.Run

variable {σ τ ι ο : Type}

def run (step : σ → ι → σ × ο) : σ → List ι → σ × List ο
  | s, [] => (s, [])
  | s, x :: xs => ((run step (step s x).1 xs).1, (step s x).2 :: (run step (step s x).1 xs).2)

theorem run_append_fst (step : σ → ι → σ × ο) (s : σ) (xs ys : List ι) :
    (run step s (xs ++ ys)).1 = (run step (run step s xs).1 ys).1 := by
  induction xs generalizing s with
  | nil => rfl
  | cons x xs ih => exact ih _

theorem run_inv_on {step : σ → ι → σ × ο} (P : σ → Prop) (ok : ι → Prop)
    (hstep : ∀ s x, P s → ok x → P (step s x).1) {s : σ} (hs : P s) (xs : List ι) (hx : ∀ x ∈ xs, ok x) :
    P (run step s xs).1 := by
  induction xs generalizing s with
  | nil => exact hs
  | cons x xs ih =>
    exact ih (hstep s x hs (hx x List.mem_cons_self)) fun y hy => hx y (List.mem_cons_of_mem _ hy)

theorem run_inv {step : σ → ι → σ × ο} (P : σ → Prop) (hstep : ∀ s x, P s → P (step s x).1) {s : σ} (hs : P s)
    (xs : List ι) : P (run step s xs).1 :=
  run_inv_on P (fun _ => True) (fun s x h _ => hstep s x h) hs xs fun _ _ => trivial

theorem run_sim {stepA : σ → ι → σ × ο} {stepB : τ → ι → τ × ο} (R : σ → τ → Prop) (ok : ι → Prop)
    (hstep : ∀ a b x, R a b → ok x → (stepA a x).2 = (stepB b x).2 ∧ R (stepA a x).1 (stepB b x).1)
    {a : σ} {b : τ} (hab : R a b) (xs : List ι) (hx : ∀ x ∈ xs, ok x) :
    (run stepA a xs).2 = (run stepB b xs).2 ∧ R (run stepA a xs).1 (run stepB b xs).1 := by
  induction xs generalizing a b with
  | nil => exact ⟨rfl, hab⟩
  | cons x xs ih =>
    obtain ⟨ho, hr⟩ := hstep a b x hab (hx x List.mem_cons_self)
    obtain ⟨hos, hrs⟩ := ih hr fun y hy => hx y (List.mem_cons_of_mem _ hy)
    exact ⟨by simp only [run, ho, hos], hrs⟩

end Askar.Run
