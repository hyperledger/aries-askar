/-
Facts about `Base/Bytes.lean` that several models need: the big-endian length prefixes are injective
below their range (what makes every `len ‖ data` framing unambiguous), and `ByteArray.toList` is the
list of the underlying array.
-/
import AskarModel.Base.Bytes

namespace Askar.Bytes

theorem ofNat_inj_of_lt {a b : Nat} (ha : a < 256) (hb : b < 256) (h : UInt8.ofNat a = UInt8.ofNat b) : a = b := by
  have := congrArg UInt8.toNat h
  simp only [UInt8.toNat_ofNat'] at this
  omega

@[simp] theorem be32_length (n : Nat) : (be32 n).length = 4 := rfl

@[simp] theorem be64_length (n : Nat) : (be64 n).length = 8 := rfl

theorem be32_inj {n m : Nat} (hn : n < 2 ^ 32) (hm : m < 2 ^ 32) (h : be32 n = be32 m) : n = m := by
  simp only [be32, List.cons.injEq, and_true] at h
  obtain ⟨h0, h1, h2, h3⟩ := h
  -- each byte is a base-256 digit, so equal bytes are equal digits
  have digit {x y : Nat} : UInt8.ofNat (x % 256) = UInt8.ofNat (y % 256) → x % 256 = y % 256 :=
    ofNat_inj_of_lt (Nat.mod_lt _ (by decide)) (Nat.mod_lt _ (by decide))
  have := digit h0; have := digit h1; have := digit h2; have := digit h3
  omega

theorem be32_append_inj {n m : Nat} {r r' : Bytes} (hn : n < 2 ^ 32) (hm : m < 2 ^ 32)
    (h : be32 n ++ r = be32 m ++ r') : n = m ∧ r = r' :=
  have := List.append_inj h rfl
  ⟨be32_inj hn hm this.1, this.2⟩

theorem be64_inj {n m : Nat} (hn : n < 2 ^ 64) (hm : m < 2 ^ 64) (h : be64 n = be64 m) : n = m := by
  obtain ⟨h1, h2⟩ := List.append_inj h rfl
  have := be32_inj (Nat.mod_lt _ (by decide)) (Nat.mod_lt _ (by decide)) h1
  have := be32_inj (Nat.mod_lt _ (by decide)) (Nat.mod_lt _ (by decide)) h2
  omega

end Askar.Bytes

namespace ByteArray

theorem toList_loop (bs : ByteArray) (i : Nat) (r : List UInt8) :
    ByteArray.toList.loop bs i r = r.reverse ++ bs.data.toList.drop i := by
  fun_induction ByteArray.toList.loop bs i r with
  | case1 i r h ih =>
    have h' : i < bs.data.toList.length := by rw [Array.length_toList]; exact h
    rw [ih, List.drop_eq_getElem_cons h']
    simp [ByteArray.get!]
    exact getElem!_pos bs.data i (by simpa using h')
  | case2 i r h =>
    have h' : bs.data.toList.length ≤ i := by rw [Array.length_toList]; exact Nat.le_of_not_lt h
    simp [List.drop_eq_nil_of_le h']

theorem toList_eq_data (bs : ByteArray) : bs.toList = bs.data.toList := by
  simp [ByteArray.toList, toList_loop]

end ByteArray
