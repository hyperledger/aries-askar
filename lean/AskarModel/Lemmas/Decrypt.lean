/- Lemmas for C03, byte level (`Model/Decrypt.lean`).  Core Lean only. -/
import AskarModel.Model.Decrypt
import AskarModel.Lemmas.Bytes

namespace Askar.Decrypt.Lemmas
open Askar Askar.Decrypt

@[simp] theorem bind_ok {α β} (a : α) (f : α → Res β) : (Res.ok a).bind f = f a := rfl
@[simp] theorem bind_err {α β} (e : EK) (f : α → Res β) : (Res.err e : Res α).bind f = .err e := rfl
@[simp] theorem bind_panic {α β} (f : α → Res β) : (Res.panic : Res α).bind f = .panic := rfl

theorem bind_ne_panic {α β} (x : Res α) (f : α → Res β) (hx : x ≠ .panic) (hf : ∀ a, f a ≠ .panic) :
    x.bind f ≠ .panic := by
  cases x with
  | ok a => exact hf a
  | err e => simp
  | panic => exact absurd rfl hx

theorem ite_err_ne_panic {α} {c : Prop} [Decidable c] {e : EK} {x : Res α} (hx : x ≠ .panic) :
    (if c then .err e else x) ≠ .panic := by
  by_cases h : c
  · rw [if_pos h]; exact nofun
  · rw [if_neg h]; exact hx

theorem bind_eq_ok {α β} (x : Res α) (f : α → Res β) (b : β) (h : x.bind f = .ok b) : ∃ a, x = .ok a ∧ f a = .ok b := by
  cases x with
  | ok a => exact ⟨a, rfl, h⟩
  | err e => simp at h
  | panic => simp at h

theorem sliceTo_ok {b : Bytes} {n : Nat} (h : n ≤ b.length) : sliceTo b n = .ok (b.take n) := if_pos h
theorem sliceFrom_ok {b : Bytes} {n : Nat} (h : n ≤ b.length) : sliceFrom b n = .ok (b.drop n) := if_pos h
theorem drainFront_ok {b : Bytes} {n : Nat} (h : n ≤ b.length) : drainFront b n = .ok (b.drop n) := if_pos h
theorem fromSlice_ok {b : Bytes} {n : Nat} (h : b.length = n) : fromSlice b n = .ok b := if_pos h
theorem sliceRange_ok {b : Bytes} {lo hi : Nat} (h : lo ≤ hi ∧ hi ≤ b.length) :
    sliceRange b lo hi = .ok ((b.take hi).drop lo) := if_pos h

/-! ### ChaCha20-Poly1305 wrapper and `ProfileKey::decrypt` -/

/-- what the wrapper makes of the answer of the AEAD -/
def ofDec : Option Bytes → Res Bytes
  | none => .err .Encryption
  | some m => .ok m

theorem ofDec_ne_panic (o : Option Bytes) : ofDec o ≠ .panic := by cases o <;> simp [ofDec]

theorem ofDec_eq_ok {o : Option Bytes} {m : Bytes} (h : ofDec o = .ok m) : o = some m := by
  cases o with
  | none => simp [ofDec] at h
  | some m' => simp only [ofDec, Res.ok.injEq] at h; rw [h]

/-- the wrapper with its three slices discharged: after the two length checks they are in range -/
theorem c20p_eq (A : Aead) (key buffer nonce : Bytes) :
    c20pDecryptInPlace A key buffer nonce =
      if nonce.length ≠ 12 then .err .Input
      else if buffer.length < 16 then .err .Input
      else ofDec (A.dec key nonce [] buffer) := by
  unfold c20pDecryptInPlace
  by_cases hn : nonce.length ≠ 12
  · simp only [if_pos hn]
  · by_cases hb : buffer.length < 16
    · simp only [if_neg hn, if_pos hb]
    · have h3 : buffer.length - 16 ≤ buffer.length := Nat.sub_le _ _
      have h4 : (buffer.drop (buffer.length - 16)).length = 16 := by
        rw [List.length_drop, Nat.sub_sub_self (Nat.le_of_not_lt hb)]
      rw [if_neg hn, if_neg hn, if_neg hb, if_neg hb]
      show (sliceFrom buffer (buffer.length - 16)).bind _ = _
      rw [sliceFrom_ok h3, bind_ok, fromSlice_ok h4, bind_ok, sliceTo_ok h3, bind_ok]
      rfl

theorem c20p_never_panics (A : Aead) (key buffer nonce : Bytes) : c20pDecryptInPlace A key buffer nonce ≠ .panic := by
  rw [c20p_eq]
  exact ite_err_ne_panic (ite_err_ne_panic (ofDec_ne_panic _))

/-- `ProfileKey::decrypt`, all slicing discharged -/
theorem pkDecrypt_eq (A : Aead) (ct key : Bytes) :
    pkDecrypt A ct key =
      if ct.length < 12 then .err .Encryption
      else if ct.length < 28 then .err .Input
      else ofDec (A.dec key (ct.take 12) [] (ct.drop 12)) := by
  unfold pkDecrypt
  by_cases h1 : ct.length < 12
  · rw [if_pos h1, if_pos h1]
  · rw [if_neg h1, if_neg h1]
    have h2 : 12 ≤ ct.length := Nat.le_of_not_lt h1
    have h3 : (ct.take 12).length = 12 := by rw [List.length_take, Nat.min_eq_left h2]
    rw [sliceTo_ok h2, bind_ok, fromSlice_ok h3, bind_ok, drainFront_ok h2, bind_ok, c20p_eq, if_neg (fun h => h h3),
      List.length_drop]
    exact ite_cond_congr (propext (Nat.sub_lt_iff_lt_add h2))

theorem decrypt_never_panics (A : Aead) (ct key : Bytes) : pkDecrypt A ct key ≠ .panic := by
  rw [pkDecrypt_eq]
  exact ite_err_ne_panic (ite_err_ne_panic (ofDec_ne_panic _))

theorem eq_pkEncrypt_of_dec {A : Aead} (hA : IdealAead A) {ct key m : Bytes}
    (hd : A.dec key (ct.take 12) [] (ct.drop 12) = some m) : ct = pkEncrypt A key (ct.take 12) m := by
  unfold pkEncrypt
  rw [← hA.auth _ _ _ _ _ hd, List.take_append_drop]

theorem decrypt_authentic (A : Aead) (hA : IdealAead A) (ct key m : Bytes) (h : pkDecrypt A ct key = .ok m) :
    ∃ nonce, nonce.length = 12 ∧ ct = pkEncrypt A key nonce m := by
  rw [pkDecrypt_eq] at h
  by_cases h1 : ct.length < 12
  · rw [if_pos h1] at h; cases h
  · by_cases h2 : ct.length < 28
    · rw [if_neg h1, if_pos h2] at h; cases h
    · rw [if_neg h1, if_neg h2] at h
      exact ⟨ct.take 12, by rw [List.length_take, Nat.min_eq_left (Nat.le_of_not_lt h1)], eq_pkEncrypt_of_dec hA (ofDec_eq_ok h)⟩

theorem pkDecrypt_pkEncrypt (A : Aead) (hA : IdealAead A) (k k' nonce m : Bytes) (hn : nonce.length = 12) :
    pkDecrypt A (pkEncrypt A k nonce m) k' = ofDec (A.dec k' nonce [] (A.enc k nonce [] m)) := by
  have hl : (pkEncrypt A k nonce m).length = 28 + m.length := by
    simp only [pkEncrypt, List.length_append, hA.enc_len, hn]; omega
  have h2 : ¬ (pkEncrypt A k nonce m).length < 28 := Nat.not_lt.2 (hl ▸ Nat.le_add_right 28 _)
  have h1 : ¬ (pkEncrypt A k nonce m).length < 12 := fun h => h2 (Nat.lt_trans h (by decide))
  have ht : (pkEncrypt A k nonce m).take 12 = nonce := by
    unfold pkEncrypt; rw [← hn, List.take_left']; rfl
  have hd : (pkEncrypt A k nonce m).drop 12 = A.enc k nonce [] m := by
    unfold pkEncrypt; rw [← hn, List.drop_left']; rfl
  rw [pkDecrypt_eq, if_neg h1, if_neg h2, ht, hd]

theorem decrypt_enc (A : Aead) (hA : IdealAead A) (key nonce m : Bytes) (hn : nonce.length = 12) :
    pkDecrypt A (pkEncrypt A key nonce m) key = .ok m := by
  rw [pkDecrypt_pkEncrypt A hA key key nonce m hn, hA.dec_enc]; rfl

/-- The kind is `Tamper.garbageKind ct.length`, spelt out because `Model/Tamper.lean` comes after this model. -/
theorem decrypt_garbage (A : Aead) (hA : IdealAead A) (ct key : Bytes)
    (hg : ∀ nonce m, nonce.length = 12 → ct ≠ pkEncrypt A key nonce m) :
    pkDecrypt A ct key = .err (if ct.length < 12 then .Encryption else if ct.length < 28 then .Input else .Encryption) := by
  rw [pkDecrypt_eq]
  by_cases h1 : ct.length < 12
  · simp only [h1, if_true]
  · by_cases h2 : ct.length < 28
    · simp only [h1, h2, if_true, if_false]
    · simp only [h1, h2, if_false]
      cases hd : A.dec key (ct.take 12) [] (ct.drop 12) with
      | none => rfl
      | some m =>
        exact absurd (eq_pkEncrypt_of_dec hA hd)
          (hg (ct.take 12) m (by rw [List.length_take, Nat.min_eq_left (Nat.le_of_not_lt h1)]))

theorem decrypt_foreign (A : Aead) (hA : IdealAead A) (S : Bytes → Prop) (hS : KeySeparatedOn A S)
    (k k' nonce m : Bytes) (hk : S k) (hk' : S k') (hne : k ≠ k') (hn : nonce.length = 12) :
    pkDecrypt A (pkEncrypt A k nonce m) k' = .err .Encryption := by
  rw [pkDecrypt_pkEncrypt A hA k k' nonce m hn, hS k k' nonce [] m hk hk' hne]; rfl

/-! ### the value key binds a value to (category, name) -/

theorem be32_length (a : Nat) : (Bytes.be32 a).length = 4 := rfl

/-- the HMAC input of `derive_value_key` determines (category, name) — for lengths below 2^32 (`as u32` wraps beyond) -/
theorem valueKeyInput_injective (c n c' n' : Bytes) (hc : c.length < 2 ^ 32) (hc' : c'.length < 2 ^ 32)
    (h : valueKeyInput c n = valueKeyInput c' n') : c = c' ∧ n = n' := by
  unfold valueKeyInput at h
  simp only [List.append_assoc] at h
  -- the first length prefix gives `c.length`, which splits off `c`; the second prefix has a fixed length
  obtain ⟨hlen, h⟩ := Bytes.be32_append_inj hc hc' h
  obtain ⟨hcc, h⟩ := List.append_inj h hlen
  exact ⟨hcc, (List.append_inj h rfl).2⟩

theorem value_bound_to_identity (A : Aead) (hA : IdealAead A) (H : Bytes → Bytes → Bytes) (pk : ProfileKey) (c n ct v : Bytes)
    (h : decryptEntryValue A H pk c n ct = .ok v) :
    ∃ nonce, nonce.length = 12 ∧ ct = encryptEntryValue A H pk c n nonce v :=
  decrypt_authentic A hA ct _ v h

/-! ### `unwrap_data` / `load_key` -/

theorem unwrap_eq_pkDecrypt (chk : Bool) (A : Aead) (key ct : Bytes) (h : 12 ≤ ct.length) :
    unwrapDataWith chk A (some key) ct = pkDecrypt A ct key := by
  have h1 : ¬ ct.length < 12 := by omega
  unfold unwrapDataWith pkDecrypt
  simp [h1]

theorem unwrap_ne_panic_of_le (chk : Bool) (A : Aead) (key ct : Bytes) (h : 12 ≤ ct.length) :
    unwrapDataWith chk A (some key) ct ≠ .panic := by
  rw [unwrap_eq_pkDecrypt chk A key ct h]; exact decrypt_never_panics A ct key

theorem unwrap_unprotected (chk : Bool) (A : Aead) (ct : Bytes) : unwrapDataWith chk A none ct = .ok ct := rfl

/-- D2: without the length check, fewer than 12 bytes under a store key panic -/
theorem unwrap_unchecked_panics (A : Aead) (key ct : Bytes) (h : ct.length < 12) :
    unwrapDataWith false A (some key) ct = .panic := by
  have h1 : ¬ 12 ≤ ct.length := by omega
  unfold unwrapDataWith
  simp [sliceTo, h1]

theorem unwrap_checked_short (A : Aead) (key ct : Bytes) (h : ct.length < 12) :
    unwrapDataWith true A (some key) ct = .err .Encryption := by
  unfold unwrapDataWith
  simp [h]

theorem unwrap_ne_panic_iff (chk : Bool) (A : Aead) :
    (∀ (storeKey : Option Bytes) (ct : Bytes), unwrapDataWith chk A storeKey ct ≠ .panic) ↔ chk = true := by
  constructor
  · intro h
    cases chk with
    | true => rfl
    | false => exact absurd (unwrap_unchecked_panics A [] [] (by decide)) (h (some []) [])
  · intro h storeKey ct
    subst h
    cases storeKey with
    | none => simp [unwrap_unprotected]
    | some key =>
      by_cases hl : ct.length < 12
      · simp [unwrap_checked_short A key ct hl]
      · exact unwrap_ne_panic_of_le true A key ct (by omega)

theorem decodeUtf8_ne_panic (U : Bytes → Bool) (b : Bytes) : decodeUtf8 U b ≠ .panic := by
  unfold decodeUtf8; split <;> simp

theorem decryptEntryTag_never_panics (A : Aead) (U : Bytes → Bool) (pk : ProfileKey) (t : EncTag) :
    decryptEntryTag A U pk t ≠ .panic := by
  unfold decryptEntryTag
  apply bind_ne_panic
  · exact bind_ne_panic _ _ (decrypt_never_panics A _ _) (decodeUtf8_ne_panic U)
  · intro name
    split
    · exact bind_ne_panic _ _ (decodeUtf8_ne_panic U _) (fun _ => by simp)
    · exact bind_ne_panic _ _ (bind_ne_panic _ _ (decrypt_never_panics A _ _) (decodeUtf8_ne_panic U)) (fun _ => by simp)

/-! ### a list read from an index on

The parsing proofs below never spell out a prefix of the text or its length: the text is always given as
`tags.drop i = known ++ rest`, and these lemmas read indices, the next byte, the rest and lengths off that form. -/

theorem lt_of_getElem? {α} {l : List α} {i : Nat} {b : α} (h : l[i]? = some b) : i < l.length :=
  (List.getElem?_eq_some_iff.1 h).1

theorem of_drop_cons {α} {l : List α} {i : Nat} {c : α} {r : List α} (h : l.drop i = c :: r) :
    l[i]? = some c ∧ l.drop (i + 1) = r := by
  have hi : i < l.length := by
    apply Nat.lt_of_not_le
    intro hle
    rw [List.drop_eq_nil_of_le hle] at h
    cases h
  rw [List.drop_eq_getElem_cons hi] at h
  injection h with h1 h2
  exact ⟨by rw [List.getElem?_eq_getElem hi, h1], h2⟩

theorem drop_of_drop_append {α} {l h b : List α} {i : Nat} (hd : l.drop i = h ++ b) : l.drop (i + h.length) = b := by
  rw [← List.drop_drop, hd, List.drop_left' rfl]

theorem length_le_of_drop {α} {l h b : List α} {i : Nat} (hd : l.drop i = h ++ b) : h.length + b.length ≤ l.length := by
  rw [← List.length_append, ← hd, List.length_drop]
  exact Nat.sub_le _ _

/-! ### `decode_tags` never panics -/

/-- An iteration of the inner loop past the end of the text, and on a byte `b`.  The proofs below use the loops through
    these equations (and `outerLoop_end`, `outerLoop_byte`) only. -/
theorem innerLoop_end {tags : Bytes} {idx : Nat} (h : idx ≥ tags.length) (ns : Nat) (pl : Bool) (f ne : Nat) :
    innerLoop tags tags.length ns pl (f + 1) idx ne = finishTag tags ns pl idx ne := by
  rw [innerLoop, if_pos h]

theorem innerLoop_byte {tags : Bytes} {idx : Nat} {b : UInt8} (hb : tags[idx]? = some b) (ns : Nat) (pl : Bool)
    (f ne : Nat) :
    innerLoop tags tags.length ns pl (f + 1) idx ne =
      if b = 0x2C then finishTag tags ns pl idx ne
      else if b = 0x3A then
        if ne ≠ 0 then .err .Unexpected else innerLoop tags tags.length ns pl f (idx + 1) idx
      else innerLoop tags tags.length ns pl f (idx + 1) ne := by
  have hlt : ¬ idx ≥ tags.length := Nat.not_le.2 (lt_of_getElem? hb)
  rw [innerLoop, if_neg hlt, hb]

theorem outerLoop_end {tags : Bytes} {idx : Nat} (h : idx ≥ tags.length) (f : Nat) (acc : List EncTag) :
    outerLoop tags tags.length (f + 1) idx acc = .ok acc := by
  rw [outerLoop, if_pos h]

theorem outerLoop_byte {tags : Bytes} {idx : Nat} {b : UInt8} (hb : tags[idx]? = some b) (f : Nat) (acc : List EncTag) :
    outerLoop tags tags.length (f + 1) idx acc =
      (innerLoop tags tags.length (idx + 2) (decide (b = 0x31)) (tags.length + 2) (idx + 2) 0).bind fun p =>
        outerLoop tags tags.length f (p.2 + 1) (acc ++ [p.1]) := by
  have hlt : ¬ idx ≥ tags.length := Nat.not_le.2 (lt_of_getElem? hb)
  rw [outerLoop, if_neg hlt, hb]
  dsimp only
  rcases innerLoop tags tags.length (idx + 2) (decide (b = 0x31)) (tags.length + 2) (idx + 2) 0 with ⟨t, i⟩ | e | _ <;> rfl

/-- the inner loop does not panic, and when it returns a tag it stops at or after `idx` -/
def StopsFrom (idx : Nat) : Res (EncTag × Nat) → Prop
  | .ok (_, i) => idx ≤ i
  | .err _ => True
  | .panic => False

theorem StopsFrom.mono {a b : Nat} (h : a ≤ b) {r : Res (EncTag × Nat)} (hr : StopsFrom b r) : StopsFrom a r := by
  cases r with
  | ok p => exact Nat.le_trans h hr
  | err e => trivial
  | panic => exact hr

theorem StopsFrom.bind {idx : Nat} {r : Res (EncTag × Nat)} (hr : StopsFrom idx r) {β} {f : EncTag × Nat → Res β}
    (hf : ∀ t i, idx ≤ i → f (t, i) ≠ .panic) : r.bind f ≠ .panic := by
  cases r with
  | ok p => exact hf p.1 p.2 hr
  | err e => simp
  | panic => exact hr.elim

theorem finishTag_spec (tags : Bytes) (nameStart : Nat) (pl : Bool) (idx nameEnd : Nat)
    (h : nameEnd = 0 ∨ (nameStart ≤ nameEnd ∧ nameEnd < idx ∧ idx ≤ tags.length)) :
    StopsFrom idx (finishTag tags nameStart pl idx nameEnd) := by
  by_cases h0 : nameEnd = 0
  · rw [finishTag, if_pos h0]; trivial
  · -- both slices are in range
    have hb := h.resolve_left h0
    rw [finishTag, if_neg h0, sliceRange_ok ⟨hb.1, Nat.le_trans (Nat.le_of_lt hb.2.1) hb.2.2⟩, bind_ok]
    cases hexDecode (List.drop nameStart (List.take nameEnd tags)) with
    | none => trivial
    | some name =>
      dsimp only
      rw [sliceRange_ok ⟨hb.2.1, hb.2.2⟩, bind_ok]
      cases hexDecode (List.drop (nameEnd + 1) (List.take idx tags)) with
      | none => trivial
      | some value => exact Nat.le_refl idx

/-- The invariant of the inner loop: `name_end` is 0 or the position of a colon between `name_start` and `idx`.  The fuel
    `f + 1` suffices whenever `f` covers the rest of the text. -/
theorem innerLoop_spec (tags : Bytes) (nameStart : Nat) (pl : Bool) :
    ∀ (f idx nameEnd : Nat), tags.length ≤ f + idx → nameStart ≤ idx →
      (nameEnd = 0 ∨ (nameStart ≤ nameEnd ∧ nameEnd < idx ∧ idx ≤ tags.length)) →
      StopsFrom idx (innerLoop tags tags.length nameStart pl (f + 1) idx nameEnd) := by
  intro f
  induction f with
  | zero =>
    intro idx nameEnd hf _ hinv
    rw [innerLoop_end (Nat.zero_add idx ▸ hf)]
    exact finishTag_spec tags nameStart pl idx nameEnd hinv
  | succ f ih =>
    intro idx nameEnd hf hs hinv
    by_cases hge : idx ≥ tags.length
    · rw [innerLoop_end hge]
      exact finishTag_spec tags nameStart pl idx nameEnd hinv
    · have hlt : idx < tags.length := Nat.lt_of_not_le hge
      have hf' : tags.length ≤ f + (idx + 1) := by omega
      rw [innerLoop_byte (List.getElem?_eq_getElem hlt)]
      by_cases hc : tags[idx] = 0x2C
      · rw [if_pos hc]
        exact finishTag_spec tags nameStart pl idx nameEnd hinv
      · rw [if_neg hc]
        by_cases hk : tags[idx] = 0x3A
        · rw [if_pos hk]
          by_cases hn : nameEnd ≠ 0
          · rw [if_pos hn]
            trivial
          · rw [if_neg hn]
            exact (ih (idx + 1) idx hf' (Nat.le_succ_of_le hs) (Or.inr ⟨hs, Nat.lt_succ_self idx, hlt⟩)).mono
              (Nat.le_succ idx)
        · rw [if_neg hk]
          exact (ih (idx + 1) nameEnd hf' (Nat.le_succ_of_le hs)
            (hinv.imp_right fun h => ⟨h.1, Nat.lt_succ_of_lt h.2.1, hlt⟩)).mono (Nat.le_succ idx)

theorem outerLoop_ne_panic (tags : Bytes) :
    ∀ (f idx : Nat) (acc : List EncTag), tags.length ≤ f + idx → outerLoop tags tags.length (f + 1) idx acc ≠ .panic := by
  intro f
  induction f with
  | zero =>
    intro idx acc hf
    rw [outerLoop_end (Nat.zero_add idx ▸ hf)]
    simp
  | succ f ih =>
    intro idx acc hf
    by_cases hge : idx ≥ tags.length
    · rw [outerLoop_end hge]
      simp
    · rw [outerLoop_byte (List.getElem?_eq_getElem (Nat.lt_of_not_le hge))]
      refine (innerLoop_spec tags (idx + 2) _ (tags.length + 1) (idx + 2) 0 (by omega) (Nat.le_refl _) (Or.inl rfl)).bind ?_
      intro t i hi
      exact ih (i + 1) (acc ++ [t]) (by omega)

/-- `decode_tags` never panics, for ANY byte string (and never runs out of the fuel the model gives it) -/
theorem decodeTags_total (tags : Bytes) : decodeTags tags ≠ .panic :=
  outerLoop_ne_panic tags tags.length 0 [] (Nat.le_refl _)

/-! ### `decode_tags` parses exactly what `GROUP_CONCAT` produces -/

theorem nibble_hexUpperDigit : ∀ n, n < 16 → nibble (hexUpperDigit n) = some n := by decide

theorem hexUpperDigit_ne : ∀ n, n < 16 → hexUpperDigit n ≠ 0x2C ∧ hexUpperDigit n ≠ 0x3A := by decide

/-- `hex::decode ∘ HEX = id` -/
theorem hexDecode_hexUpper (b : Bytes) : hexDecode (hexUpper b) = some b := by
  induction b with
  | nil => rfl
  | cons x xs ih =>
    have hx : x.toNat < 256 := x.toNat_lt
    have h1 : x.toNat / 16 < 16 := Nat.div_lt_of_lt_mul hx
    have h2 : x.toNat % 16 < 16 := Nat.mod_lt _ (by decide)
    have h3 : UInt8.ofNat (x.toNat / 16 * 16 + x.toNat % 16) = x := by
      rw [Nat.div_add_mod']; exact UInt8.ofNat_toNat
    simp only [hexUpper, hexDecode, nibble_hexUpperDigit _ h1, nibble_hexUpperDigit _ h2, ih, h3]

theorem hexUpper_no_sep (b : Bytes) : ∀ c ∈ hexUpper b, c ≠ 0x2C ∧ c ≠ 0x3A := by
  induction b with
  | nil => intro c hc; simp [hexUpper] at hc
  | cons x xs ih =>
    intro c hc
    have hx : x.toNat < 256 := x.toNat_lt
    simp only [hexUpper, List.mem_cons] at hc
    rcases hc with hc | hc | hc
    · subst hc; exact hexUpperDigit_ne _ (Nat.div_lt_of_lt_mul hx)
    · subst hc; exact hexUpperDigit_ne _ (Nat.mod_lt _ (by decide))
    · exact ih c hc

theorem sliceRange_of_drop {tags h b : Bytes} {lo : Nat} (hd : tags.drop lo = h ++ b) (hlo : lo ≤ tags.length) :
    sliceRange tags lo (lo + h.length) = .ok h := by
  have hl : tags.length - lo = h.length + b.length := by rw [← List.length_drop, hd, List.length_append]
  rw [sliceRange_ok ⟨Nat.le_add_right _ _, by omega⟩, List.drop_take, hd, Nat.add_sub_cancel_left, List.take_left' rfl]

theorem innerLoop_skip (ns : Nat) (pl : Bool) (h : Bytes) :
    ∀ (b tags : Bytes) (f ne idx : Nat), tags.drop idx = h ++ b → (∀ c ∈ h, c ≠ 0x2C ∧ c ≠ 0x3A) →
      innerLoop tags tags.length ns pl (f + h.length) idx ne = innerLoop tags tags.length ns pl f (idx + h.length) ne := by
  induction h with
  | nil => intros; rfl
  | cons c h ih =>
    intro b tags f ne idx hd hc
    obtain ⟨hget, hd'⟩ := of_drop_cons hd
    have hcc := hc c List.mem_cons_self
    show innerLoop tags tags.length ns pl ((f + h.length) + 1) idx ne = _
    rw [innerLoop_byte hget, if_neg hcc.1, if_neg hcc.2, ih b tags f ne (idx + 1) hd' (fun x hx => hc x (List.mem_cons_of_mem _ hx)),
      Nat.add_right_comm]
    rfl

theorem innerLoop_row (rest name value : Bytes) (pl : Bool) (fuel ns : Nat) (tags : Bytes) (hns : 0 < ns)
    (hd : tags.drop ns = hexUpper name ++ 0x3A :: (hexUpper value ++ rest))
    (hrest : rest = [] ∨ ∃ r, rest = 0x2C :: r) (hfuel : (hexUpper name).length + (hexUpper value).length + 2 ≤ fuel) :
    innerLoop tags tags.length ns pl fuel ns 0
      = .ok (⟨name, value, pl⟩, ns + (hexUpper name).length + 1 + (hexUpper value).length) := by
  obtain ⟨f, rfl⟩ := Nat.le.dest hfuel
  rw [show (hexUpper name).length + (hexUpper value).length + 2 + f
    = f + 1 + (hexUpper value).length + 1 + (hexUpper name).length by omega]
  -- the name digits, the colon, the value digits
  obtain ⟨hget, d2⟩ := of_drop_cons (drop_of_drop_append hd)
  have d3 := drop_of_drop_append d2
  rw [innerLoop_skip ns pl (hexUpper name) _ tags _ 0 ns hd (hexUpper_no_sep name),
    innerLoop_byte hget, if_neg (by decide), if_pos rfl, if_neg (fun h => h rfl),
    innerLoop_skip ns pl (hexUpper value) rest tags _ _ _ d2 (hexUpper_no_sep value)]
  -- the end of the row
  have hlt : ns + (hexUpper name).length < tags.length := lt_of_getElem? hget
  have hfin : finishTag tags ns pl (ns + (hexUpper name).length + 1 + (hexUpper value).length) (ns + (hexUpper name).length)
      = .ok (⟨name, value, pl⟩, ns + (hexUpper name).length + 1 + (hexUpper value).length) := by
    have n0 : ¬ ns + (hexUpper name).length = 0 := Nat.ne_of_gt (Nat.lt_of_lt_of_le hns (Nat.le_add_right _ _))
    have hle : ns ≤ tags.length := Nat.le_of_lt (Nat.lt_of_le_of_lt (Nat.le_add_right _ _) hlt)
    rw [finishTag, if_neg n0, sliceRange_of_drop hd hle, bind_ok, hexDecode_hexUpper]
    simp only
    rw [sliceRange_of_drop d2 hlt, bind_ok, hexDecode_hexUpper]
  rcases hrest with hr | ⟨r, hr⟩
  · rw [hr] at d3
    rw [innerLoop_end (List.drop_eq_nil_iff.mp d3), hfin]
  · rw [hr] at d3
    rw [innerLoop_byte (of_drop_cons d3).1, if_pos rfl, hfin]

theorem tagText_length (t : EncTag) : (tagText t).length = 2 + (hexUpper t.name).length + 1 + (hexUpper t.value).length := by
  simp only [tagText, List.length_cons, List.length_append]; omega

theorem outerLoop_row (rest : Bytes) (t : EncTag) (acc : List EncTag) (fuel i : Nat) (tags : Bytes)
    (hd : tags.drop i = tagText t ++ rest) (hrest : rest = [] ∨ ∃ r, rest = 0x2C :: r) :
    outerLoop tags tags.length (fuel + 1) i acc
      = outerLoop tags tags.length fuel (i + (tagText t).length + 1) (acc ++ [t]) := by
  have hi : i + (tagText t).length = i + 2 + (hexUpper t.name).length + 1 + (hexUpper t.value).length := by
    simp only [tagText_length, Nat.add_assoc]
  obtain ⟨name, value, pl⟩ := t
  -- the flag byte, the colon, then the row the inner loop reads
  have hd0 : tags.drop i = (if pl then 0x31 else 0x30) :: 0x3A :: (hexUpper name ++ 0x3A :: hexUpper value ++ rest) := hd
  obtain ⟨hget, hd1⟩ := of_drop_cons hd0
  have hd2 := (of_drop_cons hd1).2
  rw [List.append_assoc, List.cons_append] at hd2
  have hpl : decide ((if pl then (0x31 : UInt8) else 0x30) = 0x31) = pl := by cases pl <;> decide
  have hl := length_le_of_drop hd2
  rw [List.length_cons, List.length_append] at hl
  rw [outerLoop_byte hget, hpl, innerLoop_row rest name value pl _ (i + 2) tags (Nat.succ_pos _) hd2 hrest (by omega),
    bind_ok, hi]

theorem groupConcat_cons (t : EncTag) (ts : List EncTag) :
    ∃ rest, groupConcat (t :: ts) = tagText t ++ rest ∧ (rest = [] ∨ ∃ r, rest = 0x2C :: r) ∧ rest.drop 1 = groupConcat ts := by
  cases ts with
  | nil => exact ⟨[], (List.append_nil _).symm, Or.inl rfl, rfl⟩
  | cons t' ts => exact ⟨0x2C :: groupConcat (t' :: ts), rfl, Or.inr ⟨_, rfl⟩, rfl⟩

/-- the parsing invariant: from the start of a row, the outer loop appends exactly the remaining tags, in order -/
theorem outerLoop_groupConcat (ts : List EncTag) :
    ∀ (i : Nat) (acc : List EncTag) (f : Nat) (tags : Bytes), tags.drop i = groupConcat ts → tags.length ≤ f + i →
      outerLoop tags tags.length (f + 1) i acc = .ok (acc ++ ts) := by
  induction ts with
  | nil =>
    intro i acc f tags hd _
    rw [outerLoop_end (List.drop_eq_nil_iff.mp hd), List.append_nil]
  | cons t ts ih =>
    intro i acc f tags hd hf
    obtain ⟨rest, hg, hrest, hr⟩ := groupConcat_cons t ts
    rw [hg] at hd
    have hd' : tags.drop (i + (tagText t).length + 1) = groupConcat ts := by
      rw [← List.drop_drop, drop_of_drop_append hd, hr]
    have hlt : i < tags.length := lt_of_getElem? (of_drop_cons hd).1
    obtain ⟨f, rfl⟩ : ∃ f', f = f' + 1 := ⟨f - 1, by omega⟩
    rw [outerLoop_row rest t acc (f + 1) i tags hd hrest, ih _ (acc ++ [t]) f tags hd' (by omega), List.append_assoc]
    rfl

/-- `decode_tags` parses exactly what `GROUP_CONCAT(plaintext || ':' || HEX(name) || ':' || HEX(value))` produces: every tag
    list (any length incl. none, any names / values incl. empty ones, both plaintext flags), order preserved -/
theorem decodeTags_groupConcat (ts : List EncTag) : decodeTags (groupConcat ts) = .ok ts :=
  outerLoop_groupConcat ts 0 [] (groupConcat ts).length (groupConcat ts) rfl (Nat.le_refl _)

/-! ### the toy AEAD satisfies the hypotheses (non-vacuity) -/

theorem toyTag_length (k n a m : Bytes) : (toyTag k n a m).length = 16 := by simp [toyTag]

theorem toy_dec_enc (k n a m : Bytes) : toyAead.dec k n a (toyAead.enc k n a m) = some m := by
  simp only [toyAead]
  have hl : (m ++ toyTag k n a m).length = m.length + 16 := by simp [toyTag_length]
  have h1 : ¬ (m ++ toyTag k n a m).length < 16 := by rw [hl]; exact Nat.not_lt.2 (Nat.le_add_left _ _)
  have h2 : (m ++ toyTag k n a m).length - 16 = m.length := by rw [hl, Nat.add_sub_cancel]
  simp only [h1, if_false, h2, List.take_left', List.drop_left', if_true]

theorem toy_auth (k n a ct m : Bytes) (h : toyAead.dec k n a ct = some m) : ct = toyAead.enc k n a m := by
  simp only [toyAead] at h ⊢
  by_cases h1 : ct.length < 16
  · simp [h1] at h
  · simp only [h1, if_false] at h
    split at h
    · rename_i hd
      injection h with h
      subst h
      rw [← hd, List.take_append_drop]
    · simp at h

theorem toy_ideal : IdealAead toyAead :=
  ⟨fun k n a m => by simp [toyAead, toyTag_length], toy_dec_enc, toy_auth⟩

/-- one-byte keys are separated by the toy AEAD (the tag starts with the key byte) -/
theorem toy_separated : KeySeparatedOn toyAead (fun k => k.length = 1) := by
  intro k k' n a m hk hk' hne
  cases hd : toyAead.dec k' n a (toyAead.enc k n a m) with
  | none => rfl
  | some m' =>
    have h : m ++ toyTag k n a m = m' ++ toyTag k' n a m' := toy_auth k' n a _ m' hd
    have hlen : m.length = m'.length := by
      have := congrArg List.length h
      rw [List.length_append, List.length_append, toyTag_length, toyTag_length] at this
      exact Nat.add_right_cancel this
    have h2 : k.headD 0 = k'.headD 0 := (List.cons.inj (List.append_inj h hlen).2).1
    obtain ⟨x, rfl⟩ := List.length_eq_one_iff.mp hk
    obtain ⟨y, rfl⟩ := List.length_eq_one_iff.mp hk'
    exact absurd (congrArg (fun z => [z]) h2) hne

end Askar.Decrypt.Lemmas
