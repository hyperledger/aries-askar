/-
Lemmas about the executable specification of Ed25519 (`Crypto/Ed25519.lean`, RFC 8032): the little-endian encoding, the closed
form and width of a signature, and the canonical-S rule (the emitted S is below L; S + L still fits in 32 octets).
Core Lean only.
-/
import AskarModel.Crypto.Ed25519

namespace Askar.Crypto.Ed25519

theorem natLE_length : ∀ len n, (natLE len n).length = len
  | 0, _ => rfl
  | len + 1, n => by simp [natLE, natLE_length len]

theorem leNat_natLE (len : Nat) : ∀ n, leNat (natLE len n) = n % 256 ^ len := by
  induction len with
  | zero => intro n; simp [natLE, leNat, Nat.mod_one]
  | succ len ih =>
    intro n
    simp only [natLE, leNat, ih]
    have h : (UInt8.ofNat (n % 256)).toNat = n % 256 := by simp
    rw [h, Nat.pow_succ, Nat.mul_comm (256 ^ len) 256, Nat.mod_mul]

theorem L_lt : L < 256 ^ 32 := by decide
theorem twoL_lt : L + L < 256 ^ 32 := by decide
theorem L_pos : 0 < L := by decide

theorem encode_length (P : Point) : (encode P).length = 32 := by
  unfold encode
  simp [natLE_length]

/-- the two halves of a signature, in closed form -/
def sigR (sk msg : Bytes) : Bytes :=
  encode (Point.mul (leNat (sha512 ((expand sk).2 ++ msg)) % L) B)

def sigSOf (sk msg : Bytes) : Nat :=
  sigS (leNat (sha512 ((expand sk).2 ++ msg)) % L)
       (leNat (sha512 (sigR sk msg ++ publicKey sk ++ msg)) % L) (expand sk).1

theorem sign_eq (sk msg : Bytes) : sign sk msg = sigR sk msg ++ natLE 32 (sigSOf sk msg) := by
  rfl

theorem sigR_length (sk msg : Bytes) : (sigR sk msg).length = 32 := encode_length _

theorem sigSOf_lt (sk msg : Bytes) : sigSOf sk msg < L := by
  unfold sigSOf sigS
  exact Nat.mod_lt _ L_pos

theorem sign_length (sk msg : Bytes) : (sign sk msg).length = 64 := by
  rw [sign_eq]; simp [sigR_length, natLE_length]

theorem sign_drop (sk msg : Bytes) : (sign sk msg).drop 32 = natLE 32 (sigSOf sk msg) := by
  rw [sign_eq]
  have := sigR_length sk msg
  simp [this]

theorem sign_take (sk msg : Bytes) : (sign sk msg).take 32 = sigR sk msg := by
  rw [sign_eq]
  have := sigR_length sk msg
  simp [this]

theorem sign_S (sk msg : Bytes) : leNat ((sign sk msg).drop 32) = sigSOf sk msg := by
  rw [sign_drop, leNat_natLE]
  exact Nat.mod_eq_of_lt (Nat.lt_trans (sigSOf_lt sk msg) L_lt)

/-- the signature with S replaced by S + L -/
def plusL (sig : Bytes) : Bytes := sig.take 32 ++ natLE 32 (leNat (sig.drop 32) + L)

theorem plusL_take (sig : Bytes) (h : 32 ≤ sig.length) : (plusL sig).take 32 = sig.take 32 := by
  unfold plusL
  have hl : (sig.take 32).length = 32 := by rw [List.length_take]; omega
  rw [List.take_append_of_le_length (by omega), List.take_of_length_le (by omega)]

theorem plusL_S (sk msg : Bytes) : leNat ((plusL (sign sk msg)).drop 32) = sigSOf sk msg + L := by
  unfold plusL
  rw [sign_take, sign_S]
  have := sigR_length sk msg
  simp only [List.drop_append, this, Nat.sub_self, List.drop_zero]
  rw [List.drop_of_length_le (by omega), List.nil_append, leNat_natLE]
  apply Nat.mod_eq_of_lt
  have := sigSOf_lt sk msg
  have := twoL_lt
  omega

end Askar.Crypto.Ed25519
